import Model.Color
import Model.Escape
import Proofs.Escape
/-!
The RTF code printed for a row (6th column of `color_table.py`) is, byte for byte, `\redR\greenG\blueB;` with the
row's own RGB columns (3rd–5th) in canonical decimal — decided by the kernel on the generated table, one sweep over
its 657 codes.  What a reader sees of such an entry is therefore the row's RGB (`seenRgb_eq`), by parsing the
expected bytes once and for all.
-/
namespace Proofs.ColorTable
open Generated Model.Color Proofs.Escape

def digs (n : Nat) : List Nat := (Model.Escape.natDigits n).map (· + 48)

/-- the bytes of `\redR\greenG\blueB;` -/
def expected (row : ColorRow) : List Nat :=
  [92, 114, 101, 100] ++ digs row.r ++ [92, 103, 114, 101, 101, 110] ++ digs row.g ++ [92, 98, 108, 117, 101] ++
    digs row.b ++ [59]

-- the recursion depth follows the 657 rows of the table
set_option maxRecDepth 100000 in
theorem codes_bytes : colorTable.all (fun row =>
    (row.code.toUTF8.data.toList.map (·.toNat) == expected row && (expected row).all (· < 128))) = true := by
  decide +kernel

theorem takeDigits_digits (rest : List Nat) (hrest : ∀ e es, rest = e :: es → ¬ (48 ≤ e ∧ e ≤ 57)) :
    ∀ (ds : List Nat) (acc : Nat), (∀ d ∈ ds, d < 10) →
      takeDigits acc (ds.map (· + 48) ++ rest) = (digitsVal acc ds, rest)
  | [], acc, _ => by
    cases rest with
    | nil => rfl
    | cons e es => simp only [List.map_nil, List.nil_append, takeDigits, hrest e es rfl, if_false]; rfl
  | d :: ds, acc, h => by
    have hd : d < 10 := h d List.mem_cons_self
    have hc : 48 ≤ d + 48 ∧ d + 48 ≤ 57 := by omega
    simp only [List.map_cons, List.cons_append, takeDigits, hc, and_self, if_true, Nat.add_sub_cancel]
    exact takeDigits_digits rest hrest ds _ fun x hx => h x (List.mem_cons_of_mem _ hx)

theorem takeNat_digs (n : Nat) (rest : List Nat) (hrest : ∀ e es, rest = e :: es → ¬ (48 ≤ e ∧ e ≤ 57)) :
    takeNat (digs n ++ rest) = some (n, rest) := by
  have hv := digitsVal_natDigits n
  have hlt := natDigits_lt n
  unfold digs
  cases hds : Model.Escape.natDigits n with
  | nil => exact absurd hds (natDigits_ne_nil n)
  | cons d ds =>
    rw [hds] at hv hlt
    have hd : d < 10 := hlt d List.mem_cons_self
    have hc : 48 ≤ d + 48 ∧ d + 48 ≤ 57 := by omega
    simp only [List.map_cons, List.cons_append, takeNat, hc, and_self, if_true, Nat.add_sub_cancel]
    rw [takeDigits_digits rest hrest ds d fun x hx => hlt x (List.mem_cons_of_mem _ hx)]
    rw [digitsVal_cons, Nat.zero_mul, Nat.zero_add] at hv
    rw [hv]

/-- a reader of `\redR\greenG\blueB;` sees `(R, G, B)` -/
theorem parseEntry_expected (row : ColorRow) : parseEntry (expected row) = some (rowRgb row) := by
  simp only [expected, List.append_assoc]
  unfold parseEntry
  simp only [List.cons_append, List.nil_append, dropPrefix, beq_self_eq_true, if_true, Option.bind_eq_bind,
    Option.bind_some]
  rw [takeNat_digs row.r _ (by intro e es h; cases h; omega)]
  simp only [Option.bind_some, dropPrefix, beq_self_eq_true, if_true]
  rw [takeNat_digs row.g _ (by intro e es h; cases h; omega)]
  simp only [Option.bind_some, dropPrefix, beq_self_eq_true, if_true]
  rw [takeNat_digs row.b _ (by intro e es h; cases h; omega)]
  rfl

/-- what a reader sees of the entry printed for `row` is the RGB the table records for `row` -/
theorem seenRgb_eq : ∀ row ∈ colorTable, seenRgb row = some (rowRgb row) := by
  intro row hrow
  have h := List.all_eq_true.mp codes_bytes row hrow
  rw [Bool.and_eq_true, beq_iff_eq] at h
  rw [seenRgb, bytesOf, h.1, parseEntry_expected]

end Proofs.ColorTable
