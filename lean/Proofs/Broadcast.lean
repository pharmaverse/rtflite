import Model.Broadcast
/-!
General facts about the functions of `Model/Broadcast.lean` (core Lean only):
`repeatList`, `Mat.iloc`, `Mat.toList`, `Mat.updateCell`, `Mat.pageRows`
on rectangular, non-empty matrices with a positive number of columns (`Good`).
-/
namespace Proofs.Broadcast
open Model.Broadcast

variable {α : Type}

theorem repeatList_length (l : List α) (n : Nat) : (repeatList l n).length = n * l.length := by
  induction n with
  | zero => simp [repeatList]
  | succ n ih => simp [repeatList, ih, Nat.succ_mul, Nat.add_comm]

theorem repeatList_getElem? (l : List α) (n k : Nat) (hk : k < n * l.length) :
    (repeatList l n)[k]? = l[k % l.length]? := by
  induction n generalizing k with
  | zero => simp at hk
  | succ n ih =>
    simp only [repeatList]
    by_cases h : k < l.length
    · rw [List.getElem?_append_left h, Nat.mod_eq_of_lt h]
    · have h' : l.length ≤ k := Nat.le_of_not_gt h
      rw [List.getElem?_append_right h', ih, ← Nat.mod_eq_sub_mod h']
      rw [Nat.succ_mul] at hk; omega

theorem mem_of_mem_repeatList {l : List α} {n : Nat} {z : α} (h : z ∈ repeatList l n) : z ∈ l := by
  induction n with
  | zero => simp [repeatList] at h
  | succ n ih =>
    simp only [repeatList, List.mem_append] at h
    exact h.elim id ih

/-- the repetition count of `to_list` is large enough -/
theorem rep_ge (n k : Nat) (hk : 0 < k) : n ≤ max 1 ((n + k - 1) / k) * k := by
  have h1 := Nat.div_add_mod (n + k - 1) k
  have h2 := Nat.mod_lt (n + k - 1) hk
  have h3 : (n + k - 1) / k ≤ max 1 ((n + k - 1) / k) := Nat.le_max_right ..
  have h4 := Nat.mul_le_mul_right k h3
  rw [Nat.mul_comm] at h1
  omega

/-! ## well-formed matrices -/

/-- `m[r][c]` without wrap-around -/
def cell (m : Mat α) (r c : Nat) : Option α := (m[r]?).bind (·[c]?)

/-- non-empty, rectangular, at least one column -/
structure Good (m : Mat α) : Prop where
  ne : m ≠ []
  rect : m.Rect
  cols : 0 < m.ncols

/-- exactly `rows` rows of `cols` entries -/
structure Shape (m : Mat α) (rows cols : Nat) : Prop where
  len : m.length = rows
  row : ∀ x ∈ m, x.length = cols

theorem Shape.ncols {m : Mat α} {rows cols : Nat} (h : Shape m rows cols) (hr : 0 < rows) :
    m.ncols = cols := by
  cases m with
  | nil => have := h.len; simp at this; omega
  | cons x xs => simp [Mat.ncols]; exact h.row x (by simp)

theorem Shape.good {m : Mat α} {rows cols : Nat} (h : Shape m rows cols) (hr : 0 < rows)
    (hc : 0 < cols) : Good m := by
  have hn := h.ncols hr
  refine ⟨?_, ?_, ?_⟩
  · intro e; have := h.len; rw [e] at this; simp at this; omega
  · intro x hx; rw [hn]; exact h.row x hx
  · omega

theorem Good.shape {m : Mat α} (h : Good m) : Shape m m.length m.ncols := ⟨rfl, h.rect⟩

theorem Good.length_pos {m : Mat α} (h : Good m) : 0 < m.length :=
  List.length_pos_iff.mpr h.ne

theorem iloc_eq_cell {m : Mat α} (h : Good m) (r c : Nat) :
    m.iloc r c = cell m (r % m.length) (c % m.ncols) := by
  have hl := h.length_pos
  have hc := h.cols
  unfold Mat.iloc cell
  rw [if_neg (by omega)]
  cases hm : m[r % m.length]? with
  | none => simp
  | some row => simp; intro h0; omega

theorem Shape.iloc {m : Mat α} {rows cols : Nat} (h : Shape m rows cols) {r c : Nat}
    (hr : r < rows) (hc : c < cols) : m.iloc r c = cell m r c := by
  have hg := h.good (by omega) (by omega)
  rw [iloc_eq_cell hg, h.len, h.ncols (by omega), Nat.mod_eq_of_lt hr, Nat.mod_eq_of_lt hc]

theorem Good.iloc_isSome {m : Mat α} (h : Good m) (r c : Nat) : (m.iloc r c).isSome := by
  rw [iloc_eq_cell h]
  have hl := h.length_pos
  have hr : r % m.length < m.length := Nat.mod_lt _ hl
  unfold cell
  rw [List.getElem?_eq_getElem hr]
  simp only [Option.bind_some]
  have hlen := h.rect _ (List.getElem_mem hr)
  have hc : c % m.ncols < (m[r % m.length]).length := by rw [hlen]; exact Nat.mod_lt _ h.cols
  rw [List.getElem?_eq_getElem hc]; rfl

theorem toList_length {m : Mat α} (hne : m ≠ []) (rows cols : Nat) :
    (m.toList rows cols).length = rows := by
  unfold Mat.toList
  simp only [List.length_map, List.length_take, repeatList_length]
  have := rep_ge rows m.length (List.length_pos_iff.mpr hne)
  omega

theorem toList_getElem? {m : Mat α} (hne : m ≠ []) (rows cols r : Nat) (hr : r < rows) :
    (m.toList rows cols)[r]? =
      (m[r % m.length]?).map fun row =>
        (repeatList row (max 1 ((cols + m.ncols - 1) / m.ncols))).take cols := by
  unfold Mat.toList
  simp only [List.getElem?_map, List.getElem?_take, if_pos hr]
  rw [repeatList_getElem?]
  · simp only [List.getElem?_map, List.length_map, Option.map_map]; rfl
  · have := rep_ge rows m.length (List.length_pos_iff.mpr hne)
    simp only [List.length_map]; omega

theorem toList_shape {m : Mat α} (h : Good m) (rows cols : Nat) :
    Shape (m.toList rows cols) rows cols := by
  refine ⟨toList_length h.ne rows cols, ?_⟩
  intro x hx
  unfold Mat.toList at hx
  simp only [List.mem_map] at hx
  obtain ⟨y, hy, rfl⟩ := hx
  obtain ⟨w, hw, rfl⟩ := List.mem_map.mp (mem_of_mem_repeatList (List.mem_of_mem_take hy))
  have := rep_ge cols m.ncols h.cols
  simp only [List.length_take, repeatList_length, h.rect w hw]
  omega

theorem toList_cell {m : Mat α} (h : Good m) {rows cols r c : Nat} (hr : r < rows) (hc : c < cols) :
    cell (m.toList rows cols) r c = cell m (r % m.length) (c % m.ncols) := by
  unfold cell
  rw [toList_getElem? h.ne rows cols r hr]
  cases hm : m[r % m.length]? with
  | none => simp
  | some row =>
    have hmem : row ∈ m := List.mem_of_getElem? hm
    have hlen := h.rect row hmem
    simp only [Option.map_some, Option.bind_some, List.getElem?_take, if_pos hc]
    rw [repeatList_getElem?, hlen]
    have := rep_ge cols m.ncols h.cols
    rw [hlen]; omega

theorem toList_iloc {m : Mat α} (h : Good m) {rows cols r c : Nat} (hr : r < rows) (hc : c < cols) :
    (m.toList rows cols).iloc r c = m.iloc r c := by
  rw [(toList_shape h rows cols).iloc hr hc, toList_cell h hr hc, iloc_eq_cell h]

theorem toList_good {m : Mat α} (h : Good m) {rows cols : Nat} (hr : 0 < rows) (hc : 0 < cols) :
    Good (m.toList rows cols) := (toList_shape h rows cols).good hr hc

/-- `toList` of a matrix that already has the requested shape is the identity (cell-wise) -/
theorem toList_cell_of_shape {m : Mat α} {rows cols r c : Nat} (h : Shape m rows cols)
    (hr : r < rows) (hc : c < cols) : cell (m.toList rows cols) r c = cell m r c := by
  have hg := h.good (by omega) (by omega)
  rw [toList_cell hg hr hc, h.len, h.ncols (by omega), Nat.mod_eq_of_lt hr, Nat.mod_eq_of_lt hc]

theorem updateCell_shape {m : Mat α} (h : Good m) (rows cols r c : Nat) (v : α) :
    Shape (m.updateCell rows cols r c v) rows cols := by
  have hs := toList_shape h rows cols
  unfold Mat.updateCell
  simp only
  cases he : (m.toList rows cols)[r]? with
  | none => exact hs
  | some row =>
    have hrow := hs.row row (List.mem_of_getElem? he)
    constructor
    · simp [hs.len]
    · intro x hx
      rcases List.mem_or_eq_of_mem_set hx with hx | rfl
      · exact hs.row x hx
      · simp [hrow]

theorem updateCell_good {m : Mat α} (h : Good m) {rows cols : Nat} (hr : 0 < rows) (hc : 0 < cols)
    (r c : Nat) (v : α) : Good (m.updateCell rows cols r c v) :=
  (updateCell_shape h rows cols r c v).good hr hc

theorem updateCell_iloc {m : Mat α} (h : Good m) {rows cols r c r' c' : Nat} (v : α)
    (hr : r < rows) (hc : c < cols) (hr' : r' < rows) (hc' : c' < cols) :
    (m.updateCell rows cols r c v).iloc r' c' =
      if r' = r ∧ c' = c then some v else m.iloc r' c' := by
  rw [(updateCell_shape h rows cols r c v).iloc hr' hc', ← toList_iloc h hr' hc',
    (toList_shape h rows cols).iloc hr' hc']
  have hs := toList_shape h rows cols
  unfold Mat.updateCell
  simp only
  have hlt : r < (m.toList rows cols).length := by rw [hs.len]; exact hr
  rw [List.getElem?_eq_getElem hlt]
  simp only
  have hrow := hs.row _ (List.getElem_mem hlt)
  unfold cell
  by_cases e : r' = r
  · subst e
    rw [List.getElem?_set_self hlt]
    simp only [Option.bind_some, true_and]
    by_cases e2 : c' = c
    · subst e2
      rw [if_pos rfl, List.getElem?_set_self (by omega)]
    · rw [if_neg e2, List.getElem?_set_ne (by omega), List.getElem?_eq_getElem hlt]; rfl
  · rw [List.getElem?_set_ne (by omega), if_neg (by simp [e])]

theorem pageRows_eq_map {m : Mat α} (h : 1 < m.length) (start height : Nat) :
    m.pageRows start height =
      (List.range height).map fun i => (m[(start + i) % m.length]?).getD [] := by
  unfold Mat.pageRows
  rw [if_pos h]
  generalize List.range height = l
  induction l with
  | nil => rfl
  | cons i l ih =>
    have hlt : (start + i) % m.length < m.length := Nat.mod_lt _ (by omega)
    simp [List.getElem?_eq_getElem hlt, ih]

theorem pageRows_shape {m : Mat α} (h : Good m) (hl : 1 < m.length) (start height : Nat) :
    Shape (m.pageRows start height) height m.ncols := by
  rw [pageRows_eq_map hl]
  constructor
  · simp
  · intro x hx
    simp only [List.mem_map, List.mem_range] at hx
    obtain ⟨i, _, rfl⟩ := hx
    have hlt : (start + i) % m.length < m.length := Nat.mod_lt _ (by omega)
    rw [List.getElem?_eq_getElem hlt]
    exact h.rect _ (List.getElem_mem hlt)

theorem pageRows_good {m : Mat α} (h : Good m) (start : Nat) {height : Nat} (hh : 0 < height) :
    Good (m.pageRows start height) := by
  by_cases hl : 1 < m.length
  · exact (pageRows_shape h hl start height).good hh h.cols
  · unfold Mat.pageRows; rw [if_neg hl]; exact h

theorem pageRows_iloc {m : Mat α} (h : Good m) (start : Nat) {height i : Nat} (hi : i < height)
    (c : Nat) : (m.pageRows start height).iloc i c = m.iloc (start + i) c := by
  by_cases hl : 1 < m.length
  · have hs := pageRows_shape h hl start height
    have hg := hs.good (by omega) h.cols
    rw [iloc_eq_cell hg, iloc_eq_cell h, hs.len, hs.ncols (by omega), Nat.mod_eq_of_lt hi]
    unfold cell
    congr 1
    rw [pageRows_eq_map hl]
    have hlt : (start + i) % m.length < m.length := Nat.mod_lt _ (by omega)
    simp [hi, List.getElem?_eq_getElem hlt]
  · have h1 : m.length = 1 := by have := h.length_pos; omega
    unfold Mat.pageRows
    rw [if_neg hl, iloc_eq_cell h, iloc_eq_cell h, h1, Nat.mod_one, Nat.mod_one]

end Proofs.Broadcast
