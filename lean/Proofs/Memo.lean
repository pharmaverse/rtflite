import Model.Memo
import Model.WorldMemo
import Proofs.World
/-! A keyed store in front of a stateless function stays sound (every stored value is what its request computes) when
the key determines the value — `Faithful`, and `FaithfulOn P` for the requests a history actually makes, which
`Proofs/WorldFiles.lean` needs.  Second namespace `Proofs.WorldMemo`: the same for the world with such a store
(`Model/WorldMemo.lean`), for `Props/C14memo.lean`. -/
namespace Proofs.Memo
open Model.Memo

variable {ρ κ ν : Type} [DecidableEq κ]

/-- `Faithful` among the requests that satisfy `P` -/
def FaithfulOn (P : ρ → Prop) (S : Spec ρ κ ν) : Prop :=
  ∀ r r', P r → P r' → S.key r = S.key r' → S.compute r = S.compute r'

/-- `Sound` among the requests that satisfy `P` -/
def SoundOn (P : ρ → Prop) (S : Spec ρ κ ν) (st : Store κ ν) : Prop :=
  ∀ r, P r → ∀ v, find (S.key r) st = some v → v = S.compute r

omit [DecidableEq κ] in
theorem faithfulOn_of_faithful {S : Spec ρ κ ν} (hF : Faithful S) : FaithfulOn (fun _ => True) S :=
  fun r r' _ _ => hF r r'

theorem sound_iff (S : Spec ρ κ ν) (st : Store κ ν) : Sound S st ↔ SoundOn (fun _ => True) S st :=
  ⟨fun h r _ v => h r v, fun h r v => h r trivial v⟩

theorem soundOn_nil (P : ρ → Prop) (S : Spec ρ κ ν) : SoundOn P S [] := by
  intro r _ v h
  simp [find] at h

/-- a request among those on which the key is faithful is answered with what it computes, and leaves the store
sound for them -/
theorem ask_soundOn {P : ρ → Prop} (S : Spec ρ κ ν) (hF : FaithfulOn P S) (st : Store κ ν) (hs : SoundOn P S st)
    (r : ρ) (hr : P r) : SoundOn P S (ask S st r).1 ∧ (ask S st r).2 = S.compute r := by
  unfold ask
  split
  · rename_i v h
    exact ⟨hs, hs r hr v h⟩
  · refine ⟨?_, rfl⟩
    intro r' hr' v' h'
    simp only [find] at h'
    by_cases hk : S.key r = S.key r'
    · rw [if_pos hk] at h'
      cases h'
      exact hF r r' hr hr' hk
    · rw [if_neg hk] at h'
      exact hs r' hr' v' h'

theorem askAll_soundOn {P : ρ → Prop} (S : Spec ρ κ ν) (hF : FaithfulOn P S) :
    ∀ (rs : List ρ) (st : Store κ ν), SoundOn P S st → (∀ r ∈ rs, P r) →
      SoundOn P S (askAll S st rs).1 ∧ (askAll S st rs).2 = rs.map S.compute := by
  intro rs
  induction rs with
  | nil => exact fun _ hs _ => ⟨hs, rfl⟩
  | cons r rs ih =>
    intro st hs hP
    have ha := ask_soundOn S hF st hs r (hP r (List.mem_cons_self ..))
    have hb := ih (ask S st r).1 ha.1 (fun x hx => hP x (List.mem_cons_of_mem _ hx))
    simp only [askAll, List.map_cons]
    exact ⟨hb.1, by rw [ha.2, hb.2]⟩

theorem sound_nil (S : Spec ρ κ ν) : Sound S [] :=
  (sound_iff S []).mpr (soundOn_nil _ S)

theorem ask_sound (S : Spec ρ κ ν) (hF : Faithful S) (st : Store κ ν) (hs : Sound S st) (r : ρ) :
    Sound S (ask S st r).1 ∧ (ask S st r).2 = S.compute r :=
  have h := ask_soundOn S (faithfulOn_of_faithful hF) st ((sound_iff S st).mp hs) r trivial
  ⟨(sound_iff S _).mpr h.1, h.2⟩

theorem askAll_sound (S : Spec ρ κ ν) (hF : Faithful S) (rs : List ρ) (st : Store κ ν) (hs : Sound S st) :
    Sound S (askAll S st rs).1 ∧ (askAll S st rs).2 = rs.map S.compute :=
  have h := askAll_soundOn S (faithfulOn_of_faithful hF) rs st ((sound_iff S st).mp hs) (fun _ _ => trivial)
  ⟨(sound_iff S _).mpr h.1, h.2⟩

end Proofs.Memo

namespace Proofs.WorldMemo
open Model.Memo Model.World Proofs.Memo

variable {ρ κ ν : Type} [DecidableEq κ]

theorem storeAfter_sound (S : Spec ρ κ ν) (hF : Faithful S) (q : Reqs ρ) (w : World) (st : Store κ ν)
    (hs : Sound S st) (o : Op) : Sound S (storeAfter S q w st o) := by
  fun_cases storeAfter S q w st o
  case case1 => exact (askAll_sound S hF _ _ hs).1
  case case3 => exact (askAll_sound S hF _ _ (askAll_sound S hF _ _ hs).1).1
  all_goals exact hs

theorem runM_sound (S : Spec ρ κ ν) (hF : Faithful S) (q : Reqs ρ) (T : Table) (ops : List (MOp ρ)) :
    ∀ mw : MWorld κ ν, Sound S mw.store → Sound S (runM S q T mw ops).store := by
  induction ops with
  | nil => exact fun _ h => h
  | cons o os ih =>
    intro mw h
    simp only [runM]
    apply ih
    cases o with
    | op o => exact storeAfter_sound S hF q mw.base mw.store h o
    | ask r => exact (ask_sound S hF mw.store h r).1

theorem runM_base (S : Spec ρ κ ν) (q : Reqs ρ) (T : Table) (ops : List (MOp ρ)) :
    ∀ mw : MWorld κ ν, (runM S q T mw ops).base = (run T mw.base (baseOps ops)).1 := by
  induction ops with
  | nil =>
    intro mw
    rfl
  | cons o os ih =>
    intro mw
    cases o with
    | op o =>
      simp only [runM, baseOps, run]
      rw [ih]
      rfl
    | ask r =>
      simp only [runM, baseOps]
      rw [ih]
      rfl

theorem runM_fixed (S : Spec ρ κ ν) (q : Reqs ρ) (T : Table) (ops : List (MOp ρ)) (mw : MWorld κ ν) :
    (runM S q T mw ops).base.seed = mw.base.seed ∧ (runM S q T mw ops).base.heap = mw.base.heap ∧
      (runM S q T mw ops).base.frames = mw.base.frames := by
  rw [runM_base]
  exact Proofs.World.run_fixed T mw.base _

/-- the target's result depends on the process through the seed, the caller's objects and frames, and the answers
the store gives -/
theorem encodeCtorM_congr (S : Spec ρ κ ν) (q : Reqs ρ) (T : Table) {mw mw' : MWorld κ ν} (c : Ctor)
    (hb : mw.base.seed = mw'.base.seed ∧ mw.base.heap = mw'.base.heap ∧ mw.base.frames = mw'.base.frames)
    (hst : ∀ rs, (askAll S mw.store rs).2 = (askAll S mw'.store rs).2) :
    encodeCtorM S q T mw c = encodeCtorM S q T mw' c := by
  obtain ⟨hs, hh, hf⟩ := hb
  unfold encodeCtorM
  rw [hh, hf]
  cases construct mw'.base.heap mw'.base.frames c with
  | ok d =>
    simp only
    rw [hst, Proofs.World.encodeDoc_outcome T d hs hh hf]
  | error e => rfl

end Proofs.WorldMemo
