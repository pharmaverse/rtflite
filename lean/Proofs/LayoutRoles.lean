import Model.Layout
import Proofs.Paginate
/-!
`renderPage` is a concatenation of nine segments, every segment consists of blocks of one rank only, so a page is sorted
by rank and the blocks of rank `m` of a page are `segOf d pg m`.
Also: the page list does not read the three placement fields, and on a page with `number = total = 1` neither does
`renderPage`; membership in `mkPagesAux` and `uniquePages`.
-/
namespace Proofs.LayoutRoles
open Model.Paginate Model.Layout Proofs.Paginate

/-- position of a block kind in the page (same table as `Props.C06.rank`) -/
def rk : Block → Nat
  | .brk => 0
  | .title => 1
  | .subline => 2
  | .sublineHeading _ => 3
  | .colHeader _ => 4
  | .heading _ _ => 5
  | .data _ => 5
  | .footnote _ => 6
  | .source _ => 7

/-! ## the nine segments of `renderPage` -/

def segBrk (pg : PageCtx) : List Block := if pg.number == 1 then [] else [Block.brk]

def segTitle (d : LDoc) (pg : PageCtx) : List Block :=
  if d.hasTitle && d.pageTitle.shows (pg.number == 1) (pg.number == pg.total) then [Block.title] else []

def segSubline (d : LDoc) (pg : PageCtx) : List Block :=
  if d.hasSublineTxt && d.pageTitle.shows (pg.number == 1) (pg.number == pg.total)
  then [Block.subline] else []

/-- the parts of the subline heading of a row -/
def sublineParts (k : List (Option String)) : List String :=
  (groupValues k).filterMap fun gv => match gv with
    | some (some s) => some s
    | some none => none
    | none => none

def segSubHeading (d : LDoc) (pg : PageCtx) : List Block :=
  if d.hasSubline then
    match d.rows[pg.start]? with
    | some r =>
      if (sublineParts r.skey).isEmpty then []
      else [Block.sublineHeading (", ".intercalate (sublineParts r.skey))]
    | none => []
  else []

def segColHeaders (d : LDoc) (pg : PageCtx) : List Block :=
  if d.pagebyHeader || pg.number == 1 then
    (d.headers.zipIdx.filterMap fun (hasText, k) =>
      if hasText || d.asColheader then some (Block.colHeader k) else none)
  else []

def segTop (d : LDoc) (pg : PageCtx) : List Block :=
  if d.spanning then
    match d.rows[pg.start]? with
    | some r => topHeadings r.pkey
    | none => []
  else []

def segBody (d : LDoc) (pg : PageCtx) : List Block :=
  if d.spanning then
    match d.rows[pg.start]? with
    | some r => bodyBlocks (((d.rows.drop pg.start).take pg.height).map (·.pkey)) none
        (groupValues r.pkey) pg.dataStart
    | none => dataBlocks pg.dataStart pg.height
  else dataBlocks pg.dataStart pg.height

def segFootnote (d : LDoc) (pg : PageCtx) : List Block :=
  if d.footnote != .absent && d.pageFootnote.shows (pg.number == 1) (pg.number == pg.total)
  then [Block.footnote (d.footnote == .table)] else []

def segSource (d : LDoc) (pg : PageCtx) : List Block :=
  if d.source != .absent && d.pageSource.shows (pg.number == 1) (pg.number == pg.total)
  then [Block.source (d.source == .table)] else []

theorem renderPage_eq (d : LDoc) (pg : PageCtx) :
    renderPage d pg =
      segBrk pg ++ segTitle d pg ++ segSubline d pg ++ segSubHeading d pg ++ segColHeaders d pg ++
      segTop d pg ++ segBody d pg ++ segFootnote d pg ++ segSource d pg := rfl

/-! ## ranks of the blocks of each segment -/

theorem segBrk_rk (pg : PageCtx) : ∀ b ∈ segBrk pg, rk b = 0 := by
  unfold segBrk
  split <;> simp [rk]

theorem segTitle_rk (d : LDoc) (pg : PageCtx) : ∀ b ∈ segTitle d pg, rk b = 1 := by
  unfold segTitle
  split <;> simp [rk]

theorem segSubline_rk (d : LDoc) (pg : PageCtx) : ∀ b ∈ segSubline d pg, rk b = 2 := by
  unfold segSubline
  split <;> simp [rk]

theorem segSubHeading_rk (d : LDoc) (pg : PageCtx) : ∀ b ∈ segSubHeading d pg, rk b = 3 := by
  unfold segSubHeading
  split
  · split
    · split <;> simp [rk]
    · simp
  · simp

theorem segColHeaders_rk (d : LDoc) (pg : PageCtx) : ∀ b ∈ segColHeaders d pg, rk b = 4 := by
  intro b hb
  unfold segColHeaders at hb
  split at hb
  · rw [List.mem_filterMap] at hb
    obtain ⟨⟨t, k⟩, _, h⟩ := hb
    dsimp only at h
    split at h
    · simp at h; subst h; rfl
    · simp at h
  · simp at hb

/-- a list of group headings only -/
def OnlyHeadings (bs : List Block) : Prop := ∀ b ∈ bs, ∃ l s, b = Block.heading l s

theorem OnlyHeadings.rk {bs : List Block} (h : OnlyHeadings bs) : ∀ b ∈ bs, rk b = 5 := by
  intro b hb
  obtain ⟨l, s, rfl⟩ := h b hb
  rfl

theorem onlyHeadings_top (k : List (Option String)) : OnlyHeadings (topHeadings k) := by
  intro b hb
  simp only [topHeadings, List.mem_filterMap] at hb
  obtain ⟨⟨gv, lvl⟩, _, h⟩ := hb
  split at h
  · simp at h; exact ⟨_, _, h.symm⟩
  · simp at h

theorem mem_ite {α} {c : Prop} [Decidable c] {a : α} {l₁ l₂ : List α}
    (h : a ∈ (if c then l₁ else l₂)) : a ∈ l₁ ∨ a ∈ l₂ := by
  split at h
  · exact Or.inl h
  · exact Or.inr h

theorem onlyHeadings_boundary (last new : List (Option (Option String))) (lvl : Nat) (force : Bool) :
    OnlyHeadings (boundaryHeadings last new lvl force) := by
  induction last generalizing new lvl force with
  | nil => intro b hb; simp [boundaryHeadings] at hb
  | cons l ls ih =>
    cases new with
    | nil => intro b hb; simp [boundaryHeadings] at hb
    | cons n ns =>
      intro b hb
      rcases n with _ | _ | s
      · simp only [boundaryHeadings] at hb; exact ih _ _ _ b hb
      · simp only [boundaryHeadings] at hb; exact ih _ _ _ b hb
      · simp only [boundaryHeadings] at hb
        rcases mem_ite hb with hb | hb
        · rcases List.mem_cons.mp hb with rfl | hb
          · exact ⟨_, _, rfl⟩
          · exact ih _ _ _ b hb
        · exact ih _ _ _ b hb

theorem segTop_rk (d : LDoc) (pg : PageCtx) : ∀ b ∈ segTop d pg, rk b = 5 := by
  unfold segTop
  split
  · split
    · exact (onlyHeadings_top _).rk
    · simp
  · simp

/-- every block of `dataBlocks …` is a data row -/
theorem dataBlocks_rk (start n : Nat) : ∀ b ∈ dataBlocks start n, rk b = 5 := by
  simp [dataBlocks, rk]

/-- every block of `bodyBlocks …` is a heading or a data row -/
theorem bodyBlocks_rk (keys : List (List (Option String))) (prev : Option (List (Option String)))
    (last : List (Option (Option String))) (i : Nat) :
    ∀ b ∈ bodyBlocks keys prev last i, rk b = 5 := by
  induction keys generalizing prev last i with
  | nil => intro b hb; simp [bodyBlocks] at hb
  | cons k ks ih =>
    intro b hb
    have hcons : ∀ prev last, b ∈ Block.data i :: bodyBlocks ks prev last (i + 1) → rk b = 5 := by
      intro prev last hb
      rcases List.mem_cons.mp hb with rfl | hb
      · rfl
      · exact ih _ _ _ b hb
    cases prev with
    | none => exact hcons _ _ (by simpa only [bodyBlocks] using hb)
    | some pk =>
      simp only [bodyBlocks] at hb
      split at hb
      · rcases List.mem_append.mp hb with hb | hb
        · exact (onlyHeadings_boundary _ _ _ _).rk b hb
        · exact hcons _ _ hb
      · exact hcons _ _ hb

theorem segBody_rk (d : LDoc) (pg : PageCtx) : ∀ b ∈ segBody d pg, rk b = 5 := by
  unfold segBody
  split
  · split
    · exact bodyBlocks_rk _ _ _ _
    · exact dataBlocks_rk _ _
  · exact dataBlocks_rk _ _

theorem segFootnote_rk (d : LDoc) (pg : PageCtx) : ∀ b ∈ segFootnote d pg, rk b = 6 := by
  unfold segFootnote
  split <;> simp [rk]

theorem segSource_rk (d : LDoc) (pg : PageCtx) : ∀ b ∈ segSource d pg, rk b = 7 := by
  unfold segSource
  split <;> simp [rk]

/-! ## a page is sorted by rank -/

/-- sorted by rank, all ranks at most `n` -/
def SortedLe (n : Nat) (l : List Block) : Prop :=
  (l.map rk).Pairwise (· ≤ ·) ∧ ∀ b ∈ l, rk b ≤ n

theorem sortedLe_of_const {n : Nat} {l : List Block} (h : ∀ b ∈ l, rk b = n) : SortedLe n l := by
  refine ⟨?_, fun b hb => Nat.le_of_eq (h b hb)⟩
  rw [List.pairwise_map]
  induction l with
  | nil => exact List.Pairwise.nil
  | cons a as ih =>
    refine List.Pairwise.cons ?_ (ih fun b hb => h b (List.mem_cons_of_mem _ hb))
    intro b hb
    rw [h a (List.mem_cons_self ..), h b (List.mem_cons_of_mem _ hb)]
    exact Nat.le_refl _

theorem SortedLe.append {n m : Nat} {l₁ l₂ : List Block} (h₁ : SortedLe n l₁)
    (h₂ : ∀ b ∈ l₂, rk b = m) (hnm : n ≤ m) : SortedLe m (l₁ ++ l₂) := by
  have s₂ := sortedLe_of_const h₂
  refine ⟨?_, ?_⟩
  · rw [List.map_append, List.pairwise_append]
    refine ⟨h₁.1, s₂.1, ?_⟩
    intro a ha b hb
    rw [List.mem_map] at ha hb
    obtain ⟨x, hx, rfl⟩ := ha
    obtain ⟨y, hy, rfl⟩ := hb
    have := h₁.2 x hx
    have := h₂ y hy
    omega
  · intro b hb
    rcases List.mem_append.mp hb with hb | hb
    · exact Nat.le_trans (h₁.2 b hb) hnm
    · exact s₂.2 b hb

/-- what stands before the body of a page … -/
def segHead (d : LDoc) (pg : PageCtx) : List Block :=
  segBrk pg ++ segTitle d pg ++ segSubline d pg ++ segSubHeading d pg ++ segColHeaders d pg

/-- … and what stands after it -/
def segTail (d : LDoc) (pg : PageCtx) : List Block := segFootnote d pg ++ segSource d pg

theorem renderPage_eq_head_body_tail (d : LDoc) (pg : PageCtx) :
    renderPage d pg = segHead d pg ++ ((segTop d pg ++ segBody d pg) ++ segTail d pg) := by
  simp only [renderPage_eq, segHead, segTail, List.append_assoc]

theorem segHead_sorted (d : LDoc) (pg : PageCtx) : SortedLe 4 (segHead d pg) := by
  have h := sortedLe_of_const (segBrk_rk pg)
  have h := h.append (segTitle_rk d pg) (by decide)
  have h := h.append (segSubline_rk d pg) (by decide)
  have h := h.append (segSubHeading_rk d pg) (by decide)
  exact h.append (segColHeaders_rk d pg) (by decide)

theorem segTail_rk (d : LDoc) (pg : PageCtx) : ∀ b ∈ segTail d pg, 6 ≤ rk b := by
  intro b hb
  rcases List.mem_append.mp hb with hb | hb
  · exact Nat.le_of_eq (segFootnote_rk d pg b hb).symm
  · rw [segSource_rk d pg b hb]
    decide

theorem renderPage_sorted (d : LDoc) (pg : PageCtx) : SortedLe 7 (renderPage d pg) := by
  rw [renderPage_eq]
  have h := (segHead_sorted d pg).append (segTop_rk d pg) (by decide)
  have h := h.append (segBody_rk d pg) (by decide)
  have h := h.append (segFootnote_rk d pg) (by decide)
  exact h.append (segSource_rk d pg) (by decide)

/-! ## the blocks of one rank -/

/-- the blocks of rank `m` of a page -/
def segOf (d : LDoc) (pg : PageCtx) : Nat → List Block
  | 0 => segBrk pg
  | 1 => segTitle d pg
  | 2 => segSubline d pg
  | 3 => segSubHeading d pg
  | 4 => segColHeaders d pg
  | 5 => segTop d pg ++ segBody d pg
  | 6 => segFootnote d pg
  | 7 => segSource d pg
  | _ => []

theorem filter_rk_of_const {n : Nat} {l : List Block} (h : ∀ b ∈ l, rk b = n) (m : Nat) :
    l.filter (fun b => rk b == m) = if n = m then l else [] := by
  by_cases hnm : n = m
  · rw [if_pos hnm]
    exact List.filter_eq_self.mpr fun b hb => by rw [h b hb, hnm]; exact beq_self_eq_true m
  · rw [if_neg hnm]
    exact List.filter_eq_nil_iff.mpr fun b hb => by rw [h b hb, beq_iff_eq]; exact hnm

theorem renderPage_filter_rk (d : LDoc) (pg : PageCtx) (m : Nat) :
    (renderPage d pg).filter (fun b => rk b == m) = segOf d pg m := by
  simp only [renderPage_eq, List.filter_append, filter_rk_of_const (segBrk_rk pg),
    filter_rk_of_const (segTitle_rk d pg), filter_rk_of_const (segSubline_rk d pg),
    filter_rk_of_const (segSubHeading_rk d pg), filter_rk_of_const (segColHeaders_rk d pg),
    filter_rk_of_const (segTop_rk d pg), filter_rk_of_const (segBody_rk d pg),
    filter_rk_of_const (segFootnote_rk d pg), filter_rk_of_const (segSource_rk d pg)]
  rcases m with _ | _ | _ | _ | _ | _ | _ | _ | m <;> simp [segOf]

/-! A question that only blocks of rank `m` can answer is a question about `segOf d pg m`. -/

theorem filter_renderPage {p : Block → Bool} {m : Nat} (hp : ∀ b, p b = true → rk b = m)
    (d : LDoc) (pg : PageCtx) : (renderPage d pg).filter p = (segOf d pg m).filter p := by
  rw [← renderPage_filter_rk, List.filter_filter]
  exact List.filter_congr fun b _ => by cases h : p b <;> simp [hp b, h]

theorem filterMap_renderPage {β} {f : Block → Option β} {m : Nat}
    (hf : ∀ b, (f b).isSome = true → rk b = m) (d : LDoc) (pg : PageCtx) :
    (renderPage d pg).filterMap f = (segOf d pg m).filterMap f := by
  rw [← renderPage_filter_rk, List.filterMap_filter]
  congr 1
  funext b
  cases h : f b with
  | none => simp
  | some x => simp [hf b (by simp [h])]

theorem count_renderPage (a : Block) (d : LDoc) (pg : PageCtx) :
    (renderPage d pg).count a = (segOf d pg (rk a)).count a := by
  rw [← renderPage_filter_rk, List.count_filter (by simp)]

theorem mem_renderPage {b : Block} (d : LDoc) (pg : PageCtx) :
    b ∈ renderPage d pg ↔ b ∈ segOf d pg (rk b) := by
  rw [← renderPage_filter_rk, List.mem_filter, beq_self_eq_true]
  exact (and_iff_left rfl).symm

theorem pages_placement (d : LDoc) (pt pf ps : Placement) :
    ({ d with pageTitle := pt, pageFootnote := pf, pageSource := ps } : LDoc).pages = d.pages := rfl

/-- with `number = total = 1` the placement fields do not matter -/
theorem renderPage_placement_of_single (d : LDoc) (pt pf ps : Placement) (pg : PageCtx)
    (hn : pg.number = 1) (ht : pg.total = 1) :
    renderPage { d with pageTitle := pt, pageFootnote := pf, pageSource := ps } pg = renderPage d pg := by
  have hs : ∀ p : Placement, p.shows (pg.number == 1) (pg.number == pg.total) = true := by
    intro p; rw [hn, ht]; cases p <;> rfl
  simp only [renderPage_eq, segTitle, segSubline, segFootnote, segSource, hs]
  rfl

theorem mkPagesAux_length (ps : List Nat) (total : Nat) (us : List Nat) (cum : Nat) :
    (mkPagesAux ps total us cum).length = us.length := by
  induction us generalizing cum with
  | nil => rfl
  | cons p rest ih => simp [mkPagesAux, ih]

theorem mkPagesAux_mem (ps : List Nat) (total : Nat) (us : List Nat) (cum : Nat) :
    ∀ pg ∈ mkPagesAux ps total us cum, pg.number ∈ us ∧ pg.total = total := by
  induction us generalizing cum with
  | nil => intro pg h; simp [mkPagesAux] at h
  | cons p rest ih =>
    intro pg h
    simp only [mkPagesAux] at h
    rcases List.mem_cons.mp h with rfl | h
    · exact ⟨List.mem_cons_self .., rfl⟩
    · exact ⟨List.mem_cons_of_mem _ (ih _ pg h).1, (ih _ pg h).2⟩

theorem mem_insertSorted (x y : Nat) (l : List Nat) : y ∈ insertSorted x l ↔ y = x ∨ y ∈ l := by
  induction l with
  | nil => simp [insertSorted]
  | cons a as ih =>
    simp only [insertSorted]
    split
    · simp
    · simp only [List.mem_cons, ih]
      exact or_left_comm

theorem mem_isort (y : Nat) (l : List Nat) : y ∈ isort l ↔ y ∈ l := by
  induction l with
  | nil => simp [isort]
  | cons a as ih => simp [isort, mem_insertSorted, ih]

theorem mem_uniquePages (y : Nat) (ps : List Nat) : y ∈ uniquePages ps ↔ y ∈ ps := by
  unfold uniquePages
  rw [mem_isort, List.mem_eraseDups]

end Proofs.LayoutRoles
