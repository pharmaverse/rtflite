import Model.Validate
import Model.ValidateSpec
/-! Helper lemmas for C19.  The validator loops in closed form (`List.all` over the elements: they visit every one);
the generated code tables are the documented value sets; and, constructor by constructor (components, RTFPage,
RTFFigure, RTFDocument), the model meets the verdict of its specification (`Meets`, `spec*_meets`). -/
namespace Proofs.Validate
open Model.Validate Model.ValidateSpec

-- `decide` compares outcomes of the validators with `.ok ()` / `.error _` in the examples of `Props/C19*.lean`
instance : DecidableEq (Except Err Unit)
  | .ok (), .ok () => isTrue rfl
  | .error a, .error b =>
    if h : a = b then isTrue (by rw [h]) else isFalse (by intro h'; cases h'; exact h rfl)
  | .ok (), .error _ => isFalse (by intro h; cases h)
  | .error _, .ok () => isFalse (by intro h; cases h)

/-! ## one element -/

theorem coerce_error {k : Kind} {v : Val} {e : Err} (h : coerce k v = .error e) : e = .validationError := by
  -- every refusing branch of `coerce` is the literal `.error .validationError`
  cases k <;> cases v <;> simp [coerce] at h
  all_goals first
    | exact h.symm
    | (split at h <;> simp_all)

/-- the element passes the type check -/
def coerces (k : Kind) (v : Val) : Bool :=
  match coerce k v with
  | .ok _ => true
  | .error _ => false

/-- the element as the validator sees it -/
def coerced (k : Kind) (v : Val) : Val :=
  match coerce k v with
  | .ok w => w
  | .error _ => v

/-- element test of a rule: type coercion, then the validator's predicate -/
def elemOkR (r : Rule) (v : Val) : Bool :=
  match coerce r.kind v with
  | .ok w => r.pred.holds w
  | .error _ => false

theorem elemOkR_eq (r : Rule) (v : Val) : elemOkR r v = (coerces r.kind v && r.pred.holds (coerced r.kind v)) := by
  unfold elemOkR coerces coerced
  cases coerce r.kind v <;> rfl

theorem elemOk_eq (f : Field) : elemOk f = elemOkR (rule f) := rfl

theorem coerce_null (k : Kind) : coerce k .null = .error .validationError := by
  cases k <;> rfl

/-! ## rows -/

theorem coerceRow_eq (k : Kind) : ∀ vs : List Val,
    coerceRow k vs = if vs.all (coerces k) then .ok (vs.map (coerced k)) else .error .validationError
  | [] => rfl
  | v :: vs => by
    simp only [coerceRow, coerceRow_eq k vs, List.all_cons, List.map_cons, coerces, coerced]
    cases hc : coerce k v with
    | error e => simp [coerce_error hc]
    | ok w => cases vs.all (coerces k) <;> rfl

theorem loopRow_eq (p : Pred) : ∀ ws : List Val,
    loopRow p ws = if ws.all p.holds then .ok () else .error .validationError
  | [] => rfl
  | w :: ws => by
    simp only [loopRow, loopRow_eq p ws, List.all_cons]
    by_cases h : p.holds w = true <;> simp [h]

theorem coerceRows_eq (k : Kind) : ∀ rows : List (List Val),
    coerceRows k rows = if rows.all (·.all (coerces k)) then .ok (rows.map (·.map (coerced k)))
      else .error .validationError
  | [] => rfl
  | row :: rows => by
    simp only [coerceRows, coerceRow_eq, coerceRows_eq k rows, List.all_cons, List.map_cons]
    cases row.all (coerces k) <;> cases rows.all (·.all (coerces k)) <;> rfl

theorem loopRows_eq (p : Pred) : ∀ rows : List (List Val),
    loopRows p rows = if rows.all (·.all p.holds) then .ok () else .error .validationError
  | [] => rfl
  | row :: rows => by
    simp only [loopRows, loopRow_eq, loopRows_eq p rows, List.all_cons]
    by_cases h : row.all p.holds = true <;> simp [h]

/-! ## the normalised value: type check + after-validator -/

theorem all_and {α} (p q : α → Bool) (l : List α) : (l.all fun a => p a && q a) = (l.all p && l.all q) := by
  induction l with
  | nil => rfl
  | cons a l ih =>
    simp only [List.all_cons, ih]
    cases p a <;> cases q a <;> simp

theorem all_elemOkR (r : Rule) (vs : List Val) :
    vs.all (elemOkR r) = (vs.all (coerces r.kind) && (vs.map (coerced r.kind)).all r.pred.holds) := by
  simp only [List.all_map, Function.comp_def, ← all_and, ← elemOkR_eq]

theorem checkNorm_flat_eq (r : Rule) (vs : List Val) :
    checkNorm r (.flat vs) =
      if vs = [] then (if r.idx0 then .error .indexError else .ok ())
      else if vs.all (elemOkR r) then .ok () else .error .validationError := by
  cases vs with
  | nil => simp [checkNorm, coerceRow, afterValidator]
  | cons v vs =>
    rw [all_elemOkR]
    simp only [checkNorm, coerceRow_eq]
    cases (v :: vs).all (coerces r.kind)
    · simp
    · simp [afterValidator, loopRow_eq]

theorem checkNorm_nested_eq (r : Rule) (rows : List (List Val)) :
    checkNorm r (.nested rows) =
      if rows = [] then (if r.idx0 then .error .indexError else .ok ())
      else if r.flatOnly then .error .validationError
      else if rows.all (fun row => row.all (elemOkR r)) then .ok () else .error .validationError := by
  cases rows with
  | nil => simp [checkNorm, coerceRows, afterValidator]
  | cons row rows =>
    have hall : (row :: rows).all (fun row => row.all (elemOkR r)) =
        ((row :: rows).all (·.all (coerces r.kind)) &&
          ((row :: rows).map (·.map (coerced r.kind))).all (·.all r.pred.holds)) := by
      simp only [List.all_map, Function.comp_def, ← all_and, ← elemOkR_eq]
    rw [hall]
    simp only [checkNorm, coerceRows_eq]
    by_cases hf : r.flatOnly = true
    · simp [hf]
    · cases (row :: rows).all (·.all (coerces r.kind))
      · simp [hf]
      · simp [hf, afterValidator, loopRows_eq]

theorem all_false_of_mem {p : Val → Bool} {vs : List Val} {v : Val} (hv : v ∈ vs) (hp : p v = false) :
    vs.all p = false :=
  List.all_eq_false.mpr ⟨v, hv, by simp [hp]⟩

/-! ## one supplied attribute -/

theorem isScalar_iff (v : Val) : v.isScalar = true ↔ v ≠ .null := by
  cases v <;> simp [Val.isScalar]

/-- the normaliser of either component kind turns the value into a non-empty list or matrix -/
def filled : Raw → Bool
  | .none => false
  | .scalar v => v.isScalar
  | .flat vs => vs.any Val.isScalar
  | .tuple vs => !vs.isEmpty
  | .nested rows => !rows.isEmpty

theorem filled_of_mem {x : Raw} {v : Val} (hv : v ∈ x.elems) (hnn : v ≠ .null) : filled x = true := by
  have hsc := (isScalar_iff v).mpr hnn
  cases x with
  | none => cases hv
  | scalar w => exact List.mem_singleton.mp hv ▸ hsc
  | flat vs => exact List.any_eq_true.mpr ⟨v, hv, hsc⟩
  | tuple l | nested l => cases l <;> simp_all [Raw.elems, filled]

theorem filled_of_shapeOk {f : Field} {x : Raw} (hshape : shapeOk f x = true)
    (hnn : ∀ v ∈ x.elems, v ≠ .null) : filled x = true := by
  cases x with
  | none => cases hshape
  | scalar w => exact filled_of_mem (List.mem_singleton.mpr rfl) (hnn w (List.mem_singleton.mpr rfl))
  | flat vs =>
    cases vs with
    | nil => cases hshape
    | cons v vs => exact filled_of_mem List.mem_cons_self (hnn v List.mem_cons_self)
  | tuple vs => exact hshape
  | nested rows => exact (Bool.and_eq_true _ _ ▸ hshape).1

/-- **the loops visit every element**: a value that normalises to a non-empty list or matrix is accepted iff
its shape fits the annotation and every element passes; the only other outcome is `ValidationError` -/
theorem validateField_filled (table : Bool) (f : Field) {x : Raw} (h : filled x = true) :
    validateField table f x =
      if shapeOk f x && x.elems.all (elemOk f) then .ok () else .error .validationError := by
  rw [elemOk_eq]
  -- shape by shape, for both values of `flatOnly` and both component kinds: `normalise` yields a non-empty list or
  -- matrix, on which `checkNorm` is the closed form `checkNorm_flat_eq` / `checkNorm_nested_eq`
  cases x with
  | none => cases h
  | scalar v =>
    have hv : v.isScalar = true := h
    by_cases hfo : (rule f).flatOnly = true <;> cases table
    all_goals
      simp [validateField, normalise, toFlat, toNested, hv, hfo, checkNorm_flat_eq, checkNorm_nested_eq,
        shapeOk, Raw.elems]
  | flat vs =>
    have hne : vs ≠ [] := by rintro rfl; cases h
    have hany : ∃ v ∈ vs, v.isScalar = true := List.any_eq_true.mp h
    by_cases hfo : (rule f).flatOnly = true <;> cases table
    all_goals
      simp [validateField, normalise, toFlat, toNested, hany, hfo, checkNorm_flat_eq, checkNorm_nested_eq,
        shapeOk, Raw.elems, hne]
  | tuple vs =>
    have hne : vs ≠ [] := by rintro rfl; cases h
    by_cases hfo : (rule f).flatOnly = true <;> cases table
    all_goals
      simp [validateField, normalise, toFlat, toNested, hfo, checkNorm_flat_eq, checkNorm_nested_eq,
        shapeOk, Raw.elems, hne, List.all_map, Function.comp_def]
  | nested rows =>
    cases rows with
    | nil => cases h
    | cons r0 rs =>
      by_cases hfo : (rule f).flatOnly = true <;> cases table
      all_goals
        simp [validateField, normalise, toFlat, toNested, hfo, checkNorm_nested_eq, shapeOk, Raw.elems,
          List.all_flatten]

/-- **bad element ⇒ ValidationError**, whatever the shape, the position and the other elements -/
theorem validateField_bad (table : Bool) (f : Field) (x : Raw) (v : Val)
    (hv : v ∈ x.elems) (hnn : v ≠ .null) (hbad : elemOk f v = false) :
    validateField table f x = .error .validationError := by
  simp [validateField_filled table f (filled_of_mem hv hnn), all_false_of_mem hv hbad]

/-! ## the generated code tables are the documented value sets

`decide +kernel` on the literal tables regenerated from the source on every run: editing a table in
the source (dropping "dotted", adding a justification code, renumbering fonts, …) breaks these. -/

theorem borderKeys_doc : borderKeys = docBorderStyles := by decide +kernel
theorem formatKeys_doc : formatKeys = docFormatCodes := by decide +kernel
theorem textJustKeys_doc : textJustKeys = docTextJust := by decide +kernel
theorem rowJustKeys_doc : rowJustKeys = docRowJust := by decide +kernel
theorem vertAlignKeys_doc : vertAlignKeys = docVertAlign := by decide +kernel
theorem fontNumbers_doc : fontNumbers = docFontNumbers := by decide +kernel
theorem colorNames_length : colorNames.length = docColorCount := by decide +kernel

theorem pos_int (i : Int) : (!(decide (i ≤ 0))) = decide (0 < i) := by
  rw [← decide_not]
  exact decide_eq_decide.mpr Int.not_le

theorem pos_rat (q : Rat) : (!(decide (q ≤ 0))) = decide (0 < q) := by
  rw [← decide_not]
  exact decide_eq_decide.mpr Rat.not_le

/-- element type the annotation of a documented class has -/
def classKind : Class → Kind
  | .font | .posInt => .int
  | .posFloat => .float
  | _ => .str

/-- the validator's test for a documented class -/
def classPred : Class → Pred
  | .border => .inSet borderKeys
  | .color => .colorOrEmpty
  | .font => .fontNumber
  | .format => .formatChars
  | .textJust => .inSet textJustKeys
  | .rowJust => .inSet rowJustKeys
  | .vertAlign => .inSet vertAlignKeys
  | .posInt | .posFloat => .positive

/-- the rule table gives every field the element type and the test of its documented class -/
theorem rule_class (f : Field) :
    (rule f).kind = classKind (classOf f) ∧ (rule f).pred = classPred (classOf f) := by
  cases f <;> exact ⟨rfl, rfl⟩

/-- on well-typed values the documented legality of a class is exactly what type check + test accept -/
theorem legalC_eq {c : Class} {r : Rule} (hk : r.kind = classKind c) (hp : r.pred = classPred c) (v : Val)
    (h : wellTypedC c v = true) : legalC c v = elemOkR r v := by
  rw [elemOkR, hk, hp]
  -- class by class and value constructor by value constructor: an ill-typed pair contradicts `h`; on a well-typed one
  -- both sides are the same membership or positivity test once the code tables are read as the documented sets
  cases c <;> cases v <;> simp [wellTypedC] at h
  all_goals
    simp [legalC, classKind, classPred, coerce, Pred.holds, borderKeys_doc, formatKeys_doc,
      textJustKeys_doc, rowJustKeys_doc, vertAlignKeys_doc, fontNumbers_doc, pos_int, pos_rat,
      Rat.intCast_pos]

theorem legal_eq_elemOk (f : Field) (v : Val) (h : wellTyped f v = true) : legal f v = elemOk f v :=
  legalC_eq (rule_class f).1 (rule_class f).2 v h

theorem wellTypedC_null (c : Class) : wellTypedC c .null = false := by
  cases c <;> rfl

theorem wellTyped_ne_null {f : Field} {v : Val} (h : wellTyped f v = true) : v ≠ .null := by
  rintro rfl
  rw [wellTyped, wellTypedC_null] at h
  cases h

/-! ## a supplied attribute inside the statement's domain -/

theorem validateField_domain (table : Bool) (f : Field) (x : Raw) (h : inDomain f x = true) :
    validateField table f x = if x.elems.all (elemOk f) then .ok () else .error .validationError := by
  simp only [inDomain, Bool.and_eq_true, List.all_eq_true] at h
  rw [validateField_filled table f (filled_of_shapeOk h.1 fun v hv => wellTyped_ne_null (h.2 v hv)), h.1,
    Bool.true_and]

theorem any_congr_mem {α} {l : List α} {A B : α → Bool} (h : ∀ a ∈ l, A a = B a) : l.any A = l.any B := by
  induction l with
  | nil => rfl
  | cons a l ih =>
    simp only [List.any_cons, h a (by simp), ih (fun b hb => h b (by simp [hb]))]

theorem all_eq_not_any {α} {l : List α} {A B : α → Bool} (h : ∀ a ∈ l, A a = !B a) :
    l.all A = !l.any B := by
  rw [List.all_eq_not_any_not]
  exact congrArg _ (any_congr_mem fun a ha => by rw [h a ha, Bool.not_not])

theorem all_congr_mem {α} {l : List α} {A B : α → Bool} (h : ∀ a ∈ l, A a = B a) : l.all A = l.all B := by
  rw [List.all_eq_not_any_not, List.all_eq_not_any_not]
  exact congrArg _ (any_congr_mem fun a ha => by rw [h a ha])

theorem hasIllegal_eq (f : Field) (x : Raw) (h : inDomain f x = true) :
    hasIllegal f x = !x.elems.all (elemOk f) := by
  simp only [inDomain, Bool.and_eq_true] at h
  rw [hasIllegal, List.all_eq_not_any_not, Bool.not_not]
  exact any_congr_mem fun v hv => by rw [legal_eq_elemOk f v (List.all_eq_true.mp h.2 v hv)]

/-- a supplied attribute is bad: some element fails type check or validator -/
def suppliedBad (kw : Field → Option Raw) (f : Field) : Bool :=
  match kw f with
  | some x => !x.elems.all (elemOk f)
  | none => false

theorem runFields_eq (table : Bool) (kw : Field → Option Raw) : ∀ (fs : List Field) (soft : Bool),
    (∀ f ∈ fs, ∀ x, kw f = some x → inDomain f x = true) →
    runFields table kw fs soft = .ok (soft || fs.any (suppliedBad kw))
  | [], soft, _ => by simp [runFields]
  | f :: fs, soft, h => by
    have ih := fun s => runFields_eq table kw fs s (fun g hg => h g (by simp [hg]))
    simp only [runFields, List.any_cons, suppliedBad]
    cases hk : kw f with
    | none => simp [ih]
    | some x =>
      have hd := validateField_domain table f x (h f (by simp) x hk)
      by_cases hall : x.elems.all (elemOk f) = true
      · simp only [hall, if_true] at hd
        simp [hd, ih, hall]
      · simp only [hall] at hd
        simp at hd
        simp [hd, ih, hall, Err.isValueError]

theorem extraSoft_eq (c : Comp) (ex : Extra) (h : extraInDomain c ex = true) :
    extraSoft c ex = extraIllegal ex := by
  obtain ⟨pr, np, pb, at_⟩ := ex
  cases pr with
  | none =>
    cases at_ with
    | none => simp [extraSoft, extraIllegal]
    | some v => cases v <;> simp_all [extraSoft, extraIllegal, extraInDomain, asTableOk]
  | some p =>
    cases at_ with
    | none => cases p <;> simp_all [extraSoft, extraIllegal, extraInDomain, pagebyRowOk, docPagebyRow]
    | some v =>
      cases p <;> cases v <;>
        simp_all [extraSoft, extraIllegal, extraInDomain, asTableOk, pagebyRowOk, docPagebyRow]

/-! ## component constructors -/

theorem constructComp_of_domain (c : Comp) (kw : Field → Option Raw) (ex : Extra)
    (hd : ∀ f ∈ fieldsOf c, ∀ x, kw f = some x → inDomain f x = true) (he : extraInDomain c ex = true) :
    constructComp c kw ex =
      if (fieldsOf c).any (suppliedBad kw) || extraIllegal ex then .error .validationError
      else if c == .body && ex.newPage && !ex.pageBy then .error .valueError
      else .ok () := by
  simp only [constructComp, runFields_eq c.isTable kw (fieldsOf c) false hd, extraSoft_eq c ex he,
    Bool.false_or]

/-- how a constructor meets the verdict of its specification: nothing is demanded, or a legal call is
constructed, or an illegal one raises an exception of class `P` -/
def Meets (P : Err → Prop) (v : Verdict) (r : Except Err Unit) : Prop :=
  v = .free ∨ (v = .accept ∧ r = .ok ()) ∨ (v = .reject ∧ ∃ e, r = .error e ∧ P e)

theorem Meets.accept {P : Err → Prop} {v : Verdict} {r : Except Err Unit} (h : Meets P v r)
    (hv : v = .accept) : r = .ok () := by
  subst hv
  rcases h with h | ⟨_, h⟩ | ⟨h, _⟩
  · cases h
  · exact h
  · cases h

theorem Meets.reject {P : Err → Prop} {v : Verdict} {r : Except Err Unit} (h : Meets P v r)
    (hv : v = .reject) : ∃ e, r = .error e ∧ P e := by
  subst hv
  rcases h with h | ⟨h, _⟩ | ⟨_, h⟩
  · cases h
  · cases h
  · exact h

/-- the component model meets the specification: an illegal configuration is refused with a ValueError, a
legal one inside the domain is constructed -/
theorem specComp_meets (c : Comp) (kw : Field → Option Raw) (ex : Extra) :
    Meets (·.isValueError = true) (specComp c kw ex) (constructComp c kw ex) := by
  unfold Meets
  by_cases hdom : ((fieldsOf c).all (suppliedInDomain kw) && extraInDomain c ex) = true
  · have hdom' := hdom
    simp only [Bool.and_eq_true] at hdom'
    obtain ⟨h1, h2⟩ := hdom'
    have hd : ∀ f ∈ fieldsOf c, ∀ x, kw f = some x → inDomain f x = true := by
      intro f hf x hx
      have := List.all_eq_true.mp h1 f hf
      simpa [suppliedInDomain, hx] using this
    have hany : (fieldsOf c).any (suppliedIllegal kw) = (fieldsOf c).any (suppliedBad kw) := by
      apply any_congr_mem
      intro f hf
      simp only [suppliedBad, suppliedIllegal]
      cases hk : kw f with
      | none => rfl
      | some x => simp [hasIllegal_eq f x (hd f hf x hk)]
    rw [constructComp_of_domain c kw ex hd h2, specComp, hany, hdom]
    by_cases hbad : ((fieldsOf c).any (suppliedBad kw) || extraIllegal ex) = true
    · simp [hbad, Err.isValueError]
    · by_cases hnp : (c == .body && ex.newPage && !ex.pageBy) = true
      · simp [hbad, hnp, Err.isValueError]
      · simp [hbad, hnp]
  · left
    rw [specComp]
    simp [hdom]

/-! ## RTFPage -/

theorem isNumber_of_wellTyped {v : Val} (h : wellTypedC .posFloat v = true) : isNumber v = true := by
  cases v with
  | int i | rat q => rfl
  | _ => cases h

/-- `optPositive` on a well-typed value is the element test of a positive-number class -/
theorem optPositive_eq {c : Class} (hp : classPred c = .positive) {v : Val} (h : wellTypedC c v = true) :
    optPositive (classKind c) v = legalC c v := by
  rw [legalC_eq (r := ⟨classKind c, .positive, false, false, false⟩) rfl hp.symm v h]
  cases v with
  | null =>
    rw [wellTypedC_null] at h
    cases h
  | _ => rfl

theorem validatePageField_eq (f : PageField) (x : Raw) (h : pageInDomain f x = true) :
    validatePageField f x = pageLegal f x := by
  have hnum : ∀ vs : List Val, vs.all (wellTypedC .posFloat) = true → vs.all isNumber = true := by
    intro vs hvs
    apply List.all_eq_true.mpr
    intro v hv
    exact isNumber_of_wellTyped (List.all_eq_true.mp hvs v hv)
  -- one case per clause of `pageInDomain`
  unfold pageInDomain at h
  split at h
  case h_1 | h_2 | h_3 | h_4 | h_5 | h_6 =>
    simp [validatePageField, pageLegal, strIn, borderKeys_doc, docOrientation, docPlacement]
  case h_7 | h_8 | h_9 => exact optPositive_eq (c := .posFloat) rfl h
  case h_10 => exact optPositive_eq (c := .posInt) rfl h
  case h_11 | h_12 => simp [validatePageField, pageLegal, hnum _ h]
  case h_13 => cases h

theorem specPage_meets (kw : PageField → Option Raw) :
    Meets (·.isValueError = true) (specPage kw) (constructPage kw) := by
  unfold Meets
  by_cases hdom : pageFields.all (pageSuppliedInDomain kw) = true
  · right
    have hall : pageFields.all (pageSuppliedOk kw) = !pageFields.any (pageSuppliedIllegal kw) := by
      apply all_eq_not_any
      intro f hf
      have hd := List.all_eq_true.mp hdom f hf
      simp only [pageSuppliedOk, pageSuppliedIllegal, pageSuppliedInDomain] at hd ⊢
      cases hk : kw f with
      | none => rfl
      | some x =>
        simp only [hk] at hd
        simp [validatePageField_eq f x hd]
    by_cases hbad : pageFields.any (pageSuppliedIllegal kw) = true
    · simp [constructPage, specPage, hdom, hall, hbad, Err.isValueError]
    · by_cases hw : 0 < resolvedColWidth kw
      · simp [constructPage, specPage, pageColWidthIllegal, hdom, hall, hbad, hw]
      · simp [constructPage, specPage, pageColWidthIllegal, hdom, hall, hbad, hw, Err.isValueError]
  · left
    simp [specPage, hdom]

/-! ## RTFFigure -/

theorem optStrIn_eq (ks : List String) (o : Option Val) (h : optStrDomain o = true) :
    optStrIn ks o = !optStrIllegal ks o := by
  cases o with
  | none => rfl
  | some v => cases v <;> simp_all [optStrDomain, optStrIn, optStrIllegal, strIn]

theorem figDimOk_eq (x : Raw) (h : figDimInDomain x = true) : figDimOk x = figDimLegal x := by
  have hv : ∀ v : Val, wellTypedC .posFloat v = true →
      (v != .null && optPositive .float v) = legalC .posFloat v := by
    intro v hw
    rw [show optPositive .float v = _ from optPositive_eq (c := .posFloat) rfl hw]
    cases v <;> simp_all [wellTypedC]
  cases x with
  | none | nested rows => cases h
  | scalar v => simp [figDimOk, figDimLegal, Raw.elems, hv v h]
  | flat vs | tuple vs =>
    simp only [figDimInDomain, Bool.and_eq_true] at h
    simp only [figDimOk, figDimLegal, Raw.elems, h.1, Bool.true_and]
    exact all_congr_mem (fun v hm => hv v (List.all_eq_true.mp h.2 v hm))

theorem optDimOk_eq (o : Option Raw) (h : optDimDomain o = true) : optDimOk o = !optDimIllegal o := by
  cases o with
  | none => rfl
  | some x => simp [optDimOk, optDimIllegal, figDimOk_eq x (by simpa [optDimDomain] using h)]

theorem figFieldsOk_eq (a : FigArgs) (h : figInDomain a = true) : figFieldsOk a = !figIllegal a := by
  simp only [figInDomain, Bool.and_eq_true] at h
  obtain ⟨⟨⟨h1, h2⟩, h3⟩, h4⟩ := h
  have e1 := optStrIn_eq docFigAlign a.figAlign h1
  have e2 := optStrIn_eq docFigPos a.figPos h2
  simp only [docFigAlign, docFigPos] at e1 e2
  simp only [figFieldsOk, figIllegal, e1, e2, optDimOk_eq _ h3, optDimOk_eq _ h4, docFigAlign, docFigPos,
    Bool.not_or]

theorem constructFigure_of_domain (a : FigArgs) (h : figInDomain a = true) :
    constructFigure a =
      if figIllegal a then .error .validationError
      else if figMissing a then .error .fileNotFound else .ok () := by
  simp [constructFigure, figFieldsOk_eq a h]

/-! ## RTFDocument -/

theorem groupKept_eq (b : BodySpec) :
    groupKept b = !(b.groupBy.getD []).any (fun c =>
      (b.sublineBy.getD []).contains c || (!(b.newPage && b.pagebyColumn) && (b.pageBy.getD []).contains c)) := by
  simp only [groupKept, BodySpec.removed, List.all_eq_not_any_not]
  congr 2
  funext c
  cases h : (b.newPage && b.pagebyColumn) <;> simp

theorem sectionLegal_eq (cols : List String) (b : BodySpec) : sectionLegal cols b = sectionOk cols b := by
  have hk := groupKept_eq b
  obtain ⟨g, p, s, np, pc⟩ := b
  simp only [sectionLegal, sectionOk, hk]
  cases g <;> cases p <;> cases s <;> simp [colsPresent]

theorem sectionsLegal_eq (secs : List (List String)) (bs : List BodySpec) :
    sectionsLegal secs bs = sectionsOk secs bs := by
  simp only [sectionsLegal, sectionsOk]
  exact all_congr_mem (fun p _ => sectionLegal_eq p.1 p.2)

theorem specDoc_meets (a : DocArgs) : Meets (· = .validationError) (specDoc a) (validateDoc a) := by
  unfold Meets
  obtain ⟨df, body, header, figure, fn, src⟩ := a
  cases df with
  | none =>
    cases figure with
    | false => simp [specDoc, validateDoc]
    | true =>
      by_cases h1 : fn = some true
      · simp [specDoc, h1]
      · by_cases h2 : src = some true
        · simp [specDoc, h2]
        · simp [specDoc, validateDoc, h1, h2]
  | single cols =>
    cases figure with
    | true => simp [specDoc, validateDoc]
    | false =>
      cases body with
      | none => simp [specDoc]
      | multi bs => simp [specDoc]
      | single b =>
        by_cases hs : sectionOk cols b = true
        · simp [specDoc, validateDoc, sectionLegal_eq, hs]
        · simp [specDoc, validateDoc, sectionLegal_eq, hs]
  | multi secs =>
    cases figure with
    | true => simp [specDoc, validateDoc]
    | false =>
      cases body with
      | none => simp [specDoc]
      | single b => simp [specDoc]
      | multi bs =>
        by_cases he : secs.isEmpty = true
        · simp [specDoc, he]
        · by_cases hl : (secs.length != bs.length) = true
          · simp [specDoc, validateDoc, he, hl]
          · by_cases hh : headerMismatch header secs.length = true
            · simp [specDoc, validateDoc, he, hl, hh]
            · by_cases hs : sectionsOk secs bs = true
              · simp [specDoc, validateDoc, he, hl, hh, sectionsLegal_eq, hs, emptyMultiIndexes]
              · simp [specDoc, validateDoc, he, hl, hh, sectionsLegal_eq, hs]

/-! ## frames: the height of a frame is not an input of the document rules -/

theorem reheight_cols (fs : List Frame) (hs : List Nat) :
    (DfData.withRows.reheight fs hs).map (·.cols) = fs.map (·.cols) := by
  induction fs generalizing hs with
  | nil => simp [DfData.withRows.reheight]
  | cons f fs ih =>
    cases hs with
    | nil => simp [DfData.withRows.reheight]
    | cons h hs => simp [DfData.withRows.reheight, ih]

theorem withRows_toArg (d : DfData) (hs : List Nat) : (d.withRows hs).toArg = d.toArg := by
  cases d with
  | none => simp [DfData.withRows, DfData.toArg]
  | single f => cases hs <;> simp [DfData.withRows, DfData.toArg]
  | multi fs => simp [DfData.withRows, DfData.toArg, reheight_cols]

theorem contains_getD_of_all {cols : List String} {o : Option (List String)} {name : String}
    (hc : cols.contains name = false) (hm : (o.getD []).contains name = true) :
    colsPresent cols o = false := by
  cases o with
  | none => simp at hm
  | some names =>
    simp only [Option.getD_some, List.contains_iff_mem] at hm
    exact List.all_eq_false.mpr ⟨name, hm, by rw [hc]; simp⟩

theorem sectionOk_false_of_missing (cols : List String) (b : BodySpec) (name : String)
    (h : missingName cols b name = true) : sectionOk cols b = false := by
  simp only [missingName, Bool.and_eq_true, Bool.or_eq_true, Bool.not_eq_true'] at h
  obtain ⟨hc, hk⟩ := h
  simp only [sectionOk]
  rcases hk with (hk | hk) | hk <;> simp [contains_getD_of_all hc hk]

theorem sectionsOk_false_of_index (secs : List (List String)) (bs : List BodySpec) (i : Nat)
    (h1 : i < secs.length) (h2 : i < bs.length) (h : sectionOk secs[i] bs[i] = false) :
    sectionsOk secs bs = false := by
  have hi : i < (secs.zip bs).length := by
    rw [List.length_zip]
    omega
  refine List.all_eq_false.mpr ⟨(secs.zip bs)[i], List.getElem_mem hi, ?_⟩
  rw [List.getElem_zip, h]
  decide

end Proofs.Validate
