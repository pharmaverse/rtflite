import Model.Encode
import Proofs.Broadcast
import Proofs.BroadcastAttr
import Proofs.Encode
import Proofs.EncodeLift
import Proofs.Layout
import Proofs.Borders
import Proofs.GroupBy
/-!
How the whole-encoder model (`Model/Encode.lean`) reads the body attributes for a data cell (`pageAttrs` → `encodeRow` →
`encodeCell`), stated once for a generic field selector (`Field`); a cell as a function of the values read at its
position (`cellOf`); the intermediate values of an accepted run (`Run`, read off `Proofs/EncodeLift.lean`); and what the
other row kinds (`spanningRow`, `headerInner`, table-rendered `renderFoot`) render.  The encoder-level theorems about
borders, widths, attribute binding, text and colours (C07–C12) and the totality proofs build on it.
-/
namespace Proofs.EncodeAttrs
open Model.Encode Model.Broadcast Model.Emit Model.Rtf Proofs.Encode Generated

/-! ## field selectors of `TblAttrsOf` -/

/-- the 31 attribute matrices of a table component -/
inductive Field
  | font | format | size | color | bg | just | indFirst | indLeft | indRight | space | spBefore | spAfter | hyph
  | convert | bLeft | bRight | bTop | bBottom | bFirst | bLast | bcLeft | bcRight | bcTop | bcBottom | bcFirst
  | bcLast | bWidth | cellHeight | cellJust | cellVJust | cellNrow
  deriving DecidableEq, Repr

def Field.get {α : Type} : Field → TblAttrsOf α → α
  | .font, a => a.font
  | .format, a => a.format
  | .size, a => a.size
  | .color, a => a.color
  | .bg, a => a.bg
  | .just, a => a.just
  | .indFirst, a => a.indFirst
  | .indLeft, a => a.indLeft
  | .indRight, a => a.indRight
  | .space, a => a.space
  | .spBefore, a => a.spBefore
  | .spAfter, a => a.spAfter
  | .hyph, a => a.hyph
  | .convert, a => a.convert
  | .bLeft, a => a.bLeft
  | .bRight, a => a.bRight
  | .bTop, a => a.bTop
  | .bBottom, a => a.bBottom
  | .bFirst, a => a.bFirst
  | .bLast, a => a.bLast
  | .bcLeft, a => a.bcLeft
  | .bcRight, a => a.bcRight
  | .bcTop, a => a.bcTop
  | .bcBottom, a => a.bcBottom
  | .bcFirst, a => a.bcFirst
  | .bcLast, a => a.bcLast
  | .bWidth, a => a.bWidth
  | .cellHeight, a => a.cellHeight
  | .cellJust, a => a.cellJust
  | .cellVJust, a => a.cellVJust
  | .cellNrow, a => a.cellNrow

/-- the two matrices `_apply_pagination_borders` rewrites (C07 governs them) -/
def Field.isEdge : Field → Bool
  | .bTop => true
  | .bBottom => true
  | _ => false

theorem get_map {α β : Type} (g : α → β) (A : TblAttrsOf α) (f : Field) : f.get (A.map g) = g (f.get A) := by
  cases f <;> rfl

theorem get_mapM {α β : Type} {g : α → Except String β} {a : TblAttrsOf α} {B : TblAttrsOf β}
    (h : a.mapM g = .ok B) (f : Field) : g (f.get a) = .ok (f.get B) := by
  unfold TblAttrsOf.mapM at h
  peel h as x0 h0
  unfold TextAttrsOf.mapM at h0
  iterate 14 peel h0 as _ _
  cases pure_ok h0
  iterate 17 peel h as _ _
  cases pure_ok h
  cases f <;> assumption


/-! ## reading a matrix: `ilocV` -/

/-- a matrix on which `BroadcastValue.iloc` is total: absent (`None`), or non-empty, rectangular, ≥ 1 column -/
def GoodV (M : MatV) : Prop := ∀ m, M = some m → Proofs.Broadcast.Good m

theorem ilocV_good {m : Mat Val} (hg : Proofs.Broadcast.Good m) (r c : Nat) :
    ilocV (some m) r c = match m.iloc r c with
      | some v => .ok v
      | none => .error "ValueError" := by
  have hl := hg.length_pos
  have hc := hg.cols
  unfold ilocV
  simp only
  rw [if_neg (by simp only [Bool.or_eq_true, decide_eq_true_eq]; omega)]
  cases m.iloc r c <;> rfl

theorem ilocV_congr {m m' : Mat Val} (hg : Proofs.Broadcast.Good m) (hg' : Proofs.Broadcast.Good m') {r c r' c' : Nat}
    (h : m.iloc r c = m'.iloc r' c') : ilocV (some m) r c = ilocV (some m') r' c' := by
  rw [ilocV_good hg, ilocV_good hg', h]

theorem iloc_none_of_empty {α : Type} {m : Mat α} (h : m.length = 0 ∨ m.ncols = 0) (r c : Nat) : m.iloc r c = none := by
  unfold Mat.iloc
  rcases h with h | h
  · rw [if_pos h]
  · simp only [h, if_true]
    split
    · rfl
    · split <;> rfl

/-- reading a present matrix succeeds exactly when `BroadcastValue.iloc` finds a value -/
theorem ilocV_some_ok {M : Mat Val} {r c : Nat} {v : Val} : ilocV (some M) r c = .ok v ↔ M.iloc r c = some v := by
  unfold ilocV
  simp only
  split
  · next h0 =>
    rw [iloc_none_of_empty (by simpa using h0)]
    exact ⟨nofun, nofun⟩
  · cases M.iloc r c with
    | none => exact ⟨nofun, nofun⟩
    | some w => exact ⟨fun h => congrArg some (Except.ok.inj h), fun h => congrArg Except.ok (Option.some.inj h)⟩

/-- the expanded, column-reduced matrix is well-formed again -/
theorem expandSlice_good {α} {m : Mat α} (hg : Proofs.Broadcast.Good m) {rows cols : Nat} (removed : List Nat)
    (hrows : 0 < rows) (hk : 0 < (keptIdx cols removed).length) :
    Proofs.Broadcast.Good (m.expandSlice rows cols removed) :=
  (Proofs.BroadcastAttr.expandSlice_shape hg rows cols removed).good hrows hk

/-! ## the attribute records of `prepare` and `pageAttrs` -/

theorem processed_get (A : TblAttrsOf MatV) (nrows ncols : Nat) (removed : List Nat) (f : Field) :
    f.get (processedAttrs A nrows ncols removed) =
      if removed.isEmpty then f.get A else (f.get A).map fun m => m.expandSlice nrows ncols removed := by
  unfold processedAttrs
  split
  · rfl
  · rw [get_map]

theorem pageAttrs_get (d : Doc) (bodyA : TblAttrsOf MatV) (p : Prep) (pg : Model.Layout.PageCtx) (f : Field)
    (hh : pg.height ≠ 0) (hf : f.isEdge = false) :
    f.get (pageAttrs d bodyA p pg).attrs = (f.get p.attrs).map fun m => m.pageRows pg.start pg.height := by
  unfold pageAttrs
  rw [if_neg hh]
  cases f <;> first | rfl | cases hf


/-! ## `encodeCell` / `encodeRow` as functions of the values read -/

/-- the result of one `BroadcastValue.iloc` -/
abbrev Read := Except String Val

/-- everything `_encode` can read of the attribute record at position `(r, j)` -/
def readAt (A : TblAttrsOf MatV) (r j : Nat) : TblAttrsOf Read := A.map fun M => ilocV M r j

theorem readAt_get (A : TblAttrsOf MatV) (r j : Nat) (f : Field) : f.get (readAt A r j) = ilocV (f.get A) r j :=
  get_map _ A f

/-- records with the same fields are equal -/
theorem ext_get {α : Type} {X Y : TblAttrsOf α} (h : ∀ f : Field, f.get X = f.get Y) : X = Y := by
  obtain ⟨⟨⟩, _⟩ := X
  obtain ⟨⟨⟩, _⟩ := Y
  simp only [TblAttrsOf.mk.injEq, TextAttrsOf.mk.injEq]
  exact ⟨⟨h .font, h .format, h .size, h .color, h .bg, h .just, h .indFirst, h .indLeft, h .indRight, h .space,
    h .spBefore, h .spAfter, h .hyph, h .convert⟩, h .bLeft, h .bRight, h .bTop, h .bBottom, h .bFirst, h .bLast,
    h .bcLeft, h .bcRight, h .bcTop, h .bcBottom, h .bcFirst, h .bcLast, h .bWidth, h .cellHeight, h .cellJust,
    h .cellVJust, h .cellNrow⟩

/-- `textValsAt` on values already read -/
def textValsOf (R : TextAttrsOf Read) : Except String TextVals := do
  return { font := ← R.font, size := ← R.size, format := ← R.format, color := ← R.color, bg := ← R.bg,
           just := ← R.just, indFirst := ← R.indFirst, indLeft := ← R.indLeft, indRight := ← R.indRight,
           space := ← R.space, spBefore := ← R.spBefore, spAfter := ← R.spAfter, convert := ← R.convert,
           hyph := ← R.hyph }

/-- one border side: style and colour read, width shared by the four sides -/
def mkBorder (k : ColorCtx) (bw : Val) (st col : Read) : Except String BorderFmt := do
  resolveBorder k (← st) bw (← col)

/-- `encodeCell` on values already read -/
def cellOf (k : ColorCtx) (R : TblAttrsOf Read) (isLast : Bool) (text : Model.Encode.Str) (width : Option Rat) :
    Except String CellFmt := do
  let bw ← R.bWidth
  let mk := mkBorder k bw
  let right ← (if isLast then some <$> mk R.bRight R.bcRight else pure none : Except String (Option BorderFmt))
  let x ← resolveText k (← textValsOf R.toTextAttrsOf)
  let w ← (match width with
    | some w => pure w
    | none => throw "IndexError" : Except String Rat)
  let left ← mk R.bLeft R.bcLeft
  let top ← mk R.bTop R.bcTop
  let bottom ← mk R.bBottom R.bcBottom
  let vj ← resolveVJust (← R.cellVJust)
  return { left := some left, top := some top, right := right, bottom := some bottom, valign := vj,
           cellx := twip w, text := x.1, body := textNodes (convText x.2 text) }

/-- the cell `_encode` emits is a function of the values read at its position, nothing else of the matrices -/
theorem encodeCell_eq_cellOf (k : ColorCtx) (A : TblAttrsOf MatV) (r j : Nat) (isLast : Bool)
    (text : Model.Encode.Str) (width : Option Rat) :
    encodeCell k A r j isLast text width = cellOf k (readAt A r j) isLast text width := by
  cases isLast <;> cases width <;> rfl


/-! ### inversion -/

theorem mkBorder_inv {k : ColorCtx} {bw : Val} {st col : Read} {b : BorderFmt} (h : mkBorder k bw st col = .ok b) :
    ∃ s c, st = .ok s ∧ col = .ok c ∧ resolveBorder k s bw c = .ok b := by
  unfold mkBorder at h
  peel h as s hs
  peel h as c hc
  exact ⟨s, c, hs, hc, h⟩

/-- a border side made from a style string that was read carries the control word `BORDER_CODES` holds for it -/
theorem mkBorder_str {k : ColorCtx} {bw : Val} {s : String} {col : Read} {b : BorderFmt}
    (h : mkBorder k bw (.ok (.str s)) col = .ok b) :
    ∃ code, borderCodes.lookup s = some code ∧ b.style = codeWord code := by
  obtain ⟨_, _, h1, _, h3⟩ := mkBorder_inv h
  cases h1
  obtain ⟨_, code, e1, e2, e3⟩ := resolveBorder_inv h3
  cases e1
  exact ⟨code, e2, e3⟩

/-- everything a successful `cellOf` did -/
theorem cellOf_inv {k : ColorCtx} {R : TblAttrsOf Read} {isLast : Bool} {text : Model.Encode.Str} {width : Option Rat}
    {c : CellFmt} (h : cellOf k R isLast text width = .ok c) :
    ∃ bw tv tf conv w left top bottom vjv vj right,
      R.bWidth = .ok bw ∧ textValsOf R.toTextAttrsOf = .ok tv ∧ resolveText k tv = .ok (tf, conv) ∧ width = some w ∧
      mkBorder k bw R.bLeft R.bcLeft = .ok left ∧ mkBorder k bw R.bTop R.bcTop = .ok top ∧
      mkBorder k bw R.bBottom R.bcBottom = .ok bottom ∧
      (if isLast then some <$> mkBorder k bw R.bRight R.bcRight else pure none) = .ok right ∧
      R.cellVJust = .ok vjv ∧ resolveVJust vjv = .ok vj ∧
      c = { left := some left, top := some top, right := right, bottom := some bottom, valign := vj,
            cellx := twip w, text := tf, body := textNodes (convText conv text) } := by
  unfold cellOf at h
  peel h as bw h1
  dsimp only at h
  peel h as right hr
  peel h as tv htv
  peel h as x hx
  obtain ⟨tf, conv⟩ := x
  cases width with
  | none => exact (throw_ok (bind_ok h).choose_spec.1).elim
  | some w =>
    simp only [pure_bind] at h
    peel h as left hl
    peel h as top ht
    peel h as bottom hb
    peel h as vjv hvjv
    peel h as vj hvj
    cases pure_ok h
    exact ⟨bw, tv, tf, conv, w, left, top, bottom, vjv, vj, right, h1, htv, hx, rfl, hl, ht, hb, hr, hvjv, hvj, rfl⟩


/-! ## what the output grammar shows of a row -/

/-- the `\cellx` values of a block of the output grammar (a table row), `none` for plain material -/
def blockCellx : BlockG → Option (List Int)
  | .row _ cells _ => some (cells.map (·.cellx))
  | .plain _ => none

/-- the `\cellx` vectors of the rows of an element -/
def elemCellx (e : Elem) : List (List Int) := e.filterMap blockCellx

theorem elemCellx_rowElem (r : RowFmt) : elemCellx (rowElem r) = [r.cells.map (·.cellx)] := by
  simp [elemCellx, rowElem, rowBlock, blockCellx, List.map_map, Function.comp_def]

/-- the `\cellx` values of an encoded row are the first `cells.length` cumulative widths, in twips -/
theorem encodeRow_cellx {k : ColorCtx} {A : TblAttrsOf MatV} {cum : List Rat} {r : Nat}
    {cells : List (Option Model.Encode.Str)} {e : Elem} (h : encodeRow k A cum r cells = .ok e) :
    cells.length ≤ cum.length ∧ elemCellx e = [(cum.take cells.length).map twip] := by
  obtain ⟨_, cs, jv, just, hv, hh, hlen, hcell, _, _, _, _, rfl⟩ := encodeRow_inv h
  have hw : ∀ i, i < cells.length → ∃ c w, cs[i]? = some c ∧ cum[i]? = some w ∧ c.cellx = twip w := by
    intro i hi
    obtain ⟨c, hc, henc⟩ := hcell i cells[i] (List.getElem?_eq_getElem hi)
    rw [encodeCell_eq_cellOf] at henc
    obtain ⟨_, _, _, _, w, _, _, _, _, _, _, _, _, _, hwd, _, _, _, _, _, _, rfl⟩ := cellOf_inv henc
    exact ⟨_, w, hc, hwd, rfl⟩
  refine ⟨?_, ?_⟩
  · refine Nat.le_of_not_lt fun hlt => ?_
    obtain ⟨_, w, _, hw', _⟩ := hw cum.length hlt
    rw [List.getElem?_eq_none (Nat.le_refl _)] at hw'
    cases hw'
  · rw [elemCellx_rowElem]
    congr 1
    apply List.ext_getElem?
    intro i
    by_cases hi : i < cells.length
    · obtain ⟨c, w, hc, hw', hx⟩ := hw i hi
      simp [List.getElem?_map, hc, hx, hi, hw']
    · rw [List.getElem?_eq_none (by simp only [List.length_map]; omega),
        List.getElem?_eq_none (by simp only [List.length_map, List.length_take]; omega)]


/-! ## an accepted run of `encodePages` -/

theorem mapM_mem_left {ε α β : Type} {f : α → Except ε β} {l : List α} {r : List β} (h : l.mapM f = .ok r) :
    ∀ a ∈ l, ∃ b ∈ r, f a = .ok b := by
  intro a ha
  obtain ⟨i, hi⟩ := List.getElem?_of_mem ha
  obtain ⟨b, hb, hr⟩ := all2_get (mapM_ok h) i a hi
  exact ⟨b, List.mem_of_getElem? hb, hr⟩

theorem mapM_length {ε α β : Type} {f : α → Except ε β} {l : List α} {r : List β} (h : l.mapM f = .ok r) :
    r.length = l.length := all2_length (mapM_ok h)

/-- the value `prepare` returns -/
theorem prepare_eq {d : Doc} {p : Prep} {A : TblAttrsOf MatV} {removed : List Nat} (h : prepare d = .ok p)
    (hA : d.body.attrs.mapM Attr.toNested = .ok A) (hr : removedIdx d = .ok removed) :
    p = { removed := removed, keep := keepMask d.cols.length removed,
          ncolsDisp := Model.Widths.nDisplayed (keepMask d.cols.length removed),
          dispCols := dropCols d.cols removed, dispRows := d.rows.map fun r => dropCols r removed,
          attrs := processedAttrs A d.rows.length d.cols.length removed,
          cum := Model.Widths.bodyCum (d.body.colRelWidth.getD []) (keepMask d.cols.length removed)
            d.page.colWidth } := by
  obtain ⟨removed', A', hr', hA', rfl⟩ := prepare_inv h
  cases hA.symm.trans hA'
  cases hr.symm.trans hr'
  rfl

/-- number of displayed columns = number of kept original indices -/
theorem nDisplayed_keepMask (n : Nat) (removed : List Nat) :
    Model.Widths.nDisplayed (keepMask n removed) = (keptIdx n removed).length := by
  unfold Model.Widths.nDisplayed keepMask keptIdx
  rw [List.count_eq_countP, List.countP_map, List.countP_eq_length_filter]
  congr 1
  apply List.filter_congr
  intro x _
  simp

/-- the intermediate values of an accepted run of `encodePages` -/
structure Run (measure : Measure) (k : ColorCtx) (d : Doc) where
  p : Prep
  A : TblAttrsOf MatV
  removed : List Nat
  ld : Model.Layout.LDoc
  near : Nat
  rows : List (List (Option Model.Encode.Str))
  ess : List (List Elem)
  hA : d.body.attrs.mapM Attr.toNested = .ok A
  hrem : removedIdx d = .ok removed
  hp : prepare d = .ok p
  hld : mkLDoc measure d p = .ok (ld, near)
  hrows : finalRows d p (ld.pages.map (·.height)) = .ok rows
  hess : (ld.pages.zip (Model.Layout.layout ld)).mapM
    (fun x => Model.Encode.renderPage k d A p rows x.1 x.2) = .ok ess

theorem encodePages_run {measure : Measure} {k : ColorCtx} {d : Doc} {elems : List Elem} {near : Nat}
    (h : encodePages measure k d = .ok (elems, near)) :
    ∃ R : Run measure k d, R.near = near ∧ elems = R.ess.flatten := by
  rw [Proofs.EncodeLift.encodePages_eq] at h
  peel h as pl hpl
  peel h as ess hess
  cases pure_ok h
  obtain ⟨hp, hA, hld, hrows⟩ := Proofs.EncodeLift.plan_ok hpl
  obtain ⟨removed, _, pf, _⟩ := prepare_facts hp
  exact ⟨{ p := pl.p, A := pl.bodyA, removed := removed, ld := pl.ld, near := pl.near, rows := pl.rows, ess := ess,
           hA := hA, hrem := pf.rem, hp := hp, hld := hld, hrows := hrows, hess := hess }, rfl, rfl⟩

theorem Run.p_eq {measure : Measure} {k : ColorCtx} {d : Doc} (R : Run measure k d) :
    R.p = { removed := R.removed, keep := keepMask d.cols.length R.removed,
            ncolsDisp := Model.Widths.nDisplayed (keepMask d.cols.length R.removed),
            dispCols := dropCols d.cols R.removed, dispRows := d.rows.map fun r => dropCols r R.removed,
            attrs := processedAttrs R.A d.rows.length d.cols.length R.removed,
            cum := Model.Widths.bodyCum (d.body.colRelWidth.getD []) (keepMask d.cols.length R.removed)
              d.page.colWidth } :=
  prepare_eq R.hp R.hA R.hrem

theorem Run.ld_length {measure : Measure} {k : ColorCtx} {d : Doc} (R : Run measure k d) :
    R.ld.rows.length = d.rows.length :=
  mkLDoc_length R.hld (by rw [R.p_eq]; simp)

theorem mem_zip_map {α β : Type} (f : α → β) (l : List α) (a : α) (b : β) (h : (a, b) ∈ l.zip (l.map f)) :
    a ∈ l ∧ b = f a := by
  rw [← List.map_prod_left_eq_zip] at h
  obtain ⟨x, hx, e⟩ := List.mem_map.mp h
  cases e
  exact ⟨hx, rfl⟩

/-- a page the encoder renders: a page of the layout together with its block list -/
def Run.Renders {measure : Measure} {k : ColorCtx} {d : Doc} (R : Run measure k d) (pg : Model.Layout.PageCtx)
    (blocks : List Model.Layout.Block) : Prop :=
  (pg, blocks) ∈ R.ld.pages.zip (Model.Layout.layout R.ld)

theorem Run.renders_mem {measure : Measure} {k : ColorCtx} {d : Doc} (R : Run measure k d)
    {pg : Model.Layout.PageCtx} {blocks : List Model.Layout.Block} (h : R.Renders pg blocks) :
    pg ∈ R.ld.pages ∧ blocks = Model.Layout.renderPage R.ld pg :=
  mem_zip_map _ _ _ _ h

/-- every block of every page is rendered by `renderBlock` with the page's `pageAttrs`, and its elements are part of
the output -/
theorem Run.block_rendered {measure : Measure} {k : ColorCtx} {d : Doc} (R : Run measure k d)
    {pg : Model.Layout.PageCtx} {blocks : List Model.Layout.Block} (h : R.Renders pg blocks)
    {b : Model.Layout.Block} (hb : b ∈ blocks) :
    ∃ es, renderBlock k d R.A R.p R.rows pg (pageAttrs d R.A R.p pg) b = .ok es ∧ ∀ e ∈ es, e ∈ R.ess.flatten := by
  obtain ⟨es, hes, hr⟩ := mapM_mem_left R.hess (pg, blocks) h
  obtain ⟨T, rfl, rfl, hT⟩ := Proofs.EncodeLift.renderPage_trace.mp hr
  obtain ⟨y, hy, rfl⟩ := List.mem_map.mp hb
  exact ⟨y.2, hT y hy, fun e he => List.mem_flatten.mpr ⟨_, hes, List.mem_flatMap.mpr ⟨y, hy, he⟩⟩⟩

theorem mem_dataIdx {bs : List Model.Layout.Block} {i : Nat} :
    i ∈ Proofs.Layout.dataIdx bs ↔ Model.Layout.Block.data i ∈ bs := by
  unfold Proofs.Layout.dataIdx
  rw [List.mem_filterMap]
  constructor
  · rintro ⟨b, hb, he⟩
    cases b <;> simp at he
    subst he; exact hb
  · intro h; exact ⟨_, h, rfl⟩

/-- the geometry of a rendered page and of its data blocks -/
theorem Run.page_geometry {measure : Measure} {k : ColorCtx} {d : Doc} (R : Run measure k d)
    {pg : Model.Layout.PageCtx} {blocks : List Model.Layout.Block} (h : R.Renders pg blocks) :
    pg.dataStart = pg.start ∧ pg.start + pg.height ≤ d.rows.length ∧
    ∀ i, Model.Layout.Block.data i ∈ blocks ↔ (pg.start ≤ i ∧ i < pg.start + pg.height) := by
  obtain ⟨hpg, rfl⟩ := R.renders_mem h
  obtain ⟨h1, h2⟩ := Proofs.Layout.pages_bound R.ld pg hpg
  rw [R.ld_length] at h2
  refine ⟨h1, h2, ?_⟩
  intro i
  rw [← mem_dataIdx, Proofs.Layout.renderPage_dataIdx R.ld pg (by rw [R.ld_length]; exact h2), List.mem_range'_1, h1]

/-- every data block of every page is rendered by `encodeRow` on the page's attributes, at the page-relative row
`i - pg.start`, with the body's cumulative widths -/
theorem Run.data_rendered {measure : Measure} {k : ColorCtx} {d : Doc} (R : Run measure k d)
    {pg : Model.Layout.PageCtx} {blocks : List Model.Layout.Block} (h : R.Renders pg blocks)
    {i : Nat} (hb : Model.Layout.Block.data i ∈ blocks) :
    ∃ cells e, R.rows[i]? = some cells ∧
      encodeRow k (pageAttrs d R.A R.p pg).attrs R.p.cum (i - pg.start) cells = .ok e ∧ e ∈ R.ess.flatten := by
  obtain ⟨es, hr, hes⟩ := R.block_rendered h hb
  obtain ⟨hds, _, _⟩ := R.page_geometry h
  obtain ⟨cells, e, hc, he, rfl⟩ := Proofs.EncodeLift.renderBlock_data_inv hr
  rw [hds] at he
  exact ⟨cells, e, hc, he, hes e List.mem_cons_self⟩


/-! ## C09: the admissible shapes of a user attribute -/

/-- shapes of a user attribute on which `BroadcastValue.iloc` is total after `_to_nested_list` -/
def shapeOk : Attr → Bool
  | .null => true
  | .scalar _ => true
  | .list xs => !xs.isEmpty
  | .tuple xs => !xs.isEmpty
  | .nested m => !m.isEmpty && decide (0 < Mat.ncols m) && m.all fun row => row.length == Mat.ncols m

theorem toNested_goodV {a : Attr} {M : MatV} (h : a.toNested = .ok M) (hs : shapeOk a = true) : GoodV M := by
  intro m hm
  subst hm
  cases a with
  | null => cases h
  | scalar v =>
    simp only [Attr.toNested] at h
    split at h <;> cases h
    exact Proofs.Broadcast.Shape.good (rows := 1) (cols := 1) ⟨rfl, by simp⟩ (by decide) (by decide)
  | list xs =>
    have hpos : 0 < xs.length := List.length_pos_iff.mpr fun e => by subst e; cases hs
    simp only [Attr.toNested] at h
    split at h
    · cases h
      exact Proofs.Broadcast.Shape.good (rows := 1) ⟨rfl, by simp⟩ (by decide) hpos
    · split at h
      · next he => simp [shapeOk, he] at hs
      · cases h
  | tuple xs =>
    have hpos : 0 < xs.length := List.length_pos_iff.mpr fun e => by subst e; cases hs
    cases h
    exact Proofs.Broadcast.Shape.good (cols := 1) ⟨List.length_map _, by simp⟩ hpos (by decide)
  | nested mm =>
    cases h
    simp only [shapeOk, Bool.and_eq_true, decide_eq_true_eq, List.all_eq_true, beq_iff_eq] at hs
    refine ⟨?_, fun row hr => hs.2 row hr, hs.1.2⟩
    intro e
    subst e
    simp at hs

/-! ## C07: the border input of a page -/

open Model.Borders in
/-- one edge attribute as `_apply_pagination_borders` starts from it: the strings of a non-empty matrix, an `h × w` grid
of `""` for an absent or empty one -/
def fillGrid (h w : Nat) (m : MatV) : Mat String :=
  match m with
  | some (r :: rs) => matStr (some (r :: rs))
  | _ => List.replicate h (List.replicate w "")

/-- the input `pageAttrs` hands to `_apply_pagination_borders` -/
def borderIn (d : Doc) (bodyA : TblAttrsOf MatV) (p : Prep) (pg : Model.Layout.PageCtx) : Model.Borders.BorderIn :=
  { isFirst := pg.number == 1, isLast := pg.number == pg.total, start := pg.start, height := pg.height,
    width := p.ncolsDisp, top := fillGrid pg.height p.ncolsDisp p.attrs.bTop,
    bottom := fillGrid pg.height p.ncolsDisp p.attrs.bBottom,
    bodyFirst := matStr bodyA.bFirst, bodyTopOrig := matStr bodyA.bTop, bodyLast := matStr bodyA.bLast,
    pageFirst := d.page.borderFirst, pageLast := d.page.borderLast, hasHeaders := hasHeaderRow d,
    fnTableHere := footTableHere d.footnote d.page.pageFootnote (pg.number == 1) (pg.number == pg.total),
    srcTableHere := footTableHere d.source d.page.pageSource (pg.number == 1) (pg.number == pg.total) }

theorem pageAttrs_edges (d : Doc) (bodyA : TblAttrsOf MatV) (p : Prep) (pg : Model.Layout.PageCtx)
    (hh : pg.height ≠ 0) :
    (pageAttrs d bodyA p pg).attrs.bTop = strMat (Model.Borders.applyBorders (borderIn d bodyA p pg)).top ∧
    (pageAttrs d bodyA p pg).attrs.bBottom = strMat (Model.Borders.applyBorders (borderIn d bodyA p pg)).bottom ∧
    (pageAttrs d bodyA p pg).fnOverride = (Model.Borders.applyBorders (borderIn d bodyA p pg)).fnOverride ∧
    (pageAttrs d bodyA p pg).srcOverride = (Model.Borders.applyBorders (borderIn d bodyA p pg)).srcOverride := by
  unfold pageAttrs
  rw [if_neg hh]
  exact ⟨rfl, rfl, rfl, rfl⟩

/-- the string `_apply_pagination_borders` sees of a value -/
def valStr : Val → String
  | .str s => s
  | _ => ""

theorem matStr_some (m : Mat Val) : matStr (some m) = m.map fun row => row.map valStr := by
  unfold matStr
  simp only
  congr 1

theorem ncols_map {α β : Type} (g : α → β) (m : Mat α) : Mat.ncols (m.map fun row => row.map g) = m.ncols := by
  cases m <;> simp [Mat.ncols]

theorem iloc_map {α β : Type} (g : α → β) (m : Mat α) (r c : Nat) :
    Mat.iloc (m.map fun row => row.map g) r c = (m.iloc r c).map g := by
  unfold Mat.iloc
  rw [ncols_map, List.length_map]
  split
  · rfl
  · rw [List.getElem?_map]
    cases m[r % m.length]? with
    | none => rfl
    | some row =>
      simp only [Option.map_some]
      split
      · rfl
      · rw [List.getElem?_map]

theorem good_map {α β : Type} (g : α → β) {m : Mat α} (h : Proofs.Broadcast.Good m) :
    Proofs.Broadcast.Good (m.map fun row => row.map g) := by
  refine ⟨?_, ?_, ?_⟩
  · intro e; exact h.ne (List.map_eq_nil_iff.mp e)
  · intro row hr
    obtain ⟨row', hr', rfl⟩ := List.mem_map.mp hr
    rw [ncols_map, List.length_map]
    exact h.rect row' hr'
  · rw [ncols_map]; exact h.cols

theorem shape_replicate {α : Type} (x : α) (h w : Nat) :
    Proofs.Broadcast.Shape (List.replicate h (List.replicate w x)) h w :=
  ⟨List.length_replicate, fun row hr => by rw [(List.mem_replicate.mp hr).2, List.length_replicate]⟩

theorem iloc_replicate {α : Type} (x : α) {h w : Nat} (hh : 0 < h) (r : Nat) {c : Nat} (hc : c < w) :
    Mat.iloc (List.replicate h (List.replicate w x)) r c = some x := by
  have hs := shape_replicate x h w
  rw [Proofs.Broadcast.iloc_eq_cell (hs.good hh (by omega)), hs.len, hs.ncols hh]
  unfold Proofs.Broadcast.cell
  simp [Nat.mod_lt r hh, Nat.mod_eq_of_lt hc, hc]

/-- a matrix `_apply_pagination_borders` can work with: absent, empty (both replaced by a grid of `""`), or
well-formed -/
def GoodOrEmpty (M : MatV) : Prop := ∀ m, M = some m → m = [] ∨ Proofs.Broadcast.Good m

theorem goodV_goodOrEmpty {M : MatV} (h : GoodV M) : GoodOrEmpty M := fun m hm => Or.inr (h m hm)

theorem fillGrid_good {h w : Nat} {M : MatV} (hM : GoodOrEmpty M) (hh : 0 < h) (hw : 0 < w) :
    Proofs.Broadcast.Good (fillGrid h w M) := by
  unfold fillGrid
  split
  · next r rs =>
    rw [matStr_some]
    rcases hM _ rfl with h0 | hg
    · cases h0
    · exact good_map _ hg
  · exact (shape_replicate _ _ _).good hh hw

/-! ## the processed matrix of a user attribute: the binding (C09) and the user's edge styles (C07) -/

theorem repeatList_nil {α : Type} (n : Nat) : repeatList ([] : List α) n = [] := by
  induction n with
  | zero => rfl
  | succ n ih => simp [repeatList, ih]

theorem expandSlice_nil {α : Type} (rows cols : Nat) (removed : List Nat) :
    Mat.expandSlice ([] : Mat α) rows cols removed = [] := by
  simp [Mat.expandSlice, Mat.toList, repeatList_nil]

theorem keptIdx_nil_getElem? {n j c : Nat} (hj : (keptIdx n [])[j]? = some c) : c = j := by
  have e : keptIdx n [] = List.range n := by simp [keptIdx]
  rw [e] at hj
  obtain ⟨_, hc⟩ := List.getElem?_eq_some_iff.mp hj
  rw [← hc, List.getElem_range]

/-- the processed form of a user matrix that is absent, empty or well-formed is of the same kind, and a well-formed one
holds at (table row, displayed column) what the user's matrix holds at the original column -/
theorem processed_cases {A : TblAttrsOf MatV} (f : Field) (hM : GoodOrEmpty (f.get A)) {nrows ncols : Nat}
    (removed : List Nat) (hrows : 0 < nrows) (hk : 0 < (keptIdx ncols removed).length) :
    (f.get A = none ∧ f.get (processedAttrs A nrows ncols removed) = none) ∨
    (f.get A = some [] ∧ f.get (processedAttrs A nrows ncols removed) = some []) ∨
    ∃ m m', f.get A = some m ∧ f.get (processedAttrs A nrows ncols removed) = some m' ∧
      Proofs.Broadcast.Good m ∧ Proofs.Broadcast.Good m' ∧
      ∀ r j c, r < nrows → (keptIdx ncols removed)[j]? = some c → m'.iloc r j = m.iloc r c := by
  rw [processed_get]
  cases hfa : f.get A with
  | none => exact Or.inl ⟨rfl, by split <;> rfl⟩
  | some m =>
    rcases hM m hfa with rfl | hg
    · exact Or.inr (Or.inl ⟨rfl, by split <;> simp [expandSlice_nil]⟩)
    · refine Or.inr (Or.inr ?_)
      by_cases hrem : removed.isEmpty = true
      · rw [if_pos hrem]
        cases List.isEmpty_iff.mp hrem
        exact ⟨m, m, rfl, rfl, hg, hg, fun r j c _ hj => by rw [keptIdx_nil_getElem? hj]⟩
      · rw [if_neg hrem]
        exact ⟨m, _, rfl, rfl, hg, expandSlice_good hg removed hrows hk, fun r j c hr hj =>
          Proofs.BroadcastAttr.expandSlice_iloc m nrows ncols removed r j c hg.ne hg.rect hg.cols hr hj⟩

theorem processed_goodOrEmpty {A : TblAttrsOf MatV} (f : Field) (hM : GoodOrEmpty (f.get A)) {nrows ncols : Nat}
    (removed : List Nat) (hrows : 0 < nrows) (hk : 0 < (keptIdx ncols removed).length) :
    GoodOrEmpty (f.get (processedAttrs A nrows ncols removed)) := by
  intro m hm
  rcases processed_cases f hM removed hrows hk with ⟨_, hP⟩ | ⟨_, hP⟩ | ⟨_, m', _, hP, _, hg, _⟩
  · rw [hP] at hm; cases hm
  · rw [hP] at hm; cases hm; exact Or.inl rfl
  · rw [hP] at hm; cases hm; exact Or.inr hg

/-- **binding**: the value `_encode` reads for field `f` at page row `i`, displayed column `j` on the page attributes
is the value the matrix `A` (the user's attribute after `_to_nested_list`) holds at the cell's original position -/
theorem read_binding {d : Doc} {bodyA A : TblAttrsOf MatV} {p : Prep} {removed : List Nat}
    (hattrs : p.attrs = processedAttrs A d.rows.length d.cols.length removed)
    (f : Field) (hf : f.isEdge = false) (hg : GoodV (f.get A)) (pg : Model.Layout.PageCtx)
    (hpage : pg.start + pg.height ≤ d.rows.length) {i j c : Nat} (hi : i < pg.height)
    (hj : (keptIdx d.cols.length removed)[j]? = some c) :
    ilocV (f.get (pageAttrs d bodyA p pg).attrs) i j = ilocV (f.get A) (pg.start + i) c := by
  have hjlt : j < (keptIdx d.cols.length removed).length := (List.getElem?_eq_some_iff.mp hj).1
  rw [pageAttrs_get d bodyA p pg f (by omega) hf, hattrs]
  rcases processed_cases f (goodV_goodOrEmpty hg) removed (show 0 < d.rows.length by omega)
    (show 0 < (keptIdx d.cols.length removed).length by omega)
    with ⟨hA, hP⟩ | ⟨hA, _⟩ | ⟨m, m', hA, hP, hgm, hgm', hcell⟩
  · rw [hA, hP]
    rfl
  · exact absurd rfl (hg _ hA).ne
  · rw [hA, hP]
    apply ilocV_congr (Proofs.Broadcast.pageRows_good hgm' pg.start (show 0 < pg.height by omega)) hgm
    rw [Proofs.Broadcast.pageRows_iloc hgm' pg.start hi, hcell _ j c (by omega) hj]

theorem ilocV_strMat {M : Mat String} {i j : Nat} {s : String} (h : M.iloc i j = some s) :
    ilocV (strMat M) i j = .ok (.str s) :=
  ilocV_some_ok.mpr (by rw [iloc_map, h]; rfl)

/-- the user's border style of the cell at its original position as `_apply_pagination_borders` sees it: the string
value (`""` for anything that is no string), `""` when the attribute is absent or empty -/
def edgeStr (M : MatV) (r c : Nat) : Option String :=
  match M with
  | some (x :: xs) => (Mat.iloc (x :: xs) r c).map valStr
  | _ => some ""

theorem edgeStr_some {M : MatV} (hM : GoodOrEmpty M) (r c : Nat) : ∃ s, edgeStr M r c = some s := by
  unfold edgeStr
  split
  · next x xs =>
    have hg := (hM _ rfl).resolve_left (List.cons_ne_nil x xs)
    exact ⟨_, congrArg _ (Option.eq_some_of_isSome (hg.iloc_isSome r c))⟩
  · exact ⟨"", rfl⟩

/-- the filled processed matrix holds, at (table row, displayed column), the user's style of the original position -/
theorem fill_iloc {A : TblAttrsOf MatV} (f : Field) (hM : GoodOrEmpty (f.get A)) {nrows ncols : Nat}
    (removed : List Nat) {h w r j c : Nat} (hh : 0 < h) (hr : r < nrows) (hjw : j < w)
    (hj : (keptIdx ncols removed)[j]? = some c) :
    (fillGrid h w (f.get (processedAttrs A nrows ncols removed))).iloc r j = edgeStr (f.get A) r c := by
  have hjlt : j < (keptIdx ncols removed).length := (List.getElem?_eq_some_iff.mp hj).1
  rcases processed_cases f hM removed (show 0 < nrows by omega) (show 0 < (keptIdx ncols removed).length by omega)
    with ⟨hA, hP⟩ | ⟨hA, hP⟩ | ⟨m, m', hA, hP, hg, hg', hcell⟩
  · rw [hA, hP]
    exact iloc_replicate "" hh r hjw
  · rw [hA, hP]
    exact iloc_replicate "" hh r hjw
  · obtain ⟨x, xs, rfl⟩ := List.exists_cons_of_ne_nil hg.ne
    obtain ⟨y, ys, rfl⟩ := List.exists_cons_of_ne_nil hg'.ne
    rw [hA, hP]
    show Mat.iloc (matStr (some (y :: ys))) r j = (Mat.iloc (x :: xs) r c).map valStr
    rw [matStr_some, iloc_map, hcell r j c hr hj]


/-! ## statements over all fields; records with replaced edges -/

def Field.all : List Field := [.font, .format, .size, .color, .bg, .just, .indFirst, .indLeft, .indRight, .space, .spBefore, .spAfter, .hyph, .convert, .bLeft, .bRight, .bTop, .bBottom, .bFirst, .bLast, .bcLeft, .bcRight, .bcTop, .bcBottom, .bcFirst, .bcLast, .bWidth, .cellHeight, .cellJust, .cellVJust, .cellNrow]

theorem Field.mem_all (f : Field) : f ∈ Field.all := by cases f <;> decide

/-- every non-edge body attribute has a shape on which `iloc` is total -/
def bodyShapesOk (d : Doc) : Bool := Field.all.all fun f => f.isEdge || shapeOk (f.get d.body.attrs)

theorem bodyShapesOk_field {d : Doc} (h : bodyShapesOk d = true) (f : Field) (hf : f.isEdge = false) :
    shapeOk (f.get d.body.attrs) = true := by
  have := List.all_eq_true.mp h f f.mem_all
  simpa [hf] using this

/-- the record `X` with the two edge fields replaced -/
def withEdges {α : Type} (X : TblAttrsOf α) (t b : α) : TblAttrsOf α := { X with bTop := t, bBottom := b }

theorem get_withEdges {α : Type} (X : TblAttrsOf α) (t b : α) (f : Field) (hf : f.isEdge = false) :
    f.get (withEdges X t b) = f.get X := by
  cases f <;> first | rfl | cases hf

theorem encode_run {measure : Measure} {d : Doc} {g : DocG} (h : encode measure d = .ok g) :
    ∃ R : Run measure (mkColorCtx d) d,
      g.blocks = joinElems R.ess.flatten ++ [BlockG.plain [Node.nl, Node.nl, Node.nl, Node.nl]] := by
  obtain ⟨_, _, _, _, _, _, _, hp, _, _, _, _, _, rfl⟩ := encode_inv h
  obtain ⟨R, _, rfl⟩ := encodePages_run hp
  exact ⟨R, rfl⟩


/-! ## the final frame keeps the number of displayed columns (group_by included) -/

section GroupBy
open Model.GroupBy

/-- the processed frame has the columns of the frame it was made from: an empty group list or an empty frame is
returned as it is, otherwise group columns that exist are overwritten -/
theorem restored_names {df f : Frame} {gb : List Model.GroupBy.Str} {heights : List Nat}
    (h : restored df gb heights = .ok f) : names f = names df := by
  unfold restored at h
  split at h
  · cases h
  · next s hs =>
    cases h
    rcases Proofs.GroupBy.enhance_ok df gb s hs with ⟨h0, rfl⟩ | ⟨_, _, hsub, _, rfl⟩
    · unfold restorePageContext
      split
      · rfl
      · apply List.foldlRecOn (motive := fun r => names r = names s) _ _ rfl
        intro r hr idx _
        unfold restoreOne
        split
        · rcases h0 with rfl | h0
          · exact hr
          · omega
        · exact hr
    · have hn := Proofs.GroupBy.names_suppressHier df gb hsub
      rw [Proofs.GroupBy.names_restorePageContext _ _ _ _ (fun g hg => hn ▸ hsub g hg), hn]

end GroupBy

/-- every row of the final frame has one cell per displayed column name -/
theorem finalRows_width {d : Doc} {p : Prep} {heights : List Nat} {rows : List (List (Option Model.Encode.Str))}
    (h : finalRows d p heights = .ok rows) (hp : ∀ r ∈ p.dispRows, r.length = p.dispCols.length) :
    ∀ r ∈ rows, r.length = p.dispCols.length := by
  unfold finalRows at h
  simp only at h
  split at h
  · cases h; exact hp
  · split at h
    · next f hf =>
      cases h
      intro r hr
      unfold ofFrame at hr
      obtain ⟨i, _, rfl⟩ := List.mem_map.mp hr
      have := congrArg List.length (restored_names hf)
      simp only [Model.GroupBy.names, List.length_map, toFrame, List.length_zipIdx] at this
      simp only [List.length_map, this]
    · cases h

/-- a rectangular frame: every row has one value per column -/
def frameRect (d : Doc) : Bool := d.rows.all fun r => r.length == d.cols.length

/-- in a run on a rectangular frame every final row has `ncolsDisp` cells -/
theorem Run.rows_width {measure : Measure} {k : ColorCtx} {d : Doc} (R : Run measure k d) (hf : frameRect d = true) :
    ∀ r ∈ R.rows, r.length = R.p.ncolsDisp := by
  have hn : R.p.ncolsDisp = R.p.dispCols.length := by
    rw [R.p_eq]
    simp only
    rw [nDisplayed_keepMask, Proofs.BroadcastAttr.dropCols_length]
  rw [hn]
  apply finalRows_width R.hrows
  intro r hr
  rw [R.p_eq] at hr ⊢
  simp only at hr ⊢
  obtain ⟨r0, hr0, rfl⟩ := List.mem_map.mp hr
  have := List.all_eq_true.mp hf r0 hr0
  rw [Proofs.BroadcastAttr.dropCols_length, Proofs.BroadcastAttr.dropCols_length, beq_iff_eq.mp this]


/-! ## the other row kinds: what they render and their `\cellx` vectors (C08) -/

theorem encodeRows_single {k : ColorCtx} {A : TblAttrsOf MatV} {cw : List Rat} {cells : List (Option Model.Encode.Str)}
    {es : List Elem} (h : encodeRows k A cw 0 [cells] = .ok es) :
    ∃ e, es = [e] ∧ encodeRow k A cw 0 cells = .ok e := by
  unfold encodeRows at h
  simp only [List.zipIdx_cons, List.zipIdx_nil, List.mapM_cons, List.mapM_nil] at h
  peel h as e he
  cases pure_ok h
  exact ⟨e, rfl, he⟩

theorem spanningRow_cellx {k : ColorCtx} {d : Doc} {bodyA : TblAttrsOf MatV} {level : Nat} {text : String} {e : Elem}
    (h : spanningRow k d bodyA level text = .ok e) : elemCellx e = [Model.Widths.spanRow d.page.colWidth] := by
  obtain ⟨_, _, _, _, _, _, _, _, _, _, _, _, _, _, _, _, _, _, _, rfl⟩ := spanningRow_parts h
  rw [elemCellx_rowElem]
  rfl

/-- a footnote / source rendered as table is one `encodeRow` at attribute row 0 of the component's own attributes, the
bottom edge replaced by a non-empty override; its single cell ends at the LAST boundary of its own width vector (the
table's right edge; repo fix — formerly the first boundary) -/
theorem renderFoot_row {k : ColorCtx} {d : Doc} {f : Foot} {o : Option String} {es : List Elem}
    (h : renderFoot k d f o = .ok es) (hat : f.asTable = true) :
    ∃ A w b e, f.attrs.mapM Attr.toNested = .ok A ∧ f.colRelWidth = some w ∧ es = [e] ∧
      (∀ s, o = some s → s ≠ "" → b = some [[Val.str s]]) ∧
      encodeRow k (withEdges A A.bTop b) (Model.Widths.colWidths w d.page.colWidth).getLast?.toList 0
        [some (f.text.getD [])] = .ok e := by
  obtain ⟨A, hA, hcase⟩ := renderFoot_inv h
  rcases hcase with ⟨hf, _⟩ | ⟨_, w, hw, hrows⟩
  · rw [hat] at hf
    cases hf
  · obtain ⟨e, rfl, he⟩ := encodeRows_single hrows
    rw [footAttrs_eq] at he
    refine ⟨A, w, (footAttrs A o).bBottom, e, hA, hw, rfl, fun s hs hne => ?_, he⟩
    rw [hs]
    exact footAttrs_bottom A hne

theorem renderFoot_cellx {k : ColorCtx} {d : Doc} {f : Foot} {o : Option String} {es : List Elem}
    (h : renderFoot k d f o = .ok es) (ht : f.asTable = true) :
    ∃ w e, f.colRelWidth = some w ∧ es = [e] ∧
      elemCellx e = [(Model.Widths.colWidths w d.page.colWidth).getLast?.toList.map twip] ∧
      1 ≤ (Model.Widths.colWidths w d.page.colWidth).length := by
  obtain ⟨_, w, _, e, _, hw, rfl, _, he⟩ := renderFoot_row h ht
  obtain ⟨h1, h2⟩ := encodeRow_cellx he
  cases hl : (Model.Widths.colWidths w d.page.colWidth).getLast? with
  | none => rw [hl] at h1; simp at h1
  | some c =>
    rw [hl] at h2
    refine ⟨w, e, hw, rfl, by rw [hl]; simpa using h2, List.length_pos_iff.mpr ?_⟩
    intro hnil
    rw [hnil] at hl
    cases hl

/-- a rendered column header is one `encodeRow` at attribute row 0 of the header's own attributes, edges replaced, over
the boundaries of the width vector `renderHeader` chooses -/
theorem headerInner_row {k : ColorCtx} {d : Doc} {p : Prep} {isFirst : Bool} {idx : Nat} {hdr : Header}
    {text : List Model.Encode.Str} {es : List Elem} (h : headerInner k d p isFirst idx hdr text = .ok es) :
    ∃ A t b e, hdr.attrs.mapM Attr.toNested = .ok A ∧ es = [e] ∧
      encodeRow k (withEdges A t b) (Model.Widths.colWidths (headerV (hdr.colRelWidth.map fun w =>
        Model.Widths.headerDisplayed w p.keep text.length) text.length) d.page.colWidth) 0 (text.map some) = .ok e := by
  obtain ⟨A, c, hA, h⟩ := headerInner_inv h
  obtain ⟨e, rfl, he⟩ := encodeRows_single h
  unfold headAttrs at he
  split at he
  · exact ⟨A, _, _, e, hA, rfl, he⟩
  · exact ⟨A, A.bTop, A.bBottom, e, hA, rfl, he⟩

/-- its cells end at the first `text.length` of those boundaries -/
theorem headerInner_cellx {k : ColorCtx} {d : Doc} {p : Prep} {isFirst : Bool} {idx : Nat} {hdr : Header}
    {text : List Model.Encode.Str} {es : List Elem} (h : headerInner k d p isFirst idx hdr text = .ok es) :
    ∃ e, es = [e] ∧ 0 < text.length ∧
      text.length ≤ (Model.Widths.colWidths (headerV (hdr.colRelWidth.map fun w =>
        Model.Widths.headerDisplayed w p.keep text.length) text.length) d.page.colWidth).length ∧
      elemCellx e = [((Model.Widths.colWidths (headerV (hdr.colRelWidth.map fun w =>
        Model.Widths.headerDisplayed w p.keep text.length) text.length) d.page.colWidth).take text.length).map twip] := by
  obtain ⟨_, _, _, e, _, rfl, he⟩ := headerInner_row h
  obtain ⟨h1, h2⟩ := encodeRow_cellx he
  rw [List.length_map] at h1 h2
  refine ⟨e, rfl, List.length_pos_iff.mpr fun h0 => (encodeRow_inv he).1 ?_, h1, h2⟩
  rw [h0]
  rfl


/-- the cells of a column header: its own text, or the displayed column names under `as_colheader` -/
def headerText (d : Doc) (p : Prep) (h : Header) : Option (List Model.Encode.Str) :=
  match h.text with
  | some t => some t
  | none => if d.body.asColheader then some p.dispCols else none

theorem renderHeader_text {k : ColorCtx} {d : Doc} {p : Prep} {isFirst : Bool} {idx : Nat} {h : Header}
    {es : List Elem} (hr : renderHeader k d p isFirst idx h = .ok es) :
    (headerText d p h = none ∧ es = []) ∨
    ∃ text, headerText d p h = some text ∧ headerInner k d p isFirst idx h text = .ok es := by
  change (match headerText d p h with
    | none => pure []
    | some text => headerInner k d p isFirst idx h text) = .ok es at hr
  cases hT : headerText d p h with
  | none =>
    rw [hT] at hr
    exact Or.inl ⟨rfl, (pure_ok hr).symm⟩
  | some text =>
    rw [hT] at hr
    exact Or.inr ⟨text, rfl, hr⟩

end Proofs.EncodeAttrs
