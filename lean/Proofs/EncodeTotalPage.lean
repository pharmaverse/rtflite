import Proofs.EncodeTotalPrep
import Proofs.Borders
/-!
Totality of the encoder model, part 4: the page attributes (`_apply_pagination_borders`) stay readable, and every
block of a page renders: page break, title / subline, column headers, spanning rows, data rows, footnote / source.
-/
namespace Proofs.EncodeTotal
open Model.Encode Model.EncodeAccepted Model.Broadcast Model.Emit Generated
open Proofs.Encode (MemV)
open Proofs.EncodeAttrs (Field GoodV)
open Proofs.Broadcast (Good)

/-! ## matrices of border styles -/

/-- a border style of the code table -/
def BS (s : String) : Prop := (borderCodes.lookup s).isSome = true

theorem bs_empty : BS "" := by unfold BS; decide

/-- used as `MatAll BS m`: `m` holds border styles of the code table only, which `_apply_pagination_borders` has to keep -/
def MatAll {α : Type} (P : α → Prop) (m : Mat α) : Prop := ∀ row ∈ m, ∀ v ∈ row, P v

theorem matAll_toList {α : Type} {P : α → Prop} {m : Mat α} (h : MatAll P m) (rows cols : Nat) :
    MatAll P (m.toList rows cols) := by
  intro row hrow v hv
  obtain ⟨row', hr', hv'⟩ := Proofs.EncodeAux.toList_mem m rows cols row hrow v hv
  exact h row' hr' v hv'

theorem matAll_updateCell {α : Type} {P : α → Prop} {m : Mat α} (h : MatAll P m) (rows cols r c : Nat) {x : α}
    (hx : P x) : MatAll P (m.updateCell rows cols r c x) := by
  have ht := matAll_toList h rows cols
  unfold Mat.updateCell
  dsimp only
  cases he : (m.toList rows cols)[r]? with
  | none => exact ht
  | some row0 =>
    intro row hrow v hv
    rcases List.mem_or_eq_of_mem_set hrow with hrow | rfl
    · exact ht row hrow v hv
    · rcases List.mem_or_eq_of_mem_set hv with hv | rfl
      · exact ht row0 (List.mem_of_getElem? he) v hv
      · exact hx

theorem matAll_applyRow {P : String → Prop} {m : Mat String} (h : MatAll P m) (hh w row : Nat) (style : Nat → String)
    (hs : ∀ c, P (style c)) : MatAll P (Model.Borders.applyRow m hh w row style) := by
  unfold Model.Borders.applyRow
  apply Proofs.EncodeAux.foldl_inv (MatAll P)
  · exact h
  · intro acc c hacc
    exact matAll_updateCell hacc _ _ _ _ (hs c)

theorem matAll_pageRows {α : Type} {P : α → Prop} {m : Mat α} (h : MatAll P m) (start height : Nat) :
    MatAll P (m.pageRows start height) :=
  fun row hrow v hv => h row (Proofs.EncodeAux.pageRows_mem m start height row hrow) v hv

theorem getD_cases {α : Type} (l : List α) (i : Nat) (x : α) : l.getD i x = x ∨ l.getD i x ∈ l := by
  rw [List.getD_eq_getElem?_getD]
  cases h : l[i]? with
  | none => exact Or.inl rfl
  | some v => exact Or.inr (List.mem_of_getElem? h)

/-- any entry of the first row, with `""` beyond its end -/
theorem head_getD_bs {m : Mat String} (h : MatAll BS m) (i : Nat) : BS ((m.head?.getD []).getD i "") := by
  rcases getD_cases (m.head?.getD []) i "" with e | e
  · rw [e]; exact bs_empty
  · cases m with
    | nil => cases e
    | cons r rs => exact h r List.mem_cons_self _ e

open Model.Borders in
theorem bodyFirstStyle_bs {b : BorderIn} (h1 : MatAll BS b.bodyFirst) (h2 : MatAll BS b.bodyTopOrig) (c : Nat) :
    BS (bodyFirstStyle b c) := by
  unfold bodyFirstStyle
  dsimp only
  split
  · exact head_getD_bs h2 c
  · split
    · exact head_getD_bs h1 c
    · exact head_getD_bs h1 0

open Model.Borders in
theorem closingStyle_bs {b : BorderIn} (h1 : MatAll BS b.bodyLast) (h2 : BS b.pageLast) {s : String}
    (h : closingStyle b = some s) : BS s := by
  unfold closingStyle at h
  split at h
  · split at h
    · cases h
      unfold bodyLastStyle
      cases hm : b.bodyLast.head?.bind List.head? with
      | none => exact bs_empty
      | some x =>
        obtain ⟨r, hr, hx⟩ := Option.bind_eq_some_iff.mp hm
        exact h1 r (List.mem_of_head? hr) x (List.mem_of_head? hx)
    · cases h
  · split at h
    · cases h; exact h2
    · cases h

/-- a readable matrix of border styles -/
structure GoodBS (m : Mat String) : Prop where
  good : Good m
  all : MatAll BS m

open Model.Borders Proofs.Borders in
/-- `_apply_pagination_borders` keeps both matrices readable and writes border styles of the code table only -/
theorem applyBorders_bs {b : BorderIn} (hh : 0 < b.height) (hw : 0 < b.width) (ht : GoodBS b.top)
    (hb : GoodBS b.bottom) (hf : MatAll BS b.bodyFirst) (hto : MatAll BS b.bodyTopOrig) (hl : MatAll BS b.bodyLast)
    (hpf : BS b.pageFirst) (hpl : BS b.pageLast) :
    GoodBS (applyBorders b).top ∧ GoodBS (applyBorders b).bottom ∧
    (∀ s, (applyBorders b).fnOverride = some s → BS s) ∧ (∀ s, (applyBorders b).srcOverride = some s → BS s) := by
  have hne : b.height ≠ 0 := by omega
  have t0 : GoodBS (top0 b) := ⟨top0_good ht.good hh, matAll_pageRows ht.all _ _⟩
  have b0 : GoodBS (bot0 b) := ⟨bot0_good hb.good hh, matAll_pageRows hb.all _ _⟩
  have t1 : GoodBS (top1 b) := by
    unfold top1
    split
    · exact ⟨applyRow_good t0.good hh hw hh _, matAll_applyRow t0.all _ _ _ _ (fun _ => hpf)⟩
    · exact t0
  have t2 : GoodBS (top2 b) := by
    unfold top2
    split
    · exact ⟨applyRow_good t1.good hh hw hh _, matAll_applyRow t1.all _ _ _ _ (bodyFirstStyle_bs hf hto)⟩
    · exact t1
  cases hc : closingStyle b with
  | none =>
    rw [applyBorders_none b hne hc]
    exact ⟨t2, b0, by simp, by simp⟩
  | some s =>
    have hs := closingStyle_bs hl hpl hc
    cases hsrc : b.srcTableHere with
    | true =>
      rw [applyBorders_src b hne s hc hsrc]
      exact ⟨t2, b0, by simp, by rintro _ ⟨⟩; exact hs⟩
    | false =>
      cases hfn : b.fnTableHere with
      | true =>
        rw [applyBorders_fn b hne s hc hfn hsrc]
        exact ⟨t2, b0, by rintro _ ⟨⟩; exact hs, by simp⟩
      | false =>
        rw [applyBorders_data b hne s hc hfn hsrc]
        exact ⟨t2, ⟨applyRow_good b0.good hh hw (by omega) _, matAll_applyRow b0.all _ _ _ _ (fun _ => hs)⟩,
          by simp, by simp⟩

/-! ## from attribute matrices to border-style matrices and back -/

theorem okBorder_valStr {v : Val} (h : okBorder v = true) : BS (Proofs.EncodeAttrs.valStr v) := by
  cases v with
  | str s => exact h
  | _ => cases h

theorem matStr_all {s : Spec} {M : MatV} (h : FieldGood s M) (hs : s.ok = okBorder) : MatAll BS (matStr M) := by
  cases M with
  | none => intro row hrow; simp [matStr] at hrow
  | some m =>
    rw [Proofs.EncodeAttrs.matStr_some]
    intro row hrow v hv
    obtain ⟨row', hr', rfl⟩ := List.mem_map.mp hrow
    obtain ⟨x, hx, rfl⟩ := List.mem_map.mp hv
    apply okBorder_valStr
    rw [← hs]
    exact h.vals x ⟨m, rfl, row', hr', hx⟩

theorem fillGrid_bs {s : Spec} {M : MatV} (h : FieldGood s M) (hs : s.ok = okBorder) {hh w : Nat} (h1 : 0 < hh)
    (h2 : 0 < w) : GoodBS (Proofs.EncodeAttrs.fillGrid hh w M) := by
  refine ⟨Proofs.EncodeAttrs.fillGrid_good (Proofs.EncodeAttrs.goodV_goodOrEmpty h.good) h1 h2, ?_⟩
  unfold Proofs.EncodeAttrs.fillGrid
  split
  · next r rs => exact matStr_all h hs
  · intro row hrow v hv
    rw [(List.mem_replicate.mp hrow).2] at hv
    rw [(List.mem_replicate.mp hv).2]
    exact bs_empty

/-- a matrix of border styles as an attribute matrix -/
theorem strMat_good {s : Spec} {M : Mat String} (h : GoodBS M) (hs : s.ok = okBorder) : FieldGood s (strMat M) :=
  .of_some (Proofs.EncodeAttrs.good_map _ h.good) fun row hrow v hv => by
    obtain ⟨row', hr', rfl⟩ := List.mem_map.mp hrow
    obtain ⟨x, hx, rfl⟩ := List.mem_map.mp hv
    rw [hs]
    exact h.all row' hr' x hx

/-- the attributes of a page with data rows are readable, and the border overrides for footnote / source are
border styles of the code table -/
theorem pageAttrs_good {d : Doc} {bodyA : TblAttrsOf MatV} {p : Prep} {pg : Model.Layout.PageCtx}
    (hA : TblGood bodyA) (hp : TblGood p.attrs) (hh : 0 < pg.height) (hw : 0 < p.ncolsDisp)
    (hbf : BS d.page.borderFirst) (hbl : BS d.page.borderLast) :
    TblGood (pageAttrs d bodyA p pg).attrs ∧
    (∀ s, (pageAttrs d bodyA p pg).fnOverride = some s → BS s) ∧
    (∀ s, (pageAttrs d bodyA p pg).srcOverride = some s → BS s) := by
  have hne : pg.height ≠ 0 := by omega
  obtain ⟨e1, e2, e3, e4⟩ := Proofs.EncodeAttrs.pageAttrs_edges d bodyA p pg hne
  have hb := applyBorders_bs (b := Proofs.EncodeAttrs.borderIn d bodyA p pg) hh hw
    (fillGrid_bs (hp .bTop) rfl hh hw) (fillGrid_bs (hp .bBottom) rfl hh hw)
    (matStr_all (hA .bFirst) rfl) (matStr_all (hA .bTop) rfl) (matStr_all (hA .bLast) rfl) hbf hbl
  refine ⟨?_, by rw [e3]; exact hb.2.2.1, by rw [e4]; exact hb.2.2.2⟩
  intro f
  by_cases hf : f.isEdge = true
  · cases f <;> simp [Field.isEdge] at hf
    · show FieldGood _ (pageAttrs d bodyA p pg).attrs.bTop
      rw [e1]; exact strMat_good hb.1 rfl
    · show FieldGood _ (pageAttrs d bodyA p pg).attrs.bBottom
      rw [e2]; exact strMat_good hb.2.1 rfl
  · rw [Proofs.EncodeAttrs.pageAttrs_get d bodyA p pg f hne (by simpa using hf)]
    exact (hp f).map _ (fun m hm => Proofs.Broadcast.pageRows_good hm pg.start hh)
      (fun m row hrow v hv => ⟨row, Proofs.EncodeAux.pageRows_mem m pg.start pg.height row hrow, hv⟩)

/-! ## fixed material -/

theorem marginNodes_total {pg : Page} (h : pg.margin.length = 6) : ∃ ns, marginNodes pg = .ok ns := by
  unfold marginNodes
  have : (pg.margin.length != 6) = false := by simp [h]
  simp only [this, Bool.false_eq_true, if_false]
  exact ⟨_, rfl⟩

theorem pageSettings_total {pg : Page} (h : pg.margin.length = 6) : ∃ ns, pageSettings pg = .ok ns :=
  bind_total (marginNodes_total h) fun _ _ => ⟨_, rfl⟩

theorem pageBreak_total {pg : Page} (h : pg.margin.length = 6) : ∃ ns, pageBreak pg = .ok ns :=
  bind_total (marginNodes_total h) fun _ _ => ⟨_, rfl⟩

/-! ## title, subline, page header / footer -/

/-- the first line of an optional text component, wrapped by `F` (`textElem`, `pageHF`) -/
theorem textComp_total (k : ColorCtx) {β : Type} (F : Model.Rtf.Node → β) {c : Option TextComp}
    (ha : ∀ x, c = some x → TextAttrsOf.zipAll accAttr textSpec x.attrs = true)
    (hs : ∀ x, c = some x → TextAttrsOf.zipAll shpAttr textSpec x.attrs = true) :
    ∃ es, (match (generalizing := false) c with
      | none => .ok []
      | some c => match c.text with
        | none => .ok []
        | some [] => .ok []
        | some text => do
          let a ← c.attrs.mapM Attr.toNested
          return [F (← encodeTextLine k a text)]) = (.ok es : Except String (List β)) := by
  cases c with
  | none => exact ⟨_, rfl⟩
  | some x =>
    dsimp only
    cases ht : x.text with
    | none => exact ⟨_, rfl⟩
    | some t =>
      cases t with
      | nil => exact ⟨_, rfl⟩
      | cons l ls =>
        obtain ⟨A, hA, hg⟩ := textNested_total (ha x rfl) (hs x rfl)
        obtain ⟨n, hn⟩ := encodeTextLine_total k hg (text := l :: ls) (by simp)
        dsimp only
        simp only [hA, hn, ok_bind, pure_eq_ok]
        exact ⟨_, rfl⟩

theorem textElem_total (k : ColorCtx) {c : Option TextComp}
    (ha : ∀ x, c = some x → TextAttrsOf.zipAll accAttr textSpec x.attrs = true)
    (hs : ∀ x, c = some x → TextAttrsOf.zipAll shpAttr textSpec x.attrs = true) : ∃ es, textElem k c = .ok es :=
  textComp_total k (fun n => [Model.Rtf.BlockG.plain [n]]) ha hs

theorem pageHF_total (k : ColorCtx) (word : String) {c : Option TextComp}
    (ha : ∀ x, c = some x → TextAttrsOf.zipAll accAttr textSpec x.attrs = true)
    (hs : ∀ x, c = some x → TextAttrsOf.zipAll shpAttr textSpec x.attrs = true) :
    ∃ ns, pageHF k word c = .ok ns :=
  textComp_total k (fun n => Model.Rtf.Node.grp [Model.Rtf.cw0 word, n]) ha hs

/-! ## footnote / source -/

theorem TblGood.with_bTop {A : TblAttrsOf MatV} (hA : TblGood A) {M : MatV}
    (hM : FieldGood (Field.get .bTop tblSpec) M) : TblGood { A with bTop := M } := fun f => by
  cases f
  case bTop => exact hM
  all_goals exact hA _

theorem TblGood.with_bBottom {A : TblAttrsOf MatV} (hA : TblGood A) {M : MatV}
    (hM : FieldGood (Field.get .bBottom tblSpec) M) : TblGood { A with bBottom := M } := fun f => by
  cases f
  case bBottom => exact hM
  all_goals exact hA _

/-- one row that repeats a border style of the code table -/
theorem replicateRow_good {s : Spec} {st : String} (hs : s.ok = okBorder) (h : BS st) {n : Nat} (hn : 0 < n) :
    FieldGood s (some [List.replicate n (Val.str st)]) :=
  .of_some ⟨by simp, by intro row hr; simp at hr; subst hr; simp [Mat.ncols], by simp [Mat.ncols]; omega⟩
    fun row hrow v hv => by
      rw [List.mem_singleton.mp hrow] at hv
      rw [(List.mem_replicate.mp hv).2, hs]
      exact h

/-- the optional footnote / source of a page -/
theorem renderFoot_total (k : ColorCtx) (d : Doc) {o : Option Foot}
    (ha : ∀ f, o = some f → TblAttrsOf.zipAll accAttr tblSpec f.attrs = true ∧
      ∀ w, f.colRelWidth = some w → w ≠ [] ∧ Proofs.Widths.AllPos w)
    (hs : ∀ f, o = some f → TblAttrsOf.zipAll shpAttr tblSpec f.attrs = true ∧
      (f.asTable = true → f.colRelWidth.isSome = true))
    {override : Option String} (ho : ∀ s, override = some s → BS s) :
    ∃ es, (match o with
      | some f => renderFoot k d f override
      | none => .ok []) = .ok es := by
  cases o with
  | none => exact ⟨_, rfl⟩
  | some f =>
    obtain ⟨ha, hw⟩ := ha f rfl
    obtain ⟨hs, htab⟩ := hs f rfl
    obtain ⟨A, hA, hg⟩ := tblNested_total ha hs
    have hg' : TblGood (Proofs.Encode.footAttrs A override) := by
      unfold Proofs.Encode.footAttrs
      cases override with
      | none => exact hg
      | some s =>
        dsimp only
        split
        · exact hg.with_bBottom (replicateRow_good (n := 1) rfl (ho s rfl) (by decide))
        · exact hg
    unfold renderFoot
    simp only [hA, ok_bind]
    cases hta : f.asTable with
    | false =>
      simp only [Bool.not_false, if_true]
      exact bind_total (encodeTextParas_total k hg'.text _) fun _ _ => ⟨_, rfl⟩
    | true =>
      simp only [Bool.not_true, Bool.false_eq_true, if_false]
      obtain ⟨w, hw'⟩ := Option.isSome_iff_exists.mp (htab hta)
      obtain ⟨hne, hpos⟩ := hw w hw'
      rw [hw']
      dsimp only
      rw [if_neg (sumQ_guard hpos)]
      apply encodeRows_total k hg' 0
      intro cells hc
      rw [List.mem_singleton.mp hc]
      refine ⟨by simp, ?_⟩
      cases hl : (Model.Widths.colWidths w d.page.colWidth).getLast? with
      | none =>
        have hlen := Proofs.Widths.colWidths_length w d.page.colWidth
        rw [List.getLast?_eq_none_iff.mp hl] at hlen
        exact absurd (List.eq_nil_of_length_eq_zero hlen.symm) hne
      | some c => simp

/-! ## column headers -/

theorem headerV_eq (hw : Option (List Rat)) (n : Nat) :
    (match hw with
      | some (w :: ws) => w :: ws
      | _ => List.replicate n 1) = Proofs.Encode.headerV hw n := rfl

/-- the header row of `text`, once there are cells and widths for them -/
theorem headerInner_total (k : ColorCtx) {d : Doc} {p : Prep} (isFirst : Bool) (idx : Nat) {h : Header}
    {text : List Model.Encode.Str} (hbf : BS d.page.borderFirst)
    (ha : TblAttrsOf.zipAll accAttr tblSpec h.attrs = true) (hs : TblAttrsOf.zipAll shpAttr tblSpec h.attrs = true)
    (hwa : ∀ w, h.colRelWidth = some w → Proofs.Widths.AllPos w) (hn : 0 < text.length)
    (hlen : text.length ≤ (Proofs.Encode.headerV
      (h.colRelWidth.map fun w => Model.Widths.headerDisplayed w p.keep text.length) text.length).length) :
    ∃ es, Proofs.Encode.headerInner k d p isFirst idx h text = .ok es := by
  obtain ⟨A0, hA0, hg⟩ := tblNested_total ha hs
  have hvpos := Proofs.Encode.allPos_headerV
    (hw := h.colRelWidth.map fun w => Model.Widths.headerDisplayed w p.keep text.length) (fun w hm => by
      obtain ⟨w0, hc, rfl⟩ := Option.map_eq_some_iff.mp hm
      exact Proofs.Encode.allPos_headerDisplayed (hwa w0 hc) _ _) text.length
  unfold Proofs.Encode.headerInner
  dsimp only
  generalize Proofs.Encode.headerV _ _ = v at hvpos hlen
  have hvne : v ≠ [] := by
    rintro rfl
    exact absurd hlen (by simp only [List.length_nil]; omega)
  rw [if_neg (by omega)]
  simp only [ok_bind, hA0]
  rw [if_neg fun hc => sumQ_guard hvpos (by simp [hc, hvne])]
  apply encodeRows_total k
  · split
    · -- the first header of the first page: its top border is the page's
      cases hb : A0.bTop with
      | none => exact absurd hb ((hg .bTop).req rfl)
      | some m => exact hg.with_bTop (replicateRow_good rfl hbf hn)
    · exact hg
  · intro cells hc
    rw [List.mem_singleton.mp hc, List.length_map, Proofs.Widths.colWidths_length]
    exact ⟨fun h0 => by rw [List.map_eq_nil_iff] at h0; rw [h0] at hn; exact absurd hn (by decide), hlen⟩

theorem renderHeader_total (k : ColorCtx) {d : Doc} {p : Prep} {removed : List Nat} {A : TblAttrsOf MatV}
    (hprep : PrepOk d p removed A) (hacc : AccFacts d) (hsh : ShapeFacts d removed) (isFirst : Bool) (idx : Nat)
    {h : Header} (hmem : some h ∈ d.headers) : ∃ es, renderHeader k d p isFirst idx h = .ok es := by
  obtain ⟨ha, hwa⟩ := hacc.headers h hmem
  obtain ⟨hs, hcells⟩ := hsh.headers h hmem
  rw [Proofs.Encode.renderHeader_eq]
  split
  · exact ⟨_, rfl⟩
  · next text htext =>
    have hkeep : p.keep = keepMask d.cols.length removed := by rw [hprep.eq]
    -- `headerCells` chooses the text as `renderHeader` does
    obtain ⟨hn, hlen⟩ := hcells text.length (Proofs.Encode.headerV
      (h.colRelWidth.map fun w => Model.Widths.headerDisplayed w p.keep text.length) text.length) (by
        revert htext
        unfold headerCells
        rw [← hprep.dispCols_eq, ← hkeep]
        cases h.text with
        | some t => rintro ⟨rfl⟩; rfl
        | none =>
          dsimp only
          split
          · rintro ⟨rfl⟩; rfl
          · intro h0; cases h0)
    exact headerInner_total k isFirst idx hacc.borderFirst ha hs hwa hn hlen

/-! ## spanning rows -/

/-- the local `get` of `spanningRow` (`dflt` when the body holds no matrix for the field, else `ilocV`) returns a value
with any property `W` that the default and the admissible values of the field have -/
theorem getOr_spec {s : Spec} {M : MatV} (h : FieldGood s M) (dflt : Val) (r c : Nat) (W : Val → Prop) (hd : W dflt)
    (hok : ∀ v, s.ok v = true → W v) :
    ∃ a, (match M with
      | none => (Except.ok dflt : Except String Val)
      | some _ => ilocV M r c) = .ok a ∧ W a := by
  cases M with
  | none => exact ⟨dflt, rfl, hd⟩
  | some m =>
    obtain ⟨v, hv, g⟩ := ilocV_total h r c
    rcases g with g | ⟨_, g⟩
    · exact ⟨v, hv, hok v g⟩
    · cases g

/-- `getOr_spec` for a text field of the body, with a default `resolveText` takes -/
theorem getOr_W {M : MatV} (f : TField) (h : FieldGood (f.get textSpec) M) {dflt : Val} (hd : f.W dflt) (r c : Nat) :
    ∃ a, (match M with
      | none => (Except.ok dflt : Except String Val)
      | some _ => ilocV M r c) = .ok a ∧ f.W a :=
  getOr_spec h dflt r c f.W hd fun _ => f.W_of_ok

theorem side_total (k : ColorCtx) {s : Spec} {M : MatV} (h : FieldGood s M) (hs : s.ok = okBorder) (c : Nat) :
    ∃ o, (do
      let x ← (match M with
        | none => (Except.ok (Val.str "single") : Except String Val)
        | some _ => ilocV M 0 c)
      some <$> resolveBorder k x .null .null) = .ok o := by
  obtain ⟨a, ha, ga⟩ := getOr_spec h (.str "single") 0 c (fun v => okBorder v = true) (by decide)
    (fun v hv => by rw [← hs]; exact hv)
  obtain ⟨b, hb⟩ := resolveBorder_total k ga (Or.inl rfl) (Or.inl rfl)
  exact ⟨some b, by rw [ha]; simp only [ok_bind, hb, map_ok_eq]⟩

theorem okFormat_empty : okFormat (.str "") = true := by decide
theorem okTextJust_c : okTextJust (.str "c") = true := by decide
theorem okVJust_bottom : okVJust (.str "bottom") = true := by decide
theorem okRowJust_c : okRowJust (.str "c") = true := by decide

theorem spanningRow_total (k : ColorCtx) (d : Doc) {bodyA : TblAttrsOf MatV} (hA : TblGood bodyA) (level : Nat)
    (text : String) : ∃ e, spanningRow k d bodyA level text = .ok e := by
  unfold spanningRow
  dsimp only
  have hT := hA.text
  -- the reads in the order of `spanningRow`; each default below is the one `encode_spanning_row` passes for its field
  refine bind_total' _ (getOr_W .font (hT .font) ⟨0, rfl⟩ _ _) fun v1 g1 => ?_
  refine bind_total' _ (getOr_W .size (hT .size) ⟨18, rfl⟩ _ _) fun v2 g2 => ?_
  refine bind_total' _ (getOr_W .format (hT .format) (Or.inr okFormat_empty) _ _) fun v3 g3 => ?_
  refine bind_total' _ (getOr_W .color (hT .color) (Or.inr ⟨_, rfl⟩) _ _) fun v4 g4 => ?_
  refine bind_total' _ (getOr_W .bg (hT .bg) (Or.inr ⟨_, rfl⟩) _ _) fun v5 g5 => ?_
  refine bind_total' _ (getOr_W .just (hT .just) okTextJust_c _ _) fun v6 g6 => ?_
  refine bind_total' _ (getOr_W .indFirst (hT .indFirst) ⟨0, rfl⟩ _ _) fun v7 g7 => ?_
  refine bind_total' _ (getOr_W .indLeft (hT .indLeft) ⟨0, rfl⟩ _ _) fun v8 g8 => ?_
  refine bind_total' _ (getOr_W .indRight (hT .indRight) ⟨0, rfl⟩ _ _) fun v9 g9 => ?_
  refine bind_total' _ (getOr_W .space (hT .space) ⟨1, rfl⟩ _ _) fun v10 g10 => ?_
  refine bind_total' _ (getOr_W .spBefore (hT .spBefore) ⟨15, rfl⟩ _ _) fun v11 g11 => ?_
  refine bind_total' _ (getOr_W .spAfter (hT .spAfter) ⟨15, rfl⟩ _ _) fun v12 g12 => ?_
  refine bind_total' _ (getOr_W .convert (hT .convert) ⟨false, rfl⟩ _ _) fun v13 g13 => ?_
  refine bind_total' _ (getOr_W .hyph (hT .hyph) ⟨true, rfl⟩ _ _) fun v14 g14 => ?_
  refine bind_total (resolveText_total k
    { font := g1, size := g2, format := g3, color := g4, bg := g5, just := g6, indFirst := g7, indLeft := g8,
      indRight := g9, space := g10, spBefore := g11, spAfter := g12, convert := g13, hyph := g14 }) (fun _ _ => ?_)
  refine bind_total' (fun v => okVJust v = true) (getOr_spec (hA .cellVJust) _ _ _ _ okVJust_bottom (fun v hv => hv))
    (fun v15 g15 => ?_)
  refine bind_total (resolveVJust_total (Or.inr g15)) (fun _ _ => ?_)
  refine bind_total' (fun v => okRowJust v = true) (getOr_spec (hA .cellJust) _ _ _ _ okRowJust_c (fun v hv => hv))
    (fun v16 g16 => ?_)
  refine bind_total (resolveRowJust_total g16) (fun _ _ => ?_)
  refine bind_total' wRat (getOr_spec (hA .cellHeight) _ _ _ wRat ⟨3 / 20, rfl⟩ (fun v hv => wRat_of_okPosNum hv))
    (fun v17 g17 => ?_)
  refine bind_total g17 (fun _ _ => ?_)
  refine bind_total (side_total k (hA .bLeft) rfl _) (fun _ _ => ?_)
  refine bind_total (side_total k (hA .bTop) rfl _) (fun _ _ => ?_)
  refine bind_total (side_total k (hA .bRight) rfl _) (fun _ _ => ?_)
  refine bind_total (side_total k (hA .bBottom) rfl _) (fun _ _ => ?_)
  exact ⟨_, rfl⟩

/-! ## one block, one page -/

/-- what `renderBlock` / `renderPage` need to know about the document, the prepared frame and the final rows -/
structure PageFacts (d : Doc) (p : Prep) (removed : List Nat) (A : TblAttrsOf MatV)
    (rows : List (List (Option Str))) : Prop where
  prep : PrepOk d p removed A
  acc : AccFacts d
  shp : ShapeFacts d removed
  rowsOk : ∀ r ∈ rows, r ≠ [] ∧ r.length ≤ p.cum.length
  rowsLen : rows.length = d.rows.length

theorem renderBlock_total (k : ColorCtx) {d : Doc} {p : Prep} {removed : List Nat} {A : TblAttrsOf MatV}
    {rows : List (List (Option Str))} (F : PageFacts d p removed A rows) (pg : Model.Layout.PageCtx)
    (hpg : 0 < pg.height → d.rows ≠ [])
    (b : Model.Layout.Block) (hb : ∀ i, b = .data i → i < rows.length ∧ 0 < pg.height) :
    ∃ es, renderBlock k d A p rows pg (pageAttrs d A p pg) b = .ok es := by
  have hacc := F.acc
  have hsh := F.shp
  have hw : 0 < p.ncolsDisp := by rw [F.prep.ncols_eq]; exact hsh.ndPos
  have hpa := fun (hh : 0 < pg.height) => pageAttrs_good (d := d) (pg := pg) F.prep.good
    (F.prep.attrs_good hsh (hpg hh)) hh hw hacc.borderFirst hacc.borderLast
  have hov : (∀ s, (pageAttrs d A p pg).fnOverride = some s → BS s) ∧
      (∀ s, (pageAttrs d A p pg).srcOverride = some s → BS s) := by
    by_cases hh : pg.height = 0
    · unfold pageAttrs
      rw [if_pos hh]
      exact ⟨by simp, by simp⟩
    · exact (hpa (by omega)).2
  cases b with
  | brk => exact bind_total (pageBreak_total hacc.margin) fun _ _ => ⟨_, rfl⟩
  | title => exact bind_total (textElem_total k hacc.title hsh.title) fun _ _ => ⟨_, rfl⟩
  | subline => exact textElem_total k hacc.subline hsh.subline
  | sublineHeading t =>
    simp only [renderBlock]
    split <;> exact ⟨_, rfl⟩
  | colHeader i =>
    simp only [renderBlock]
    cases hh : (d.headers[i]?).join with
    | none => exact ⟨_, rfl⟩
    | some h =>
      exact renderHeader_total k F.prep hacc hsh _ _ (List.mem_of_getElem? (Option.join_eq_some_iff.mp hh))
  | heading lvl t => exact bind_total (spanningRow_total k d F.prep.good lvl t) fun _ _ => ⟨_, rfl⟩
  | data i =>
    obtain ⟨hi, hh⟩ := hb i rfl
    simp only [renderBlock]
    rw [List.getElem?_eq_getElem hi]
    dsimp only
    obtain ⟨h1, h2⟩ := F.rowsOk rows[i] (List.getElem_mem hi)
    exact bind_total (encodeRow_total k (hpa hh).1 (i - pg.dataStart) h1 h2) fun _ _ => ⟨_, rfl⟩
  | footnote t => exact renderFoot_total k d hacc.footnote hsh.footnote hov.1
  | source t => exact renderFoot_total k d hacc.source hsh.source hov.2

theorem renderPage_total (k : ColorCtx) {d : Doc} {p : Prep} {removed : List Nat} {A : TblAttrsOf MatV}
    {rows : List (List (Option Str))} (F : PageFacts d p removed A rows) (pg : Model.Layout.PageCtx)
    (hpg : 0 < pg.height → d.rows ≠ []) (blocks : List Model.Layout.Block)
    (hb : ∀ i, Model.Layout.Block.data i ∈ blocks → i < rows.length ∧ 0 < pg.height) :
    ∃ es, renderPage k d A p rows pg blocks = .ok es := by
  unfold renderPage
  dsimp only
  refine bind_total ?_ (fun _ _ => ⟨_, rfl⟩)
  apply mapM_total
  intro b hbm
  exact renderBlock_total k F pg hpg b (fun i hi => hb i (hi ▸ hbm))

end Proofs.EncodeTotal
