import Model.Encode
import Proofs.Encode
/-!
# The line estimate of a row measures every displayed cell in ITS OWN column

`Model.Encode.dataLines` (the model of the data-row part of `calculate_row_metadata`) walks the DISPLAYED cells of a row
together with the cumulative widths of the DISPLAYED columns.  This file says what that means cell by cell:

* `dataLines_own_width`  the cell at displayed position `j` contributes `linesOf w (cum[j] − cum[j−1])` (the first one
                         against `cum[0] − prev`), where `w` is the measured width of its `str()` at the font and the size
                         that the processed attribute matrices hold at (row, `k + j`) — never the width, font or size of
                         a neighbouring column, whatever columns left the table;
* `dataLines_attained`   and the estimate of the row is its start value or exactly one of these contributions, so it is
                         `max (start, contributions)`.
-/
namespace Proofs.EncodeOwnWidth
open Model.Encode Model.Broadcast Proofs.Encode

/-- `l` is the number of lines of `cell`, standing in attribute column `k` of table row `r`, in a column `cw` wide:
`max(1, int(width(str(cell), font, size) / cw) + 1)` with the font and size the attribute matrices hold at `(r, k)`
(`None` → font 1, size 9) -/
def CellLines (measure : Measure) (A : TblAttrsOf MatV) (r k : Nat) (cell : Option Str) (cw : Rat) (l : Nat) : Prop :=
  ∃ sv fv size font w,
    ilocV A.size r k = .ok sv ∧ ilocV A.font r k = .ok fv ∧
    (sv = .null → size = 9) ∧ (sv ≠ .null → sv.toRat = .ok size) ∧
    (fv = .null → font = 1) ∧ (∀ i, fv = .int i → font = i) ∧
    measure (strOfCell cell) font size = some w ∧ cw ≠ 0 ∧ l = (linesOf w cw).1

/-- the width the displayed cell at position `j` is measured against: its own cumulative width minus its left
neighbour's (`prev` for the first cell of the walk) -/
def ownWidth (cum : List Rat) (prev : Rat) (j : Nat) (c : Rat) : Rat :=
  c - (if j = 0 then prev else (cum[j - 1]?).getD 0)

/-- one step of `dataLines`, inverted: the head cell's contribution and the recursive call -/
theorem dataLines_step {measure : Measure} {A : TblAttrsOf MatV} {r : Nat}
    {cell : Option Str} {cells : List (Option Str)} {c : Rat} {cum : List Rat} {k : Nat} {prev : Rat}
    {acc res : Nat × Bool}
    (h : dataLines measure A r (cell :: cells) (c :: cum) k prev acc = .ok res) :
    ∃ l near, CellLines measure A r k cell (c - prev) l ∧
      dataLines measure A r cells cum (k + 1) c (max acc.1 l, acc.2 || near) = .ok res := by
  rw [dataLines] at h
  peel h as sv hsv
  dsimp only at h
  simp only [pure_bind, throw_bind'] at h
  have fin : ∀ (size : Rat) (font : Int) (fv : Val),
      ilocV A.font r k = .ok fv → (sv = .null → size = 9) → (sv ≠ .null → sv.toRat = .ok size) →
      (fv = .null → font = 1) → (∀ i, fv = .int i → font = i) →
      (match measure (strOfCell cell) font size with
        | some w =>
          if c - prev = 0 then Except.error "ZeroDivisionError"
          else dataLines measure A r cells cum (k + 1) c
            (max acc.fst (linesOf w (c - prev)).fst, acc.snd || (linesOf w (c - prev)).snd)
        | none => Except.error "model:width-missing") = Except.ok res →
      ∃ l near, CellLines measure A r k cell (c - prev) l ∧
        dataLines measure A r cells cum (k + 1) c (max acc.1 l, acc.2 || near) = .ok res := by
    intro size font fv hfv h1 h2 h3 h4 h
    split at h
    · next w hm =>
      split at h
      · cases h
      · next hne =>
        exact ⟨(linesOf w (c - prev)).1, (linesOf w (c - prev)).2,
          ⟨sv, fv, size, font, w, hsv, hfv, h1, h2, h3, h4, hm, hne, rfl⟩, h⟩
    · cases h
  split at h
  · -- size is None → 9
    peel h as fv hfv
    split at h
    · exact fin 9 1 _ hfv (fun _ => rfl) (fun hn => (hn rfl).elim) (fun _ => rfl) (fun i hi => by cases hi) h
    · next i =>
      exact fin 9 i _ hfv (fun _ => rfl) (fun hn => (hn rfl).elim) (fun hn => by cases hn)
        (fun i' hi => by cases hi; rfl) h
    · cases h
  · next hnn =>
    split at h
    · next q hq =>
      peel h as fv hfv
      split at h
      · exact fin q 1 _ hfv (fun hn => (hnn hn).elim) (fun _ => hq) (fun _ => rfl) (fun i hi => by cases hi) h
      · next i =>
        exact fin q i _ hfv (fun hn => (hnn hn).elim) (fun _ => hq) (fun hn => by cases hn)
          (fun i' hi => by cases hi; rfl) h
      · cases h
    · cases h

/-- the line estimate only grows from its start value: `dataLines … (1, false)` is at least 1 -/
theorem dataLines_ge {measure : Measure} {A : TblAttrsOf MatV} {r : Nat} :
    ∀ (cells : List (Option Str)) (cum : List Rat) (k : Nat) (prev : Rat) (acc res : Nat × Bool),
      dataLines measure A r cells cum k prev acc = .ok res → acc.1 ≤ res.1
  | [], _, _, _, acc, res, h => by
    simp only [dataLines] at h
    cases h
    exact Nat.le_refl _
  | _ :: _, [], _, _, acc, res, h => by
    simp only [dataLines] at h
    cases h
    exact Nat.le_refl _
  | cell :: cells, c :: cum, k, prev, acc, res, h => by
    obtain ⟨l, near, _, hrec⟩ := dataLines_step h
    exact Nat.le_trans (Nat.le_max_left _ _) (dataLines_ge _ _ _ _ _ _ hrec)

/-- the walk passes its own cumulative width on as the left neighbour's -/
theorem ownWidth_succ (c0 : Rat) (cum : List Rat) (prev : Rat) (j : Nat) (c : Rat) :
    ownWidth (c0 :: cum) prev (j + 1) c = ownWidth cum c0 j c := by
  cases j <;> rfl

/-- **every displayed cell is measured in its own column**: the cell at displayed position `j` contributes the lines of
its `str()` at the font / size of attribute column `k + j`, against `cum[j] − cum[j−1]`, and the row's estimate is at least
that -/
theorem dataLines_own_width {measure : Measure} {A : TblAttrsOf MatV} {r : Nat} :
    ∀ (cells : List (Option Str)) (cum : List Rat) (k : Nat) (prev : Rat) (acc res : Nat × Bool),
      dataLines measure A r cells cum k prev acc = .ok res →
      ∀ (j : Nat) (cell : Option Str) (c : Rat), cells[j]? = some cell → cum[j]? = some c →
        ∃ l, CellLines measure A r (k + j) cell (ownWidth cum prev j c) l ∧ l ≤ res.1
  | [], _, _, _, _, _, _, _, _, _, hc, _ => by cases hc
  | _ :: _, [], _, _, _, _, _, _, _, _, _, hw => by cases hw
  | cell0 :: cells, c0 :: cum, k, prev, acc, res, h, j, cell, c, hc, hw => by
    obtain ⟨l, near, hl, hrec⟩ := dataLines_step h
    cases j with
    | zero =>
      cases hc
      cases hw
      exact ⟨l, hl, Nat.le_trans (Nat.le_max_right _ _) (dataLines_ge _ _ _ _ _ _ hrec)⟩
    | succ j =>
      obtain ⟨l', hl', hle⟩ := dataLines_own_width cells cum (k + 1) c0 _ res hrec j cell c hc hw
      rw [Nat.succ_add_eq_add_succ] at hl'
      exact ⟨l', by rw [ownWidth_succ]; exact hl', hle⟩

/-- **and nothing else enters**: the row's estimate is its start value or the contribution of one displayed cell -/
theorem dataLines_attained {measure : Measure} {A : TblAttrsOf MatV} {r : Nat} :
    ∀ (cells : List (Option Str)) (cum : List Rat) (k : Nat) (prev : Rat) (acc res : Nat × Bool),
      dataLines measure A r cells cum k prev acc = .ok res →
      res.1 = acc.1 ∨ ∃ (j : Nat) (cell : Option Str) (c : Rat), cells[j]? = some cell ∧ cum[j]? = some c ∧
        CellLines measure A r (k + j) cell (ownWidth cum prev j c) res.1
  | [], _, _, _, acc, res, h => by
    simp only [dataLines] at h
    cases h
    exact .inl rfl
  | _ :: _, [], _, _, acc, res, h => by
    simp only [dataLines] at h
    cases h
    exact .inl rfl
  | cell0 :: cells, c0 :: cum, k, prev, acc, res, h => by
    obtain ⟨l, near, hl, hrec⟩ := dataLines_step h
    rcases dataLines_attained cells cum (k + 1) c0 _ res hrec with hacc | ⟨j, cell, c, hc, hw, hl'⟩
    · change res.1 = max acc.1 l at hacc
      rcases Nat.le_total acc.1 l with hle | hle
      · rw [Nat.max_eq_right hle] at hacc
        exact .inr ⟨0, cell0, c0, rfl, rfl, hacc ▸ hl⟩
      · rw [Nat.max_eq_left hle] at hacc
        exact .inl hacc
    · rw [Nat.succ_add_eq_add_succ, ← ownWidth_succ c0 cum prev] at hl'
      exact .inr ⟨j + 1, cell, c, hc, hw, hl'⟩

end Proofs.EncodeOwnWidth
