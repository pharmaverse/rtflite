import Proofs.EncodeTotalMore
import Proofs.EncodeFigure
/-!
Totality of the encoder models, part 7: the figure-only encoder (`Model.EncodeFigure.encodeWithF`).  An accepted
figure document of the quantifier's attribute shapes encodes — there is no refusal on this path (no group_by).
-/
namespace Proofs.EncodeTotal
open Model.Encode Model.EncodeAccepted Model.EncodeAcceptedMore Model.EncodeMulti Model.EncodeFigure Model.Broadcast
open Model.Emit Generated
open Proofs.EncodeAttrs (Field)

/-- a table component rendered paragraph-style: all its attributes convert, the TEXT attributes are readable -/
theorem tblNested_textGood {a : TblAttrsOf Attr} (ha : TblAttrsOf.zipAll accAttr tblSpec a = true)
    (hs : TextAttrsOf.zipAll shpAttr textSpec a.toTextAttrsOf = true) :
    ∃ A, a.mapM Attr.toNested = .ok A ∧ TextGood A.toTextAttrsOf := by
  obtain ⟨A, hA, hget⟩ := tblMapM_total (g := Attr.toNested) (a := a)
    (fun f => toNested_exists (tblSpec_noNull f) (tbl_zipAll ha f))
  refine ⟨A, hA, fun tf => ?_⟩
  have h1 := tbl_zipAll ha tf.toField
  have h2 := text_zipAll hs tf
  rw [toField_spec] at h1
  rw [← toField_get] at h2 ⊢
  exact of_ok_result (hget tf.toField) (toNested_total (textSpec_noNull tf) h1 h2)

/-- `encode_footnote` / `encode_source` with `as_table=False` -/
theorem renderFootPar_total (k : ColorCtx) (d : Doc) {f : Foot}
    (ha : TblAttrsOf.zipAll accAttr tblSpec f.attrs = true)
    (hs : TextAttrsOf.zipAll shpAttr textSpec f.attrs.toTextAttrsOf = true) (ht : f.asTable = false) :
    ∃ es, renderFoot k d f none = .ok es := by
  obtain ⟨A, hA, hg⟩ := tblNested_textGood ha hs
  unfold renderFoot
  simp only [hA, ok_bind, ht, Bool.not_false, if_true]
  exact bind_total (encodeTextParas_total k hg _) (fun _ _ => ⟨_, rfl⟩)

/-! ## `_get_dimension` -/

theorem getDim_total {α : Type} {l : List α} (h : l ≠ []) (i : Nat) : ∃ x, Model.Figure.getDim l i = some x := by
  unfold Model.Figure.getDim
  split
  · next hi => exact ⟨l[i], List.getElem?_eq_getElem hi⟩
  · cases hl : l.getLast? with
    | none => rw [List.getLast?_eq_none_iff] at hl; exact absurd hl h
    | some x => exact ⟨x, rfl⟩

/-! ## the facts of `acceptedF` / `shapesInQuantifierF` -/

structure AccFactsF (d : FDoc) : Prop where
  figs : d.figs.isEmpty = false
  fmts : ∀ f ∈ d.figs, (Model.Figure.fmtOfSuffix f.suffix).isSome = true
  widths : d.widths ≠ []
  heights : d.heights ≠ []
  page : pageAcc d.page = true
  pageHeader : textCompAcc d.pageHeader = true
  pageFooter : textCompAcc d.pageFooter = true
  title : textCompAcc d.title = true
  subline : textCompAcc d.subline = true
  footnote : footAccF d.footnote = true
  source : footAccF d.source = true
  body : bodyAccF d.body = true
  headers : d.headers.all headerAcc = true

theorem dimsAcc_ne {w : List Rat} (h : dimsAcc w = true) : w ≠ [] := by
  simp only [dimsAcc, Bool.and_eq_true, Bool.not_eq_true', List.isEmpty_eq_false_iff] at h
  exact h.1

theorem accFactsF {d : FDoc} (h : AcceptedF d) : AccFactsF d := by
  unfold AcceptedF acceptedF at h
  simp only [Bool.and_eq_true] at h
  obtain ⟨⟨⟨⟨⟨⟨⟨⟨⟨⟨⟨⟨⟨h1, h2⟩, h3⟩, h4⟩, _⟩, h6⟩, h7⟩, h8⟩, h9⟩, h10⟩, h11⟩, h12⟩, h13⟩, h14⟩ := h
  exact ⟨by simpa using h1, fun f hf => List.all_eq_true.mp h2 f hf, dimsAcc_ne h3, dimsAcc_ne h4, h6, h7, h8, h9, h10,
    h11, h12, h13, h14⟩

theorem footAccF_spec {o : Option Foot} (h : footAccF o = true) :
    ∀ f, o = some f → TblAttrsOf.zipAll accAttr tblSpec f.attrs = true ∧ f.asTable = false := by
  intro f hf
  subst hf
  simp only [footAccF, Bool.and_eq_true, Bool.not_eq_true'] at h
  exact ⟨(footAcc_spec h.1 f rfl).1, h.2⟩

theorem footAccF_footAcc {o : Option Foot} (h : footAccF o = true) : footAcc o = true := by
  simp only [footAccF, Bool.and_eq_true] at h
  exact h.1

/-! ## the colours -/

theorem collectF_valid {d : FDoc} (ha : AccFactsF d) : ∀ c ∈ Model.Color.collect (colorDocF d), CV c := by
  refine collect_valid_of _ (fun cm hcm => ?_)
    (textColorComps_valid ha.title ha.subline (footAccF_footAcc ha.footnote) (footAccF_footAcc ha.source)
      ha.pageHeader ha.pageFooter)
    (headerColorComps_valid ha.headers)
  obtain ⟨b, hb, rfl⟩ := List.mem_map.mp hcm
  have hbody := ha.body
  rw [Option.mem_toList.mp hb] at hbody
  exact tblComp_valid hbody

/-! ## the preamble, one figure, the document -/

theorem preambleF_total (k : ColorCtx) {d : FDoc} (hk : ∀ c ∈ k.used, CV c) (ha : AccFactsF d)
    (s1 : textCompShape d.pageHeader = true) (s2 : textCompShape d.pageFooter = true) :
    ∃ ns, preambleF k d = .ok ns := by
  obtain ⟨ft, hft⟩ := fontTable_total
  obtain ⟨ct, hct⟩ := generateColorTable_total colorTable k.used (fun c hc hne => hk c hc hne)
  obtain ⟨x1, h1⟩ := pageHF_total k "header" (textCompAcc_spec ha.pageHeader) (textCompShape_spec s1)
  obtain ⟨x2, h2⟩ := pageHF_total k "footer" (textCompAcc_spec ha.pageFooter) (textCompShape_spec s2)
  obtain ⟨ps, hps⟩ := pageSettings_total (pageAcc_margin ha.page)
  unfold preambleF
  simp only [hft, hct, ok_bind, pure_eq_ok, h1, h2, hps]
  exact ⟨_, rfl⟩

theorem footShapeF_spec {o : Option Foot} (h : footShapeF o = true) :
    ∀ f, o = some f → TextAttrsOf.zipAll shpAttr textSpec f.attrs.toTextAttrsOf = true := by
  intro f hf; subst hf; exact h

/-- the optional footnote / source of one figure page (`g` = the deep copy with `as_table = False`, or the identity) -/
theorem optFoot_total (k : ColorCtx) (pg : Page) {o : Option Foot} (ha : footAccF o = true) (hs : footShapeF o = true)
    (g : Foot → Foot) (hg : ∀ f, (g f).attrs = f.attrs ∧ (f.asTable = false → (g f).asTable = false)) (c : Bool) :
    ∃ b, (match o with
      | some f => if c = true then joinElems <$> renderFoot k (pageOnly pg) (g f) none else pure []
      | none => pure []) = .ok b := by
  cases o with
  | none => exact ⟨_, rfl⟩
  | some f =>
    dsimp only
    split
    · obtain ⟨hacc, htab⟩ := footAccF_spec ha f rfl
      have hshape := footShapeF_spec hs f rfl
      obtain ⟨hattrs, htab'⟩ := hg f
      obtain ⟨es, hes⟩ := renderFootPar_total k (pageOnly pg) (f := g f) (by rw [hattrs]; exact hacc)
        (by rw [hattrs]; exact hshape) (htab' htab)
      rw [hes]
      exact ⟨_, rfl⟩
    · exact ⟨_, rfl⟩

theorem figurePieces_total (k : ColorCtx) {d : FDoc} (ha : AccFactsF d) (hs : ShapesInQuantifierF d)
    (title : List Elem) (num i : Nat) (fmt : Model.Figure.Fmt) (bytes : List Nat) :
    ∃ x, figurePieces k d title num i fmt bytes = .ok x := by
  unfold ShapesInQuantifierF shapesInQuantifierF at hs
  simp only [Bool.and_eq_true] at hs
  obtain ⟨⟨⟨⟨⟨_, _⟩, _⟩, hsub⟩, hfn⟩, hsrc⟩ := hs
  obtain ⟨sub, hsubE⟩ := textElem_total k (textCompAcc_spec ha.subline) (textCompShape_spec hsub)
  obtain ⟨w, hw⟩ := getDim_total ha.widths i
  obtain ⟨h, hh⟩ := getDim_total ha.heights i
  obtain ⟨brk, hbrk⟩ := pageBreak_total (pageAcc_margin ha.page)
  rw [Proofs.EncodeFigure.figurePieces_eq, hsubE, hw, hh, hbrk]
  refine bind_total ?_ fun _ _ => bind_total ⟨_, rfl⟩ fun _ _ => bind_total ⟨_, rfl⟩ fun _ _ => ?_
  · split
    · exact ⟨_, rfl⟩
    · exact ⟨_, rfl⟩
  refine bind_total (optFoot_total k d.page ha.footnote hfn (fun f => { f with asTable := false })
    (fun f => ⟨rfl, fun _ => rfl⟩) _) fun _ _ => ?_
  refine bind_total (optFoot_total k d.page ha.source hsrc (fun f => f) (fun f => ⟨rfl, fun h => h⟩) _) fun _ _ => ?_
  refine bind_total ?_ fun _ _ => ⟨_, rfl⟩
  split
  · exact ⟨_, rfl⟩
  · exact ⟨_, rfl⟩

/-- **totality of the figure-only encoder model** -/
theorem encodeWithF_total {d : FDoc} (ha : AcceptedF d) (hs : ShapesInQuantifierF d) :
    ∃ g n, encodeWithF d = .ok (some g, n) := by
  have hacc := accFactsF ha
  have hs' := hs
  unfold ShapesInQuantifierF shapesInQuantifierF at hs'
  simp only [Bool.and_eq_true] at hs'
  obtain ⟨⟨⟨⟨⟨hph, hpf⟩, htitle⟩, _⟩, _⟩, _⟩ := hs'
  have key : ∃ x, encodeWithF d = .ok x := by
    unfold encodeWithF
    simp only [hacc.figs, Bool.false_eq_true, if_false]
    refine bind_total ?_ fun files _ => ?_
    · apply mapM_total
      intro f hf
      have := hacc.fmts f hf
      cases hfm : Model.Figure.fmtOfSuffix f.suffix with
      | none => rw [hfm] at this; cases this
      | some fmt => exact ⟨_, rfl⟩
    refine bind_total (textElem_total _ (textCompAcc_spec hacc.title) (textCompShape_spec htitle)) fun title _ => ?_
    refine bind_total (preambleF_total _ (collectF_valid hacc) hacc hph hpf) fun head _ => ?_
    refine bind_total ?_ fun pieces _ => ⟨_, rfl⟩
    apply mapM_total
    intro x _
    exact figurePieces_total _ hacc hs title files.length x.2 x.1.1 x.1.2
  obtain ⟨⟨o, n⟩, hx⟩ := key
  rcases Proofs.EncodeFigure.encodeWithF_inv hx with ⟨he, _⟩ | ⟨_, _, _, _, _, _, _, _, _, ho⟩
  · rw [hacc.figs] at he
    cases he
  · exact ⟨_, n, by rw [← ho]; exact hx⟩

end Proofs.EncodeTotal
