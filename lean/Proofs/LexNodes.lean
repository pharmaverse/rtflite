import Model.Rtf
import Model.RtfDoc
import Model.TextNodes
import Model.Emit
import Proofs.Rtf
import Proofs.Emit
/-!
`Model.TextNodes.lexNodes` inverts the printer on adjacency-closed node lists, up to the normal form `norm`
(adjacent text merged, empty text dropped, recursively through groups); `norm` preserves everything the
C01 side conditions speak about (printed string, tokens, plainness, `\u`-freeness, adjacency, frames).
The scan of a printed node follows the induction of `Proofs/Rtf.lean` (token lexer), step for step, on the node machine.
-/
namespace Proofs.LexNodes
open Model Model.Rtf Model.TextNodes Model.Emit

/-! ### the normal form -/

/-- the node list an accumulator (reversed nodes, reversed pending text) stands for -/
def out (a : List Node × List Char) : List Node := (flush a.1 a.2).reverse

mutual
def pushNode : Node → List Node → List Char → List Node × List Char
  | .txt s, cur, txt => (cur, s.reverse ++ txt)
  | .grp body, cur, txt => (Node.grp (out (pushNodes body [] [])) :: flush cur txt, [])
  | .cw n p sp, cur, txt => (Node.cw n p sp :: flush cur txt, [])
  | .sym c, cur, txt => (Node.sym c :: flush cur txt, [])
  | .hex a b, cur, txt => (Node.hex a b :: flush cur txt, [])
  | .nl, cur, txt => (Node.nl :: flush cur txt, [])
def pushNodes : List Node → List Node → List Char → List Node × List Char
  | [], cur, txt => (cur, txt)
  | n :: ns, cur, txt => pushNodes ns (pushNode n cur txt).1 (pushNode n cur txt).2
end

/-- merge adjacent text, drop empty text, recursively through groups -/
def norm (ns : List Node) : List Node := out (pushNodes ns [] [])

theorem pushNode_grp (body cur : List Node) (txt : List Char) :
    pushNode (.grp body) cur txt = (Node.grp (norm body) :: flush cur txt, []) := by
  rw [pushNode]; rfl

theorem flush_nil (cur : List Node) : flush cur [] = cur := rfl

theorem out_nil (cur : List Node) : out (cur, []) = cur.reverse := rfl

/-! ### digits printed by `intDigits` are canonical -/

theorem ofNat_digit_ne_zero (d : Nat) (h0 : 0 < d) (h : d < 10) : Char.ofNat (48 + d) ≠ '0' := by
  intro e
  have := congrArg Char.toNat e
  rw [Proofs.Rtf.toNat_digit d h] at this
  have h48 : ('0' : Char).toNat = 48 := by decide
  omega

theorem natDigitsAux_head : ∀ (fuel n : Nat) (acc : List Char), n < fuel → 0 < n →
    ∃ d ds, natDigitsAux fuel n acc = d :: ds ∧ d ≠ '0' := by
  intro fuel
  induction fuel with
  | zero => intro n acc h; omega
  | succ fuel ih =>
    intro n acc h hpos
    have hd : n % 10 < 10 := Nat.mod_lt _ (by omega)
    unfold natDigitsAux
    by_cases h0 : n / 10 = 0
    · refine ⟨Char.ofNat (48 + n % 10), acc, by simp [h0], ?_⟩
      apply ofNat_digit_ne_zero _ _ hd
      omega
    · have hlt : n / 10 < fuel := by omega
      obtain ⟨d, ds, e, hne⟩ := ih (n / 10) (Char.ofNat (48 + n % 10) :: acc) hlt (by omega)
      exact ⟨d, ds, by simp [h0, e], hne⟩

theorem natDigits_head (n : Nat) (h : 0 < n) : ∃ d ds, natDigits n = d :: ds ∧ d ≠ '0' :=
  natDigitsAux_head (n + 1) n [] (by omega) h

theorem canon_of_head (neg : Bool) (d : Char) (ds : List Char) (hd : d ≠ '0') :
    canonDigits neg (d :: ds).reverse = true := by
  unfold canonDigits
  rw [List.reverse_reverse]
  split
  · rename_i h; cases h
  · rename_i h
    exact absurd (List.cons.inj h).1 hd
  · rename_i d' _ _ h
    rw [← (List.cons.inj h).1]
    simpa using hd

theorem canon_pos (neg : Bool) (n : Nat) (h : 0 < n) : canonDigits neg (natDigits n).reverse = true := by
  obtain ⟨d, ds, e, hd⟩ := natDigits_head n h
  rw [e]
  exact canon_of_head neg d ds hd

theorem canon_int (k : Int) : canonDigits (decide (k < 0)) (natDigits k.natAbs).reverse = true := by
  cases k with
  | ofNat m =>
    have h : ¬ Int.ofNat m < 0 := Int.not_lt.mpr (Int.natCast_nonneg m)
    rw [decide_eq_false h]
    cases m with
    | zero => decide
    | succ m => exact canon_pos false _ (Nat.succ_pos m)
  | negSucc m => exact canon_pos _ _ (Nat.succ_pos m)

/-! ### the state machine on printed nodes -/

/-- a run of characters each of which is consed onto the reversed list the state carries -/
theorem foldl_extend {σ : Type} (f : σ → Char → σ) (g : List Char → σ) (P : Char → Bool)
    (hg : ∀ rev c, P c = true → f (g rev) c = g (c :: rev)) :
    ∀ (ls rev tail : List Char), ls.all P = true →
      (ls ++ tail).foldl f (g rev) = tail.foldl f (g (ls.reverse ++ rev))
  | [], _, _, _ => rfl
  | a :: ls, rev, tail, h => by
    rw [List.all_cons, Bool.and_eq_true] at h
    rw [List.cons_append, List.foldl_cons, hg rev a h.1, foldl_extend f g P hg ls (a :: rev) tail h.2,
      List.reverse_cons, List.append_assoc, List.singleton_append]

theorem fold_letters (stack : List (List Node)) (cur : List Node) (ls rev tail : List Char)
    (h : ls.all isLetter = true) :
    (ls ++ tail).foldl TextNodes.step ⟨stack, cur, .word rev, true⟩ =
      tail.foldl TextNodes.step ⟨stack, cur, .word (ls.reverse ++ rev), true⟩ :=
  foldl_extend TextNodes.step (fun rev => (⟨stack, cur, .word rev, true⟩ : St)) isLetter
    (fun rev c hc => by simp [TextNodes.step, hc]) ls rev tail h

theorem fold_digits (stack : List (List Node)) (cur : List Node) (name : List Char) (neg : Bool)
    (ds rev tail : List Char) (h : ds.all isDigit = true) :
    (ds ++ tail).foldl TextNodes.step ⟨stack, cur, .num name neg rev, true⟩ =
      tail.foldl TextNodes.step ⟨stack, cur, .num name neg (ds.reverse ++ rev), true⟩ :=
  foldl_extend TextNodes.step (fun rev => (⟨stack, cur, .num name neg rev, true⟩ : St)) isDigit
    (fun rev c hc => by simp [TextNodes.step, hc]) ds rev tail h

theorem lex_txt (stack : List (List Node)) (cur : List Node) (s txt rest : List Char)
    (h : s.all safeChar = true) :
    (s ++ rest).foldl TextNodes.step ⟨stack, cur, .ground txt, true⟩ =
      rest.foldl TextNodes.step ⟨stack, cur, .ground (s.reverse ++ txt), true⟩ :=
  foldl_extend TextNodes.step (fun txt => (⟨stack, cur, .ground txt, true⟩ : St)) safeChar
    (fun txt c hc => by
      simp only [safeChar, Bool.and_eq_true, bne_iff_ne, ne_eq] at hc
      simp [TextNodes.step, TextNodes.groundStep, hc])
    s txt rest h

theorem step_bs (stack : List (List Node)) (cur : List Node) (txt : List Char) :
    TextNodes.step ⟨stack, cur, .ground txt, true⟩ '\\' = ⟨stack, flush cur txt, .bs, true⟩ := rfl

theorem fold_name (stack : List (List Node)) (cur : List Node) (txt n tail : List Char)
    (hn : nameOk n = true) :
    ('\\' :: (n ++ tail)).foldl TextNodes.step ⟨stack, cur, .ground txt, true⟩ =
      tail.foldl TextNodes.step ⟨stack, flush cur txt, .word n.reverse, true⟩ := by
  cases n with
  | nil => simp [nameOk] at hn
  | cons a n =>
    simp only [nameOk, List.isEmpty_cons, Bool.not_false, Bool.true_and, List.all_cons,
      Bool.and_eq_true] at hn
    have h2 : TextNodes.step ⟨stack, flush cur txt, .bs, true⟩ a =
        ⟨stack, flush cur txt, .word [a], true⟩ := by
      simp [TextNodes.step, hn.1]
    rw [List.cons_append, List.foldl_cons, List.foldl_cons, step_bs, h2,
      fold_letters stack _ n [a] tail hn.2, List.reverse_cons]

theorem fold_param (stack : List (List Node)) (cur : List Node) (rev : List Char) (k : Int)
    (tail : List Char) :
    ∃ neg r, r ≠ [] ∧ mkParam neg r = k ∧ canonDigits neg r = true ∧
      (intDigits k ++ tail).foldl TextNodes.step ⟨stack, cur, .word rev, true⟩ =
        tail.foldl TextNodes.step ⟨stack, cur, .num rev.reverse neg r, true⟩ := by
  obtain ⟨_, hne, hall⟩ := Proofs.Rtf.natDigits_spec k.natAbs
  obtain ⟨e, hk⟩ := Proofs.Rtf.intDigits_spec k
  refine ⟨decide (k < 0), (natDigits k.natAbs).reverse, by simpa using hne, hk, canon_int k, ?_⟩
  rw [e]
  by_cases hneg : k < 0
  · have h1 : TextNodes.step ⟨stack, cur, .word rev, true⟩ '-' =
        ⟨stack, cur, .num rev.reverse true [], true⟩ := rfl
    rw [if_pos hneg, decide_eq_true hneg, List.singleton_append, List.cons_append, List.foldl_cons, h1,
      fold_digits stack cur _ _ _ [] tail hall, List.append_nil]
  · obtain ⟨d, ds, hd⟩ := List.exists_cons_of_ne_nil hne
    rw [hd, List.all_cons, Bool.and_eq_true] at hall
    have h1 : TextNodes.step ⟨stack, cur, .word rev, true⟩ d =
        ⟨stack, cur, .num rev.reverse false [d], true⟩ := by
      simp [TextNodes.step, Proofs.Rtf.digit_not_letter hall.1, Proofs.Rtf.digit_ne_minus hall.1, hall.1]
    rw [if_neg hneg, decide_eq_false hneg, List.nil_append, hd, List.cons_append, List.foldl_cons, h1,
      fold_digits stack cur _ _ ds [d] tail hall.2, List.reverse_cons]

/-- a failed scan stays failed -/
theorem stuck (rest : List Char) : ∀ st : St, st.ok = false →
    TextNodes.finish (rest.foldl TextNodes.step st) = none := by
  induction rest with
  | nil => intro st h; simp [TextNodes.finish, h]
  | cons c rest ih =>
    intro st h
    have h1 : TextNodes.step st c = st := by simp [TextNodes.step, h]
    simp only [List.foldl_cons, h1]
    exact ih st h

/-- `groundStep` forgets the mode it starts from (up to the outcome of the scan) -/
theorem ground_mode (stack : List (List Node)) (cur : List Node) (m : Mode) (txt : List Char) (c : Char)
    (rest : List Char) :
    TextNodes.finish (rest.foldl TextNodes.step (TextNodes.groundStep ⟨stack, cur, m, true⟩ txt c)) =
      TextNodes.finish (rest.foldl TextNodes.step
        (TextNodes.groundStep ⟨stack, cur, .ground [], true⟩ txt c)) := by
  unfold TextNodes.groundStep
  by_cases h1 : c = '{'
  · simp [h1]
  · by_cases h2 : c = '}'
    · cases stack with
      | nil =>
        simp only [h2, if_true]
        rw [stuck rest _ rfl, stuck rest _ rfl]
      | cons top stack => simp [h2]
    · by_cases h3 : c = '\\'
      · simp [h3]
      · by_cases h4 : c = '\n'
        · simp [h4]
        · simp [h1, h2, h3, h4]

/-- a control word read in mode `m` ends as `node sp`: at a delimiter space, at the end of input, or before a
character that cannot continue it -/
theorem end_cw (stack : List (List Node)) (cur : List Node) (m : Mode) (node : Bool → Node) (p : Option Int)
    (hsp : TextNodes.step ⟨stack, cur, m, true⟩ ' ' = ⟨stack, node true :: cur, .ground [], true⟩)
    (hc : ∀ c, badAfter p c = false → TextNodes.step ⟨stack, cur, m, true⟩ c =
      TextNodes.groundStep ⟨stack, node false :: cur, m, true⟩ [] c)
    (hfin : TextNodes.finish ⟨stack, cur, m, true⟩ =
      TextNodes.finish ⟨stack, node false :: cur, .ground [], true⟩)
    (sp : Bool) (rest : List Char)
    (h : (sp || match rest.head? with | some c => !badAfter p c | none => true) = true) :
    TextNodes.finish (((if sp then [' '] else []) ++ rest).foldl TextNodes.step ⟨stack, cur, m, true⟩) =
      TextNodes.finish (rest.foldl TextNodes.step ⟨stack, node sp :: cur, .ground [], true⟩) := by
  cases sp with
  | true => rw [if_pos rfl, List.singleton_append, List.foldl_cons, hsp]
  | false =>
    cases rest with
    | nil => exact hfin
    | cons c rest =>
      have hb : badAfter p c = false := by simpa using h
      rw [if_neg Bool.false_ne_true, List.nil_append, List.foldl_cons, List.foldl_cons, hc c hb]
      exact ground_mode _ _ _ _ _ _

theorem end_word (stack : List (List Node)) (cur : List Node) (rev : List Char) (sp : Bool)
    (rest : List Char)
    (h : (sp || match rest.head? with | some c => !badAfter none c | none => true) = true) :
    TextNodes.finish (((if sp then [' '] else []) ++ rest).foldl TextNodes.step ⟨stack, cur, .word rev, true⟩) =
      TextNodes.finish (rest.foldl TextNodes.step
        ⟨stack, Node.cw rev.reverse none sp :: cur, .ground [], true⟩) := by
  refine end_cw stack cur (.word rev) (Node.cw rev.reverse none) none rfl (fun c hc => ?_) ?_ sp rest h
  · simp only [badAfter, Bool.or_eq_false_iff, beq_eq_false_iff_ne, ne_eq] at hc
    simp [TextNodes.step, hc]
  · simp [TextNodes.finish, flush]

theorem end_num (stack : List (List Node)) (cur : List Node) (name : List Char) (neg : Bool)
    (r : List Char) (hr : r ≠ []) (hc : canonDigits neg r = true) (k : Int) (sp : Bool) (rest : List Char)
    (h : (sp || match rest.head? with | some c => !badAfter (some k) c | none => true) = true) :
    TextNodes.finish (((if sp then [' '] else []) ++ rest).foldl TextNodes.step
        ⟨stack, cur, .num name neg r, true⟩) =
      TextNodes.finish (rest.foldl TextNodes.step
        ⟨stack, Node.cw name (some (mkParam neg r)) sp :: cur, .ground [], true⟩) := by
  have hre : r.isEmpty = false := by simpa using hr
  refine end_cw stack cur (.num name neg r) (Node.cw name (some (mkParam neg r))) (some k) ?_ (fun c hb => ?_) ?_
    sp rest h
  · simp [TextNodes.step, show isDigit ' ' = false by decide, hre, hc, paramOf]
  · simp only [badAfter, Bool.or_eq_false_iff, beq_eq_false_iff_ne, ne_eq] at hb
    simp [TextNodes.step, hb, hre, hc, paramOf]
  · simp [TextNodes.finish, flush, hre, hc, paramOf]

theorem lex_cw (n : List Char) (p : Option Int) (sp : Bool) (stack : List (List Node)) (cur : List Node)
    (txt rest : List Char) (h : nodeOk (.cw n p sp) rest.head? = true) :
    TextNodes.finish ((printNode (.cw n p sp) ++ rest).foldl TextNodes.step ⟨stack, cur, .ground txt, true⟩) =
      TextNodes.finish (rest.foldl TextNodes.step
        ⟨stack, Node.cw n p sp :: flush cur txt, .ground [], true⟩) := by
  simp only [nodeOk, Bool.and_eq_true] at h
  obtain ⟨hn, h⟩ := h
  simp only [printNode, List.cons_append, List.append_assoc]
  rw [fold_name stack cur txt n _ hn]
  cases p with
  | none =>
    have := end_word stack (flush cur txt) n.reverse sp rest h
    rw [List.reverse_reverse] at this
    exact this
  | some k =>
    obtain ⟨neg, r, hr, hk, hc, e⟩ :=
      fold_param stack (flush cur txt) n.reverse k ((if sp then [' '] else []) ++ rest)
    have := end_num stack (flush cur txt) n.reverse.reverse neg r hr hc k sp rest h
    rw [hk, List.reverse_reverse] at this
    rw [List.reverse_reverse] at e
    exact (congrArg TextNodes.finish e).trans this

theorem lex_sym (c : Char) (stack : List (List Node)) (cur : List Node) (txt rest : List Char)
    (h : validSym c = true) :
    (printNode (.sym c) ++ rest).foldl TextNodes.step ⟨stack, cur, .ground txt, true⟩ =
      rest.foldl TextNodes.step ⟨stack, Node.sym c :: flush cur txt, .ground [], true⟩ := by
  have h2 : TextNodes.step ⟨stack, flush cur txt, .bs, true⟩ c =
      ⟨stack, Node.sym c :: flush cur txt, .ground [], true⟩ := by
    simp only [validSym, List.mem_cons, List.not_mem_nil, or_false, decide_eq_true_eq] at h
    rcases h with e | e | e | e | e | e | e | e | e <;> subst e <;> rfl
  rw [printNode, List.cons_append, List.cons_append, List.foldl_cons, List.foldl_cons, step_bs, h2,
    List.nil_append]

theorem step_open (stack : List (List Node)) (cur : List Node) (txt : List Char) :
    TextNodes.step ⟨stack, cur, .ground txt, true⟩ '{' = ⟨flush cur txt :: stack, [], .ground [], true⟩ := rfl

theorem step_close (top : List Node) (stack : List (List Node)) (cur : List Node) (txt : List Char) :
    TextNodes.step ⟨top :: stack, cur, .ground txt, true⟩ '}' =
      ⟨stack, Node.grp (flush cur txt).reverse :: top, .ground [], true⟩ := rfl

mutual
theorem lex_node : (n : Node) → (stack : List (List Node)) → (cur : List Node) → (txt rest : List Char) →
    nodeOk n rest.head? = true →
    TextNodes.finish ((printNode n ++ rest).foldl TextNodes.step ⟨stack, cur, .ground txt, true⟩) =
      TextNodes.finish (rest.foldl TextNodes.step
        ⟨stack, (pushNode n cur txt).1, .ground (pushNode n cur txt).2, true⟩)
  | .cw n p sp, stack, cur, txt, rest, h => by
    rw [lex_cw n p sp stack cur txt rest h, pushNode]
  | .sym c, stack, cur, txt, rest, h => by
    rw [nodeOk] at h
    rw [lex_sym c stack cur txt rest h, pushNode]
  | .hex a b, stack, cur, txt, rest, _ => by
    rw [pushNode]
    rfl
  | .txt s, stack, cur, txt, rest, h => by
    rw [nodeOk] at h
    rw [printNode, lex_txt stack cur s txt rest h, pushNode]
  | .nl, stack, cur, txt, rest, _ => by
    rw [pushNode]
    rfl
  | .grp body, stack, cur, txt, rest, h => by
    rw [nodeOk] at h
    have ih := lex_nodes body (flush cur txt :: stack) [] [] ('}' :: rest) h
    rw [printNode, List.cons_append, List.cons_append, List.append_assoc, List.foldl_cons, step_open,
      List.singleton_append, ih, List.foldl_cons, step_close, pushNode_grp]
    rfl
theorem lex_nodes : (ns : List Node) → (stack : List (List Node)) → (cur : List Node) →
    (txt rest : List Char) → nodesOk ns rest.head? = true →
    TextNodes.finish ((printNodes ns ++ rest).foldl TextNodes.step ⟨stack, cur, .ground txt, true⟩) =
      TextNodes.finish (rest.foldl TextNodes.step
        ⟨stack, (pushNodes ns cur txt).1, .ground (pushNodes ns cur txt).2, true⟩)
  | [], stack, cur, txt, rest, _ => by rw [printNodes, pushNodes, List.nil_append]
  | n :: ns, stack, cur, txt, rest, h => by
    rw [Proofs.Rtf.nodesOk_cons_append, Bool.and_eq_true] at h
    rw [printNodes, List.append_assoc, lex_node n stack cur txt (printNodes ns ++ rest) h.1,
      lex_nodes ns stack (pushNode n cur txt).1 (pushNode n cur txt).2 rest h.2, pushNodes]
end

theorem lexNodes_printNodes (ns : List Node) (h : nodesOk ns none = true) :
    lexNodes (printNodes ns) = norm ns := by
  have hf : TextNodes.finish ((printNodes ns).foldl TextNodes.step {}) = some (norm ns) := by
    have := lex_nodes ns [] [] [] [] h
    rw [List.append_nil] at this
    exact this
  unfold lexNodes
  cases hp : printNodes ns with
  | nil =>
    rw [hp] at hf
    exact Option.some.inj hf
  | cons c cs =>
    rw [hp] at hf
    simp only [List.isEmpty_cons, Bool.false_eq_true, if_false, hf]

/-! ### the normal form keeps what is printed, the tokens, plainness and `\u`-freeness -/

theorem out_eq (cur : List Node) (txt : List Char) :
    out (cur, txt) = cur.reverse ++ (if txt.isEmpty then [] else [Node.txt txt.reverse]) := by
  simp only [out, flush]
  cases txt <;> simp

theorem out_push (n : Node) (cur : List Node) (txt : List Char) :
    out (n :: flush cur txt, []) = out (cur, txt) ++ [n] := by
  simp [out, flush_nil]

theorem out_nil_nil : out (([] : List Node), ([] : List Char)) = [] := rfl

/-- `F` is a homomorphism from node lists under `++` to a monoid `op` with unit `F []`, additive on text, that reads a
group through its body: what `norm` cannot change.  `printNodes`, `toksNodes`, `plainNodes`, `noUNodes` are such. -/
structure TextHom {α : Type} (F : List Node → α) (op : α → α → α) : Prop where
  append : ∀ a b, F (a ++ b) = op (F a) (F b)
  assoc : ∀ x y z, op (op x y) z = op x (op y z)
  nil_op : ∀ x, op (F []) x = x
  op_nil : ∀ x, op x (F []) = x
  txt_nil : F [Node.txt []] = F []
  txt_append : ∀ s t, F [Node.txt (s ++ t)] = op (F [Node.txt s]) (F [Node.txt t])
  grp : ∀ a b, F a = F b → F [Node.grp a] = F [Node.grp b]

section
variable {α : Type} {F : List Node → α} {op : α → α → α} (h : TextHom F op)
include h

theorem hom_out (cur : List Node) (txt : List Char) :
    F (out (cur, txt)) = op (F cur.reverse) (F [Node.txt txt.reverse]) := by
  rw [out_eq]
  cases txt with
  | nil =>
    rw [List.reverse_nil, h.txt_nil, h.op_nil]
    simp
  | cons c t =>
    rw [← h.append]
    rfl

mutual
theorem hom_pushNode : (n : Node) → (cur : List Node) → (txt : List Char) →
    F (out (pushNode n cur txt)) = op (F (out (cur, txt))) (F [n])
  | .cw n p sp, cur, txt => by rw [pushNode, out_push, h.append]
  | .sym c, cur, txt => by rw [pushNode, out_push, h.append]
  | .hex a b, cur, txt => by rw [pushNode, out_push, h.append]
  | .nl, cur, txt => by rw [pushNode, out_push, h.append]
  | .txt s, cur, txt => by
    rw [pushNode, hom_out h, hom_out h, List.reverse_append, List.reverse_reverse, h.txt_append, h.assoc]
  | .grp body, cur, txt => by
    have ih : F (norm body) = F body := by
      rw [norm, hom_pushNodes body [] [], out_nil_nil, h.nil_op]
    rw [pushNode_grp, out_push, h.append, h.grp _ _ ih]
theorem hom_pushNodes : (ns : List Node) → (cur : List Node) → (txt : List Char) →
    F (out (pushNodes ns cur txt)) = op (F (out (cur, txt))) (F ns)
  | [], cur, txt => by rw [pushNodes, h.op_nil]
  | n :: ns, cur, txt => by
    rw [pushNodes, hom_pushNodes ns, hom_pushNode n, h.assoc, ← h.append, List.singleton_append]
end

theorem hom_norm (ns : List Node) : F (norm ns) = F ns := by
  rw [norm, hom_pushNodes h, out_nil_nil, h.nil_op]

end

theorem printNodes_single (n : Node) : printNodes [n] = printNode n := by
  simp [printNodes]

theorem textHom_print : TextHom printNodes (· ++ ·) where
  append := Proofs.Emit.printNodes_append
  assoc := List.append_assoc
  nil_op := List.nil_append
  op_nil := List.append_nil
  txt_nil := rfl
  txt_append s t := by simp only [printNodes_single, printNode]
  grp a b e := by simp only [printNodes_single, printNode, e]

theorem print_pushNode : (n : Node) → (cur : List Node) → (txt : List Char) →
    printNodes (out (pushNode n cur txt)) = printNodes (out (cur, txt)) ++ printNode n :=
  fun n cur txt => (hom_pushNode textHom_print n cur txt).trans (by rw [printNodes_single])

theorem printNodes_norm (ns : List Node) : printNodes (norm ns) = printNodes ns :=
  hom_norm textHom_print ns

theorem toksNodes_single (n : Node) : toksNodes [n] = toksNode n := by
  simp [toksNodes]

theorem textHom_toks : TextHom toksNodes (· ++ ·) where
  append := Proofs.Rtf.toksNodes_append
  assoc := List.append_assoc
  nil_op := List.nil_append
  op_nil := List.append_nil
  txt_nil := rfl
  txt_append s t := by simp only [toksNodes_single, toksNode, List.map_append]
  grp a b e := by simp only [toksNodes_single, toksNode, e]

theorem toks_pushNode : (n : Node) → (cur : List Node) → (txt : List Char) →
    toksNodes (out (pushNode n cur txt)) = toksNodes (out (cur, txt)) ++ toksNode n :=
  fun n cur txt => (hom_pushNode textHom_toks n cur txt).trans (by rw [toksNodes_single])

theorem toksNodes_norm (ns : List Node) : toksNodes (norm ns) = toksNodes ns :=
  hom_norm textHom_toks ns

theorem plainNodes_single (n : Node) : plainNodes [n] = plainNode n := by
  simp [plainNodes]

theorem textHom_plain : TextHom plainNodes (· && ·) where
  append := Proofs.Emit.plainNodes_append
  assoc := Bool.and_assoc
  nil_op := Bool.true_and
  op_nil := Bool.and_true
  txt_nil := rfl
  txt_append _ _ := rfl
  grp a b e := by simp only [plainNodes_single, plainNode, e]

theorem plain_pushNode : (n : Node) → (cur : List Node) → (txt : List Char) →
    plainNodes (out (pushNode n cur txt)) = (plainNodes (out (cur, txt)) && plainNode n) :=
  fun n cur txt => (hom_pushNode textHom_plain n cur txt).trans (by rw [plainNodes_single])

theorem plainNodes_norm (ns : List Node) : plainNodes (norm ns) = plainNodes ns :=
  hom_norm textHom_plain ns

theorem noUNodes_single (n : Node) : noUNodes [n] = noUNode n := by
  simp [noUNodes]

theorem textHom_noU : TextHom noUNodes (· && ·) where
  append := Proofs.Emit.noUNodes_append
  assoc := Bool.and_assoc
  nil_op := Bool.true_and
  op_nil := Bool.and_true
  txt_nil := rfl
  txt_append _ _ := rfl
  grp a b e := by simp only [noUNodes_single, noUNode, e]

theorem noU_pushNode : (n : Node) → (cur : List Node) → (txt : List Char) →
    noUNodes (out (pushNode n cur txt)) = (noUNodes (out (cur, txt)) && noUNode n) :=
  fun n cur txt => (hom_pushNode textHom_noU n cur txt).trans (by rw [noUNodes_single])

theorem noUNodes_norm (ns : List Node) : noUNodes (norm ns) = noUNodes ns :=
  hom_norm textHom_noU ns

/-! ### the normal form keeps adjacency -/

/-- adjacency of a node list and the first character it prints, both as functions of the character after it -/
def okNext (ns : List Node) (after : Option Char) : Bool × Option Char :=
  (nodesOk ns after, Proofs.Emit.nextChar ns after)

/-- `g` reads what follows, `f` what stands before it -/
def okSeq (f g : Option Char → Bool × Option Char) (after : Option Char) : Bool × Option Char :=
  ((f (g after).2).1 && (g after).1, (f (g after).2).2)

open Proofs.Emit in
theorem textHom_ok : TextHom okNext okSeq where
  append a b := funext fun c => by simp only [okNext, okSeq, nodesOk_append, nextChar_append]
  assoc f g k := funext fun c => by simp only [okSeq, Bool.and_assoc]
  nil_op f := funext fun c => by simp [okNext, okSeq, nodesOk, nextChar_nil]
  op_nil f := funext fun c => by simp [okNext, okSeq, nodesOk, nextChar_nil]
  txt_nil := funext fun c => by simp [okNext, nodesOk, nodeOk, nextChar, printNodes, printNode]
  txt_append s t := funext fun c => by
    simp only [okNext, okSeq, nodesOk, nodeOk, nextChar, printNodes, printNode, List.append_nil, List.all_append,
      Bool.and_true]
    cases s <;> simp
  grp a b e := funext fun c => by
    have := congrArg Prod.fst (congrFun e (some '}'))
    simp only [okNext] at this
    simp only [okNext, nodesOk_cons, nodeOk, this, nextChar_grp]

theorem nodesOk_norm_eq (ns : List Node) (after : Option Char) : nodesOk (norm ns) after = nodesOk ns after :=
  congrArg Prod.fst (congrFun (hom_norm textHom_ok ns) after)

theorem ok_pushNode : (n : Node) → (cur : List Node) → (txt : List Char) → (a : Option Char) →
    nodesOk (out (cur, txt) ++ [n]) a = true → nodesOk (out (pushNode n cur txt)) a = true :=
  fun n cur txt a h => by
    have e := hom_pushNode textHom_ok n cur txt
    rw [← textHom_ok.append] at e
    exact (congrArg Prod.fst (congrFun e a)).trans h

theorem nodesOk_norm (ns : List Node) (after : Option Char) (h : nodesOk ns after = true) :
    nodesOk (norm ns) after = true :=
  (nodesOk_norm_eq ns after).trans h

theorem frame_pushNode (n : Node) (cur : List Node) (h : Proofs.Emit.frameNode n = true) :
    ∃ n', pushNode n cur [] = (n' :: cur, []) ∧ Proofs.Emit.frameNode n' = true := by
  cases n with
  | cw w p sp => exact ⟨_, by rw [pushNode, flush_nil], h⟩
  | nl => exact ⟨_, by rw [pushNode, flush_nil], h⟩
  | grp body => exact ⟨_, pushNode_grp body cur [], nodesOk_norm body _ h⟩
  | sym c => cases h
  | hex a b => cases h
  | txt s => cases h

theorem frame_push : ∀ (ns cur : List Node), cur.all Proofs.Emit.frameNode = true →
    ns.all Proofs.Emit.frameNode = true →
    ∃ cur', pushNodes ns cur [] = (cur', []) ∧ cur'.all Proofs.Emit.frameNode = true
  | [], cur, hc, _ => ⟨cur, by rw [pushNodes], hc⟩
  | n :: ns, cur, hc, h => by
    rw [List.all_cons, Bool.and_eq_true] at h
    obtain ⟨n', e, hn⟩ := frame_pushNode n cur h.1
    rw [pushNodes, e]
    exact frame_push ns (n' :: cur) (by simp only [List.all_cons, hn, hc, Bool.and_self]) h.2

theorem frame_norm (ns : List Node) (h : ns.all Proofs.Emit.frameNode = true) :
    (norm ns).all Proofs.Emit.frameNode = true := by
  obtain ⟨cur', e, hc⟩ := frame_push ns [] rfl h
  rw [norm, e, out_nil, List.all_reverse]
  exact hc

/-! ### adjacency at the end of input is the weakest -/

theorem nodeOk_none_of_some (n : Node) (c : Char) (h : nodeOk n (some c) = true) : nodeOk n none = true := by
  cases n with
  | cw w p sp =>
    rw [nodeOk, Bool.and_eq_true] at h
    rw [nodeOk, h.1, Bool.or_true]
    rfl
  | _ => exact h

theorem nodesOk_none_of_some (ns : List Node) (c : Char) (h : nodesOk ns (some c) = true) :
    nodesOk ns none = true := by
  induction ns with
  | nil => rfl
  | cons n ns ih =>
    rw [Proofs.Emit.nodesOk_cons, Bool.and_eq_true] at h ⊢
    refine ⟨?_, ih h.2⟩
    have h1 := h.1
    unfold Proofs.Emit.nextChar at h1 ⊢
    cases hp : (printNodes ns).head? with
    | none =>
      rw [hp] at h1
      exact nodeOk_none_of_some n c h1
    | some d =>
      rw [hp] at h1
      exact h1

end Proofs.LexNodes
