import Model.Encode
import Model.Layout
import Proofs.Encode
import Proofs.Layout
import Proofs.LayoutHeadings
import Proofs.EncodeOwnWidth
/-!
# From the role-level layout to the whole-encoder model

`Model.Encode.encodePages` obtains the page structure from `Model.Layout` (`mkLDoc`, `LDoc.pages`, `Layout.layout`) and
renders every `Layout.Block` with `renderBlock`.  This file makes that structure available as theorems, so that the
theorems about `Layout.layout` (C02, C03, C05, C06) can be restated about what the ENCODER renders: the `plan` of one
encode (what is computed before anything is rendered; `Plan.pageBlocks` = the blocks it renders, page by page), the
`Trace` of the rendering (`Renders`: which elements every block of every page became), `encodePages_trace` /
`encode_trace` (every accepted document has both, and its output is the concatenation of the trace's elements), and what
`mkLDoc` and `prepare` put into the plan in terms of the document (`mkLDoc_facts`; `removedIdx_ok`, `dropCols_eq_filter`:
column removal by index = removal by name).
-/
namespace Proofs.EncodeLift
open Model.Rtf Model.Emit Model.Encode Model.Broadcast Model.Layout Proofs.Encode

/-! ## the `Except` monad -/

/-- the witnesses of a successful `mapM`: if every success `f a = .ok b` has a witness `c` (`key c = a`, `val c = b`,
`Q c`), the elements' successes have a list of witnesses -/
theorem mapM_witness {ε α β γ : Type} {f : α → Except ε β} {key : γ → α} {val : γ → β} {Q : γ → Prop}
    (hf : ∀ a b, f a = .ok b → ∃ c, key c = a ∧ val c = b ∧ Q c) {l : List α} {r : List β} (h : l.mapM f = .ok r) :
    ∃ T : List γ, T.map key = l ∧ T.map val = r ∧ ∀ c ∈ T, Q c := by
  have h2 := mapM_ok h
  clear h
  induction h2 with
  | nil => exact ⟨[], rfl, rfl, fun c hc => by cases hc⟩
  | cons hab _ ih =>
    obtain ⟨c, rfl, rfl, hc⟩ := hf _ _ hab
    obtain ⟨T, rfl, rfl, hT⟩ := ih
    exact ⟨c :: T, rfl, rfl, List.forall_mem_cons.mpr ⟨hc, hT⟩⟩

theorem mapM_of_witness {ε α β γ : Type} {f : α → Except ε β} {key : γ → α} {val : γ → β} (T : List γ)
    (h : ∀ c ∈ T, f (key c) = .ok (val c)) : (T.map key).mapM f = .ok (T.map val) := by
  induction T with
  | nil => rfl
  | cons c T ih =>
    rw [List.map_cons, List.mapM_cons, h c List.mem_cons_self, ih fun y hy => h y (List.mem_cons_of_mem _ hy)]
    rfl

/-! ## the plan of one encode -/

/-- what `encodePages` computes before it renders anything -/
structure Plan where
  p : Prep                                  -- `prepare d`: removed columns, processed frame / attributes, widths
  bodyA : TblAttrsOf MatV                   -- the body attributes, normalised
  ld : LDoc                                 -- the role-level document `mkLDoc` hands to `Model.Layout`
  near : Nat
  rows : List (List (Option Str))           -- the frame the data rows are taken from (`finalRows`)
  deriving Inhabited

def plan (measure : Measure) (d : Doc) : Except String Plan := do
  let p ← prepare d
  let bodyA ← d.body.attrs.mapM Attr.toNested
  let x ← mkLDoc measure d p
  let rows ← finalRows d p (x.1.pages.map (·.height))
  return { p := p, bodyA := bodyA, ld := x.1, near := x.2, rows := rows }

/-- the pages of the encoder with the role-level blocks of each -/
def Plan.pageBlocks (pl : Plan) : List (PageCtx × List Block) := pl.ld.pages.zip (layout pl.ld)

/-- the blocks the encoder renders, page by page -/
def encoderBlocks (measure : Measure) (d : Doc) : Except String (List (PageCtx × List Block)) :=
  Plan.pageBlocks <$> plan measure d

theorem plan_ok {measure : Measure} {d : Doc} {pl : Plan} (h : plan measure d = .ok pl) :
    prepare d = .ok pl.p ∧ d.body.attrs.mapM Attr.toNested = .ok pl.bodyA ∧
    mkLDoc measure d pl.p = .ok (pl.ld, pl.near) ∧
    finalRows d pl.p (pl.ld.pages.map (·.height)) = .ok pl.rows := by
  unfold plan at h
  peel h as p hp
  peel h as bodyA hb
  peel h as x hx
  peel h as rows hr
  cases pure_ok h
  exact ⟨hp, hb, hx, hr⟩

theorem plan_of_parts {measure : Measure} {d : Doc} {p : Prep} {bodyA : TblAttrsOf MatV} {ld : LDoc} {near : Nat}
    {rows : List (List (Option Str))} (hp : prepare d = .ok p) (hb : d.body.attrs.mapM Attr.toNested = .ok bodyA)
    (hx : mkLDoc measure d p = .ok (ld, near)) (hr : finalRows d p (ld.pages.map (·.height)) = .ok rows) :
    plan measure d = .ok { p := p, bodyA := bodyA, ld := ld, near := near, rows := rows } := by
  unfold plan
  rw [hp]; dsimp only [bind, Except.bind]
  rw [hb]; dsimp only
  rw [hx]; dsimp only
  rw [hr]; rfl

/-- every page has its block list: `pageBlocks` has one entry per page, in page order -/
theorem pageBlocks_eq (pl : Plan) : pl.pageBlocks = pl.ld.pages.map fun pg => (pg, Model.Layout.renderPage pl.ld pg) :=
  List.map_prod_left_eq_zip.symm

theorem pageBlocks_map_snd (pl : Plan) : pl.pageBlocks.map Prod.snd = layout pl.ld := by
  rw [pageBlocks_eq]; simp [layout, List.map_map, Function.comp_def]

theorem pageBlocks_map_fst (pl : Plan) : pl.pageBlocks.map Prod.fst = pl.ld.pages := by
  rw [pageBlocks_eq]; simp [List.map_map, Function.comp_def]

theorem pageBlocks_mem {pl : Plan} {x : PageCtx × List Block} (h : x ∈ pl.pageBlocks) :
    x.1 ∈ pl.ld.pages ∧ x.2 = Model.Layout.renderPage pl.ld x.1 := by
  rw [pageBlocks_eq] at h
  obtain ⟨pg, hpg, rfl⟩ := List.mem_map.mp h
  exact ⟨hpg, rfl⟩

theorem pageBlocks_getElem? {pl : Plan} {n : Nat} {x : PageCtx × List Block} (h : pl.pageBlocks[n]? = some x) :
    pl.ld.pages[n]? = some x.1 ∧ x.2 = Model.Layout.renderPage pl.ld x.1 := by
  rw [pageBlocks_eq, List.getElem?_map, Option.map_eq_some_iff] at h
  obtain ⟨pg, hpg, rfl⟩ := h
  exact ⟨hpg, rfl⟩

/-- **`encodePages` renders exactly `pageBlocks`**: the plan, then `renderPage` of every page's block list, then
concatenation -/
theorem encodePages_eq (measure : Measure) (k : ColorCtx) (d : Doc) :
    encodePages measure k d =
      (plan measure d >>= fun pl =>
        (pl.pageBlocks.mapM fun x => Model.Encode.renderPage k d pl.bodyA pl.p pl.rows x.1 x.2) >>= fun ess =>
          pure (ess.flatten, pl.near)) := by
  unfold encodePages plan Plan.pageBlocks
  simp only [bind_assoc, pure_bind]

/-! ## the trace of the rendering -/

/-- for every page its context and, block by block in rendering order, the elements the block was rendered to -/
abbrev Trace := List (PageCtx × List (Block × List Elem))

/-- the role-level blocks of a trace -/
def Trace.blocks (R : Trace) : List (PageCtx × List Block) := R.map fun x => (x.1, x.2.map Prod.fst)

/-- the elements of one page -/
def pageElems (bs : List (Block × List Elem)) : List Elem := bs.flatMap Prod.snd

/-- all elements, in rendering order -/
def Trace.elems (R : Trace) : List Elem := R.flatMap fun x => pageElems x.2

/-- `R` is the rendering of the plan: its blocks are the plan's `pageBlocks`, and every block is paired with the result
of `renderBlock` on its page (with the page's attributes) -/
structure Renders (k : ColorCtx) (d : Doc) (pl : Plan) (R : Trace) : Prop where
  blocks : R.blocks = pl.pageBlocks
  each : ∀ x ∈ R, ∀ y ∈ x.2,
    renderBlock k d pl.bodyA pl.p pl.rows x.1 (pageAttrs d pl.bodyA pl.p x.1) y.1 = .ok y.2

theorem Renders.page_getElem? {k : ColorCtx} {d : Doc} {pl : Plan} {R : Trace} (hR : Renders k d pl R) {n : Nat}
    {x : PageCtx × List (Block × List Elem)} (hx : R[n]? = some x) :
    pl.pageBlocks[n]? = some (x.1, x.2.map Prod.fst) := by
  rw [← hR.blocks, Trace.blocks, List.getElem?_map, hx]
  rfl

theorem Renders.page_mem {k : ColorCtx} {d : Doc} {pl : Plan} {R : Trace} (hR : Renders k d pl R)
    {x : PageCtx × List (Block × List Elem)} (hx : x ∈ R) : (x.1, x.2.map Prod.fst) ∈ pl.pageBlocks := by
  rw [← hR.blocks]
  exact List.mem_map.mpr ⟨x, hx, rfl⟩

/-- the rendering of a block of the trace whose kind is known -/
theorem Renders.block {k : ColorCtx} {d : Doc} {pl : Plan} {R : Trace} (hR : Renders k d pl R)
    {x : PageCtx × List (Block × List Elem)} (hx : x ∈ R) {y : Block × List Elem} (hy : y ∈ x.2) {b : Block}
    (hb : y.1 = b) : renderBlock k d pl.bodyA pl.p pl.rows x.1 (pageAttrs d pl.bodyA pl.p x.1) b = .ok y.2 :=
  hb ▸ hR.each x hx y hy

/-- a data row is rendered as one table row: `encodeRow` of its cells, at its position on the page -/
theorem renderBlock_data_inv {k : ColorCtx} {d : Doc} {bodyA : TblAttrsOf MatV} {p : Prep}
    {rows : List (List (Option Str))} {pg : PageCtx} {pa : PageAttrs} {i : Nat} {es : List Elem}
    (h : renderBlock k d bodyA p rows pg pa (.data i) = .ok es) :
    ∃ cells e, rows[i]? = some cells ∧ encodeRow k pa.attrs p.cum (i - pg.dataStart) cells = .ok e ∧ es = [e] := by
  simp only [renderBlock] at h
  split at h
  · next cells hcells =>
    peel h as e he
    exact ⟨cells, e, hcells, he, (pure_ok h).symm⟩
  · cases h

/-- a group heading is rendered as one table row, the spanning row -/
theorem renderBlock_heading_inv {k : ColorCtx} {d : Doc} {bodyA : TblAttrsOf MatV} {p : Prep}
    {rows : List (List (Option Str))} {pg : PageCtx} {pa : PageAttrs} {lvl : Nat} {t : String} {es : List Elem}
    (h : renderBlock k d bodyA p rows pg pa (.heading lvl t) = .ok es) :
    ∃ e, spanningRow k d bodyA lvl t = .ok e ∧ es = [e] := by
  simp only [renderBlock] at h
  peel h as e he
  exact ⟨e, he, (pure_ok h).symm⟩

/-- a `.data i` block of a trace is row `i` of the final frame, encoded on the page's attributes at its page-relative
position -/
theorem Renders.data_block {k : ColorCtx} {d : Doc} {pl : Plan} {R : Trace} (hR : Renders k d pl R)
    {x : PageCtx × List (Block × List Elem)} (hx : x ∈ R) {y : Block × List Elem} (hy : y ∈ x.2) {i : Nat}
    (hb : y.1 = Block.data i) :
    ∃ cells e, pl.rows[i]? = some cells ∧ y.2 = [e] ∧
      encodeRow k (pageAttrs d pl.bodyA pl.p x.1).attrs pl.p.cum (i - x.1.dataStart) cells = .ok e := by
  obtain ⟨cells, e, hcells, he, hes⟩ := renderBlock_data_inv (hR.block hx hy hb)
  exact ⟨cells, e, hcells, hes, he⟩

/-- a `.heading lvl t` block of a trace is one spanning row -/
theorem Renders.heading_block {k : ColorCtx} {d : Doc} {pl : Plan} {R : Trace} (hR : Renders k d pl R)
    {x : PageCtx × List (Block × List Elem)} (hx : x ∈ R) {y : Block × List Elem} (hy : y ∈ x.2) {lvl : Nat}
    {t : String} (hb : y.1 = Block.heading lvl t) : ∃ e, y.2 = [e] ∧ spanningRow k d pl.bodyA lvl t = .ok e := by
  obtain ⟨e, he, hes⟩ := renderBlock_heading_inv (hR.block hx hy hb)
  exact ⟨e, hes, he⟩

theorem renderPage_trace {k : ColorCtx} {d : Doc} {bodyA : TblAttrsOf MatV} {p : Prep}
    {rows : List (List (Option Str))} {pg : PageCtx} {blocks : List Block} {es : List Elem} :
    Model.Encode.renderPage k d bodyA p rows pg blocks = .ok es ↔
      ∃ T : List (Block × List Elem), T.map Prod.fst = blocks ∧ pageElems T = es ∧
        ∀ y ∈ T, renderBlock k d bodyA p rows pg (pageAttrs d bodyA p pg) y.1 = .ok y.2 := by
  unfold Model.Encode.renderPage
  dsimp only
  constructor
  · intro h
    peel h as ess hess
    cases pure_ok h
    obtain ⟨T, h1, rfl, h3⟩ := mapM_witness (key := Prod.fst) (val := Prod.snd)
      (Q := fun y => renderBlock k d bodyA p rows pg (pageAttrs d bodyA p pg) y.1 = .ok y.2)
      (fun a b h => ⟨(a, b), rfl, rfl, h⟩) hess
    exact ⟨T, h1, List.flatMap_def .., h3⟩
  · rintro ⟨T, rfl, rfl, h⟩
    rw [mapM_of_witness T h, pageElems, List.flatMap_def]
    rfl

theorem renderPages_trace {k : ColorCtx} {d : Doc} {bodyA : TblAttrsOf MatV} {p : Prep}
    {rows : List (List (Option Str))} {pbs : List (PageCtx × List Block)} {ess : List (List Elem)} :
    (pbs.mapM fun x => Model.Encode.renderPage k d bodyA p rows x.1 x.2) = .ok ess ↔
      ∃ R : Trace, R.blocks = pbs ∧ R.map (fun x => pageElems x.2) = ess ∧
        ∀ x ∈ R, ∀ y ∈ x.2, renderBlock k d bodyA p rows x.1 (pageAttrs d bodyA p x.1) y.1 = .ok y.2 := by
  constructor
  · refine mapM_witness fun a b h => ?_
    obtain ⟨T, h1, h2, h3⟩ := renderPage_trace.mp h
    exact ⟨(a.1, T), by rw [h1], h2, h3⟩
  · rintro ⟨R, rfl, rfl, h⟩
    exact mapM_of_witness R fun x hx => renderPage_trace.mpr ⟨x.2, rfl, rfl, h x hx⟩

/-- **structure of `encodePages`**: it succeeds exactly when the plan exists and every block of `pageBlocks` renders;
the element list is the concatenation of the renderings, and `near` is the plan's -/
theorem encodePages_trace {measure : Measure} {k : ColorCtx} {d : Doc} {elems : List Elem} {near : Nat} :
    encodePages measure k d = .ok (elems, near) ↔
      ∃ pl R, plan measure d = .ok pl ∧ Renders k d pl R ∧ elems = R.elems ∧ near = pl.near := by
  rw [encodePages_eq]
  constructor
  · intro h
    peel h as pl hpl
    peel h as ess hess
    cases pure_ok h
    obtain ⟨R, g1, rfl, g3⟩ := renderPages_trace.mp hess
    exact ⟨pl, R, hpl, ⟨g1, g3⟩, (List.flatMap_def ..).symm, rfl⟩
  · rintro ⟨pl, R, hpl, ⟨g1, g3⟩, rfl, rfl⟩
    rw [hpl]
    dsimp only [bind, Except.bind]
    rw [← g1, renderPages_trace.mpr ⟨R, rfl, rfl, g3⟩]
    dsimp only [pure, Except.pure]
    rw [Trace.elems, List.flatMap_def]

/-- **structure of `encode`**: every accepted document has a plan and a trace; the blocks of the output are the
elements of the trace joined by newlines (followed by the closing newlines) -/
theorem encode_trace {measure : Measure} {d : Doc} {g : DocG} (h : encode measure d = .ok g) :
    ∃ pl R, plan measure d = .ok pl ∧ Renders (mkColorCtx d) d pl R ∧
      g.blocks = joinElems R.elems ++ [BlockG.plain [Node.nl, Node.nl, Node.nl, Node.nl]] := by
  obtain ⟨elems, near, _, _, _, _, _, hp, _, _, _, _, _, rfl⟩ := encode_inv h
  obtain ⟨pl, R, hpl, hR, rfl, _⟩ := encodePages_trace.mp hp
  exact ⟨pl, R, hpl, hR, rfl⟩

/-! ## what `mkLDoc` puts into the role-level document -/

/-- `text is not None` of a header object -/
def headerHasText (h : Option Header) : Bool :=
  match h with
  | some h => h.text.isSome
  | none => false

/-- what `mkLDoc` puts into the role-level document, in terms of the document -/
structure LDocFacts (measure : Measure) (d : Doc) (p : Prep) (ld : LDoc) : Prop where
  nrow : ld.nrow = d.page.nrow
  hasPageBy : ld.hasPageBy = !d.body.pageByL.isEmpty
  hasSubline : ld.hasSubline = !d.body.sublineByL.isEmpty
  newPage : ld.newPage = d.body.newPage
  pagebyColumn : ld.pagebyColumn = d.body.pagebyColumn
  pagebyHeader : ld.pagebyHeader = d.body.pagebyHeader
  headers : ld.headers = d.headers.map headerHasText
  asColheader : ld.asColheader = d.body.asColheader
  hasTitle : ld.hasTitle = hasText d.title
  hasSublineTxt : ld.hasSublineTxt = hasText d.subline
  footnote : ld.footnote = footComp d.footnote
  source : ld.source = footComp d.source
  pageTitle : ld.pageTitle = d.page.pageTitle
  pageFootnote : ld.pageFootnote = d.page.pageFootnote
  pageSource : ld.pageSource = d.page.pageSource
  length : ld.rows.length = d.rows.length
  row : ∀ i r, ld.rows[i]? = some r → ∃ row cells nr, d.rows[i]? = some row ∧ p.dispRows[i]? = some cells ∧
    dataLines measure p.attrs i cells p.cum 0 0 (1, false) = .ok (r.lines, nr) ∧
    r.pkey = (pick d.cols row d.body.pageByL).map optString ∧
    r.skey = (pick d.cols row d.body.sublineByL).map optString ∧ 1 ≤ r.lines

theorem LDocFacts.lines_pos {measure : Measure} {d : Doc} {p : Prep} {ld : LDoc} (hf : LDocFacts measure d p ld) :
    ∀ r ∈ ld.rows, 1 ≤ r.lines := by
  intro r hr
  obtain ⟨i, hi⟩ := List.getElem?_of_mem hr
  obtain ⟨_, _, _, _, _, _, _, _, h⟩ := hf.row i r hi
  exact h

theorem mkLDoc_facts {measure : Measure} {d : Doc} {p : Prep} {ld : LDoc} {near : Nat}
    (hdisp : p.dispRows.length = d.rows.length) (h : mkLDoc measure d p = .ok (ld, near)) :
    LDocFacts measure d p ld := by
  have hrow := mkLDoc_row h
  have hlen := mkLDoc_length h hdisp
  unfold mkLDoc at h
  dsimp only at h
  peel h as rows hrows
  cases pure_ok h
  refine { nrow := rfl, hasPageBy := rfl, hasSubline := rfl, newPage := rfl, pagebyColumn := rfl, pagebyHeader := rfl,
           headers := rfl, asColheader := rfl, hasTitle := rfl, hasSublineTxt := rfl, footnote := rfl, source := rfl,
           pageTitle := rfl, pageFootnote := rfl, pageSource := rfl, length := hlen, row := ?_ }
  intro i r hr
  obtain ⟨row, cells, _, _, _, hrow, hc, _, _, hld⟩ := hrow i r hr
  obtain ⟨dl, _, _, hdl, _, _, rfl⟩ := mkLRow_ok hld
  exact ⟨row, cells, dl.2, hrow, hc, hdl, rfl, rfl, Proofs.EncodeOwnWidth.dataLines_ge _ _ _ _ _ _ hdl⟩

/-- the placement options of the page enter the role-level document as they are and nothing else depends on them -/
theorem mkLDoc_placement (measure : Measure) (d : Doc) (p : Prep) (pt pf ps : Placement) :
    mkLDoc measure { d with page := { d.page with pageTitle := pt, pageFootnote := pf, pageSource := ps } } p =
      (fun x => ({ x.1 with pageTitle := pt, pageFootnote := pf, pageSource := ps }, x.2)) <$> mkLDoc measure d p := by
  unfold mkLDoc
  dsimp only
  cases List.mapM (m := Except String) _ _ <;> rfl

/-! ## the preparation: removed columns -/

theorem prepare_dispRows_length {d : Doc} {p : Prep} (h : prepare d = .ok p) : p.dispRows.length = d.rows.length := by
  obtain ⟨removed, _, _, _, _, _, h6, _⟩ := prepare_facts h
  rw [h6, List.length_map]

/-- the removed indices are the positions of the removed names, all of which are columns -/
theorem removedIdx_ok {d : Doc} {removed : List Nat} (h : removedIdx d = .ok removed) :
    removed = (removedNames d.body).map (fun n => d.cols.idxOf n) ∧ ∀ n ∈ removedNames d.body, n ∈ d.cols := by
  obtain ⟨T, h1, h2, h3⟩ := mapM_witness (key := id) (val := fun n => d.cols.idxOf n) (Q := (· ∈ d.cols))
    (fun n i hi => by
      dsimp only at hi
      split at hi
      · next hlt => exact ⟨n, rfl, Except.ok.inj hi, List.idxOf_lt_length_iff.mp hlt⟩
      · cases hi) h
  rw [List.map_id] at h1
  subst h1
  exact ⟨h2.symm, h3⟩

/-- spanning rows are shown: there are page_by columns, and `not new_page or pageby_row != "column"` -/
def spanningDoc (d : Doc) : Bool := !d.body.pageByL.isEmpty && d.body.pageByRemoved

/-- `columns_to_remove`: subline_by always, page_by exactly when spanning rows are shown -/
theorem removedNames_eq (d : Doc) :
    removedNames d.body = d.body.sublineByL ++ (if spanningDoc d then d.body.pageByL else []) := by
  unfold removedNames spanningDoc Body.pageByL
  cases d.body.pageBy with
  | none => simp
  | some l => cases l <;> simp

theorem spanning_eq {measure : Measure} {d : Doc} {p : Prep} {ld : LDoc} (hf : LDocFacts measure d p ld) :
    ld.spanning = spanningDoc d := by
  unfold LDoc.spanning spanningDoc Body.pageByRemoved
  rw [hf.hasPageBy, hf.newPage, hf.pagebyColumn]

/-! ## column removal by index = removal by name -/

theorem filter_zipIdx_eq_filter_zip {α β : Type} (q : Nat → Bool) (pn : β → Bool) :
    ∀ (cols : List β) (row : List α) (k : Nat), row.length ≤ cols.length →
      (∀ j (h : j < cols.length), q (k + j) = pn cols[j]) →
      ((row.zipIdx k).filter (fun x => q x.2)).map (·.1) = ((cols.zip row).filter (fun x => pn x.1)).map (·.2)
  | _, [], _, _, _ => by simp
  | [], _ :: _, _, hl, _ => by simp at hl
  | c :: cols, a :: row, k, hl, hq => by
    have h0 : q k = pn c := hq 0 (Nat.zero_lt_succ _)
    have ih := filter_zipIdx_eq_filter_zip q pn cols row (k + 1) (by simpa using hl) (by
      intro j hj
      have := hq (j + 1) (by simpa using hj)
      simpa [Nat.add_assoc, Nat.add_comm 1 j] using this)
    simp only [List.zipIdx_cons, List.zip_cons_cons, List.filter_cons, h0]
    split <;> simp [ih]

theorem contains_idxOf {cols : List Str} (hnd : cols.Nodup) (names : List Str) (j : Nat) (hj : j < cols.length) :
    (names.map fun n => cols.idxOf n).contains j = names.contains cols[j] := by
  rw [Bool.eq_iff_iff]
  simp only [List.contains_iff_mem, List.mem_map]
  constructor
  · rintro ⟨n, hn, rfl⟩
    have : n ∈ cols := List.idxOf_lt_length_iff.mp hj
    rw [List.getElem_idxOf hj]
    exact hn
  · intro h
    exact ⟨cols[j], h, hnd.idxOf_getElem j hj⟩

/-- with unique column names, dropping the positions of `names` from a row keeps exactly the cells of the other
columns, in their original order -/
theorem dropCols_eq_filter {α : Type} {cols : List Str} (hnd : cols.Nodup) (names : List Str) (row : List α)
    (hlen : row.length ≤ cols.length) :
    dropCols row (names.map fun n => cols.idxOf n) =
      ((cols.zip row).filter fun x => !names.contains x.1).map (·.2) := by
  unfold dropCols
  exact filter_zipIdx_eq_filter_zip (fun j => !(names.map fun n => cols.idxOf n).contains j) (fun c => !names.contains c)
    cols row 0 hlen (fun j hj => by rw [Nat.zero_add, contains_idxOf hnd names j hj])

theorem dropCols_cols_eq_filter {cols : List Str} (hnd : cols.Nodup) (names : List Str) :
    dropCols cols (names.map fun n => cols.idxOf n) = cols.filter fun c => !names.contains c := by
  rw [dropCols_eq_filter hnd names cols (Nat.le_refl _)]
  clear hnd
  induction cols with
  | nil => rfl
  | cons c cs ih =>
    simp only [List.zip_cons_cons, List.filter_cons]
    split
    · rw [List.map_cons, ih]
    · exact ih

/-! ## one table row -/

/-- a successful `encodeRow`: one `rowElem`, one cell per value, every cell the result of `encodeCell` on the value's
display text (`""` for null) -/
theorem encodeRow_cells {k : ColorCtx} {A : TblAttrsOf MatV} {colWidths : List Rat} {r : Nat}
    {cells : List (Option Str)} {e : Elem} (h : encodeRow k A colWidths r cells = .ok e) :
    cells ≠ [] ∧ ∃ fmt : RowFmt, e = rowElem fmt ∧ fmt.cells.length = cells.length ∧
      ∀ j c, cells[j]? = some c → ∃ cf, fmt.cells[j]? = some cf ∧
        encodeCell k A r j (j + 1 == cells.length) (c.getD []) colWidths[j]? = .ok cf := by
  obtain ⟨hne, cs, _, _, _, _, hlen, hcell, _, _, _, _, rfl⟩ := encodeRow_inv h
  exact ⟨hne, _, rfl, hlen, hcell⟩

/-- a successful `encodeCell`: the text hole is the converted, escaped text read into nodes, with the `convert` flag
and the text format resolved from the attribute values at the cell's position; the right boundary is the twip value of
the column's cumulative width -/
theorem encodeCell_body {k : ColorCtx} {A : TblAttrsOf MatV} {r j : Nat} {isLast : Bool} {text : Str}
    {width : Option Rat} {cf : CellFmt} (h : encodeCell k A r j isLast text width = .ok cf) :
    ∃ tv tf conv w, textValsAt A.toTextAttrsOf r j = .ok tv ∧ resolveText k tv = .ok (tf, conv) ∧
      width = some w ∧ cf.cellx = twip w ∧ cf.text = tf ∧ cf.body = textNodes (convText conv text) := by
  obtain ⟨_, _, tv, x, w, _, _, _, _, _, _, _, htv, hx, hw, _, _, _, _, _, rfl⟩ := encodeCell_inv h
  exact ⟨tv, x.1, x.2, w, htv, hx, hw, rfl, rfl, rfl⟩

/-! ## page_by keys -/

theorem pick_getElem? (cols : List Str) (row : List (Option Str)) (names : List Str) (l : Nat) :
    (pick cols row names)[l]? = names[l]?.map fun n => (row[cols.idxOf n]?).join := by
  unfold pick
  rw [List.getElem?_map]

theorem pick_length (cols : List Str) (row : List (Option Str)) (names : List Str) :
    (pick cols row names).length = names.length := by
  unfold pick
  rw [List.length_map]

theorem ofList_ne_divider {s : Str} (h : s ≠ "-----".toList) : String.ofList s ≠ "-----" := by
  intro he
  apply h
  apply String.ofList_injective
  rw [he]
  decide

theorem contains_map_ofList (names : List Str) (c : Str) :
    (names.map String.ofList).contains (String.ofList c) = names.contains c := by
  rw [Bool.eq_iff_iff]
  simp only [List.contains_iff_mem, List.mem_map]
  constructor
  · rintro ⟨n, hn, he⟩
    rw [← String.ofList_injective he]; exact hn
  · intro h
    exact ⟨c, h, rfl⟩

/-! ## the final frame -/

/-- the final frame has one row per frame row (with and without group_by) -/
theorem finalRows_length {d : Doc} {p : Prep} {hs : List Nat} {rows : List (List (Option Str))}
    (h : finalRows d p hs = .ok rows) : rows.length = p.dispRows.length := by
  unfold finalRows at h
  dsimp only at h
  split at h
  · rw [← Except.ok.inj h]
  · split at h
    · rw [← Except.ok.inj h]
      unfold ofFrame
      rw [List.length_map, List.length_range]
    · cases h

theorem plan_rows_length {measure : Measure} {d : Doc} {pl : Plan} (hp : plan measure d = .ok pl) :
    pl.rows.length = d.rows.length ∧ pl.ld.rows.length = d.rows.length := by
  obtain ⟨hprep, _, hld, hfin⟩ := plan_ok hp
  have hl := prepare_dispRows_length hprep
  exact ⟨by rw [finalRows_length hfin, hl], (mkLDoc_facts hl hld).length⟩

/-- `footComp` of a present component that is not `.absent` says whether the component is rendered as a table -/
theorem footComp_table {f : Foot} (h : footComp (some f) ≠ .absent) : (footComp (some f) == .table) = f.asTable := by
  unfold footComp at h ⊢
  dsimp only at h ⊢
  split
  · cases f.asTable <;> rfl
  · next hn => rw [if_neg hn] at h; exact absurd rfl h

/-! ## the plan's rows and pages by position -/

theorem plan_facts {measure : Measure} {d : Doc} {pl : Plan} (hp : plan measure d = .ok pl) :
    LDocFacts measure d pl.p pl.ld := by
  obtain ⟨hprep, _, hld, _⟩ := plan_ok hp
  exact mkLDoc_facts (prepare_dispRows_length hprep) hld

/-- the role-level row of frame row `i` -/
theorem ldRow {measure : Measure} {d : Doc} {pl : Plan} (hp : plan measure d = .ok pl) {i : Nat}
    {row : List (Option Str)} (hrow : d.rows[i]? = some row) :
    ∃ r, pl.ld.rows[i]? = some r ∧ r.pkey = (pick d.cols row d.body.pageByL).map optString ∧
      r.skey = (pick d.cols row d.body.sublineByL).map optString := by
  have hf := plan_facts hp
  have hi : i < pl.ld.rows.length := by
    rw [hf.length]; exact (List.getElem?_eq_some_iff.mp hrow).1
  obtain ⟨row', _, _, h1, _, _, h4, h5, _⟩ := hf.row i _ (List.getElem?_eq_getElem hi)
  rw [hrow] at h1
  cases h1
  exact ⟨_, List.getElem?_eq_getElem hi, h4, h5⟩

/-- what the role-level theorems need about a page of the encoder that holds rows -/
theorem page_bounds {pl : Plan} (hne : pl.ld.rows ≠ [])
    {x : PageCtx × List Block} (hx : x ∈ pl.pageBlocks) :
    x.2 = Model.Layout.renderPage pl.ld x.1 ∧ x.1.dataStart = x.1.start ∧
      x.1.start + x.1.height ≤ pl.ld.rows.length ∧ 0 < x.1.height := by
  obtain ⟨hpg, hbs⟩ := pageBlocks_mem hx
  obtain ⟨P, _, _, _, hok, _⟩ := Proofs.Layout.pages_spec pl.ld hne
  have h := hok x.1 hpg
  have hb := h.bound
  rw [Proofs.Layout.pageNums_length] at hb
  exact ⟨hbs, h.data_eq, hb, h.height_pos⟩

theorem pageBlocks_length (pl : Plan) : pl.pageBlocks.length = pl.ld.pages.length := by
  rw [pageBlocks_eq, List.length_map]

/-- first / last page by position -/
theorem first_last (pl : Plan) (n : Nat) (x : PageCtx × List Block) (hx : pl.pageBlocks[n]? = some x) :
    x.1.number = n + 1 ∧ x.1.total = pl.pageBlocks.length ∧
    (x.1.number == 1) = (n == 0) ∧ (x.1.number == x.1.total) = (n + 1 == pl.pageBlocks.length) := by
  obtain ⟨hpg, _⟩ := pageBlocks_getElem? hx
  obtain ⟨h1, h2⟩ := Proofs.Layout.pages_numbering pl.ld n x.1 hpg
  rw [pageBlocks_length, h1, h2]
  refine ⟨rfl, rfl, ?_, rfl⟩
  rw [Bool.eq_iff_iff]
  simp

end Proofs.EncodeLift
