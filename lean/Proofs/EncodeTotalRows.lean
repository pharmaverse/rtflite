import Proofs.EncodeTotalBase
/-!
Totality of the encoder model, part 2: the resolvers of one text run / border / cell, `_encode_text` and
`TableAttributes._encode` succeed on readable attribute matrices.
-/
namespace Proofs.EncodeTotal
open Model.Encode Model.EncodeAccepted Model.Broadcast Model.Emit Generated
open Proofs.Encode (MemV)
open Proofs.EncodeAttrs (Field GoodV)

/-! ## what the resolvers need of a value (weaker than the validators: the defaults of `encode_spanning_row` pass) -/

def wInt (v : Val) : Prop := ∃ i, v.toInt = .ok i
def wRat (v : Val) : Prop := ∃ q, v.toRat = .ok q
def wBool (v : Val) : Prop := ∃ b, v.toBool = .ok b
def wFormat (v : Val) : Prop := v = .null ∨ okFormat v = true
def wOptStr (v : Val) : Prop := v = .null ∨ ∃ s, v = .str s

theorem wInt_of_okFont {v : Val} (h : okFont v = true) : wInt v := by
  cases v <;> simp [okFont] at h; exact ⟨_, rfl⟩
theorem wInt_of_okInt {v : Val} (h : okInt v = true) : wInt v := by
  cases v <;> simp [okInt] at h; exact ⟨_, rfl⟩
theorem wInt_of_okPosInt {v : Val} (h : okPosInt v = true) : wInt v := by
  cases v <;> simp [okPosInt] at h; exact ⟨_, rfl⟩
theorem wRat_of_okPosNum {v : Val} (h : okPosNum v = true) : wRat v := by
  cases v <;> simp [okPosNum] at h <;> exact ⟨_, rfl⟩
theorem wBool_of_okBool {v : Val} (h : okBool v = true) : wBool v := by
  cases v <;> simp [okBool] at h; exact ⟨_, rfl⟩
theorem wOptStr_of_okColor {v : Val} (h : okColor v = true) : wOptStr v := by
  cases v <;> simp [okColor] at h; exact Or.inr ⟨_, rfl⟩

structure TVOk (tv : TextVals) : Prop where
  font : wInt tv.font
  size : wRat tv.size
  format : wFormat tv.format
  color : wOptStr tv.color
  bg : wOptStr tv.bg
  just : okTextJust tv.just = true
  indFirst : wInt tv.indFirst
  indLeft : wInt tv.indLeft
  indRight : wInt tv.indRight
  space : wInt tv.space
  spBefore : wInt tv.spBefore
  spAfter : wInt tv.spAfter
  convert : wBool tv.convert
  hyph : wBool tv.hyph

theorem insertChar_subset (c : Char) : ∀ l : List Char, insertChar c l ⊆ c :: l
  | [] => fun _ h => h
  | d :: ds => by
    simp only [insertChar]
    split
    · exact fun _ h => h
    · split
      · exact List.subset_cons_self _ _
      · exact List.cons_subset.mpr ⟨by simp, (insertChar_subset c ds).trans (by simp)⟩

theorem sortedSet_subset : ∀ l : List Char, sortedSet l ⊆ l
  | [] => fun _ h => h
  | c :: cs => (insertChar_subset c _).trans (List.cons_subset_cons c (sortedSet_subset cs))

theorem toOptStr_of_wOptStr {v : Val} (h : wOptStr v) : ∃ o, v.toOptStr = .ok o := by
  rcases h with rfl | ⟨s, rfl⟩
  · exact ⟨none, rfl⟩
  · exact ⟨some s, rfl⟩

/-- the format letters resolve -/
theorem formats_total {s : String} (h : okFormat (.str s) = true) :
    ∃ fmts, ((sortedSet s.toList).mapM fun ch =>
      match formatCodes.lookup (String.ofList [ch]) with
      | some c => (pure (codeWord c) : Except String (List Char))
      | none => throw "ValueError") = .ok fmts := by
  apply mapM_total
  intro ch hch
  have := List.all_eq_true.mp h ch (sortedSet_subset _ hch)
  cases hl : formatCodes.lookup (String.ofList [ch]) with
  | none => rw [hl] at this; cases this
  | some c => exact ⟨codeWord c, rfl⟩

theorem okTextJust_str {v : Val} (h : okTextJust v = true) :
    ∃ s c, v.toStr = .ok s ∧ textJustCodes.lookup s = some c := by
  cases v with
  | str s =>
    obtain ⟨c, hc⟩ := Option.isSome_iff_exists.mp h
    exact ⟨s, c, rfl, hc⟩
  | _ => cases h

theorem wFormat_cases {v : Val} (h : wFormat v) :
    v.toOptStr = .ok none ∨ ∃ s, v.toOptStr = .ok (some s) ∧ okFormat (.str s) = true := by
  rcases h with rfl | h
  · exact Or.inl rfl
  · cases v with
    | str s => exact Or.inr ⟨s, rfl, h⟩
    | _ => cases h

/-- construction of one `TextContent` and its formatting succeed -/
theorem resolveText_total (k : ColorCtx) {tv : TextVals} (h : TVOk tv) : ∃ x, resolveText k tv = .ok x := by
  obtain ⟨font, h1⟩ := h.font
  obtain ⟨size, h2⟩ := h.size
  obtain ⟨color, h4⟩ := toOptStr_of_wOptStr h.color
  obtain ⟨bg, h5⟩ := toOptStr_of_wOptStr h.bg
  obtain ⟨js, jc, h6, h6'⟩ := okTextJust_str h.just
  obtain ⟨fi, h7⟩ := h.indFirst
  obtain ⟨li, h8⟩ := h.indLeft
  obtain ⟨ri, h9⟩ := h.indRight
  obtain ⟨space, h10⟩ := h.space
  obtain ⟨sb, h11⟩ := h.spBefore
  obtain ⟨sa, h12⟩ := h.spAfter
  obtain ⟨conv, h13⟩ := h.convert
  obtain ⟨hyph, h14⟩ := h.hyph
  unfold resolveText
  rcases wFormat_cases h.format with h3 | ⟨s, h3, hs⟩
  · simp only [h1, h2, h3, h4, h5, h6, h7, h8, h9, h10, h11, h12, h13, h14, ok_bind, h6', pure_eq_ok]
    exact ⟨_, rfl⟩
  · simp only [h1, h2, h3, h4, h5, h6, h7, h8, h9, h10, h11, h12, h13, h14, ok_bind, h6', pure_eq_ok]
    generalize hF : List.mapM (m := Except String) _ (sortedSet s.toList) = X
    obtain ⟨fmts, rfl⟩ : ∃ fmts, X = .ok fmts := by rw [← hF]; exact formats_total hs
    exact ⟨_, rfl⟩

/-! ## the values of one text position -/

theorem okFormat_w {s : Spec} {v : Val} (hs : s.ok = okFormat) (h : s.ok v = true ∨ (v = .null ∧ True)) : wFormat v := by
  rcases h with h | ⟨h, _⟩
  · right; rw [← hs]; exact h
  · left; exact h

/-- what `resolveText` needs of the value of each text field (the fields of `TVOk`) -/
def TField.W : TField → Val → Prop
  | .font | .indFirst | .indLeft | .indRight | .space | .spBefore | .spAfter => wInt
  | .size => wRat
  | .format => wFormat
  | .color | .bg => wOptStr
  | .just => fun v => okTextJust v = true
  | .hyph | .convert => wBool

theorem TField.W_of_ok : ∀ (f : TField) {v : Val}, (f.get textSpec).ok v = true → f.W v
  | .font, _, h => wInt_of_okFont h
  | .format, _, h => Or.inr h
  | .size, _, h => wRat_of_okPosNum h
  | .color, _, h => wOptStr_of_okColor h
  | .bg, _, h => wOptStr_of_okColor h
  | .just, _, h => h
  | .indFirst, _, h => wInt_of_okInt h
  | .indLeft, _, h => wInt_of_okInt h
  | .indRight, _, h => wInt_of_okInt h
  | .space, _, h => wInt_of_okInt h
  | .spBefore, _, h => wInt_of_okInt h
  | .spAfter, _, h => wInt_of_okInt h
  | .hyph, _, h => wBool_of_okBool h
  | .convert, _, h => wBool_of_okBool h

/-- only `format`, `color` and `bg` may be absent, and `resolveText` takes their `None` -/
theorem TField.W_null : ∀ f : TField, (f.get textSpec).req = false → f.W .null
  | .format, _ => Or.inl rfl
  | .color, _ => Or.inl rfl
  | .bg, _ => Or.inl rfl
  | .font, h | .size, h | .just, h | .indFirst, h | .indLeft, h | .indRight, h | .space, h | .spBefore, h
  | .spAfter, h | .hyph, h | .convert, h => absurd h (by decide)

theorem textVal_total {M : MatV} (f : TField) (h : FieldGood (f.get textSpec) M) (r c : Nat) :
    ∃ v, ilocV M r c = .ok v ∧ f.W v := by
  obtain ⟨v, hv, g | ⟨rfl, rfl⟩⟩ := ilocV_total h r c
  · exact ⟨v, hv, f.W_of_ok g⟩
  · exact ⟨_, hv, f.W_null (by cases hr : (f.get textSpec).req; rfl; exact absurd rfl (h.req hr))⟩

theorem textValsAt_total {a : TextAttrsOf MatV} (h : TextGood a) (r c : Nat) :
    ∃ tv, textValsAt a r c = .ok tv ∧ TVOk tv := by
  obtain ⟨v1, h1, g1⟩ := textVal_total .font (h .font) r c
  obtain ⟨v2, h2, g2⟩ := textVal_total .size (h .size) r c
  obtain ⟨v3, h3, g3⟩ := textVal_total .format (h .format) r c
  obtain ⟨v4, h4, g4⟩ := textVal_total .color (h .color) r c
  obtain ⟨v5, h5, g5⟩ := textVal_total .bg (h .bg) r c
  obtain ⟨v6, h6, g6⟩ := textVal_total .just (h .just) r c
  obtain ⟨v7, h7, g7⟩ := textVal_total .indFirst (h .indFirst) r c
  obtain ⟨v8, h8, g8⟩ := textVal_total .indLeft (h .indLeft) r c
  obtain ⟨v9, h9, g9⟩ := textVal_total .indRight (h .indRight) r c
  obtain ⟨v10, h10, g10⟩ := textVal_total .space (h .space) r c
  obtain ⟨v11, h11, g11⟩ := textVal_total .spBefore (h .spBefore) r c
  obtain ⟨v12, h12, g12⟩ := textVal_total .spAfter (h .spAfter) r c
  obtain ⟨v13, h13, g13⟩ := textVal_total .convert (h .convert) r c
  obtain ⟨v14, h14, g14⟩ := textVal_total .hyph (h .hyph) r c
  simp only [TField.get] at h1 h2 h3 h4 h5 h6 h7 h8 h9 h10 h11 h12 h13 h14
  refine ⟨{ font := v1, size := v2, format := v3, color := v4, bg := v5, just := v6, indFirst := v7, indLeft := v8,
            indRight := v9, space := v10, spBefore := v11, spAfter := v12, convert := v13, hyph := v14 }, ?_,
    { font := g1, size := g2, format := g3, color := g4, bg := g5, just := g6, indFirst := g7, indLeft := g8,
      indRight := g9, space := g10, spBefore := g11, spAfter := g12, convert := g13, hyph := g14 }⟩
  simp only [textValsAt, h1, h2, h3, h4, h5, h6, h7, h8, h9, h10, h11, h12, h13, h14, ok_bind, pure_eq_ok]

/-! ## `_encode_text` -/

theorem resolveLines_total (k : ColorCtx) {a : TextAttrsOf MatV} (h : TextGood a) (text : List Str) :
    ∃ ls, resolveLines k a text = .ok ls ∧ ls.length = text.length := by
  have : ∃ ls, resolveLines k a text = .ok ls := by
    unfold resolveLines
    apply mapM_total
    intro x _
    refine bind_total' _ (textValsAt_total h x.2 0) fun tv hok => ?_
    exact bind_total (resolveText_total k hok) fun ⟨_, _⟩ _ => ⟨_, rfl⟩
  obtain ⟨ls, hls⟩ := this
  refine ⟨ls, hls, ?_⟩
  have := Proofs.EncodeAttrs.mapM_length hls
  simpa using this

theorem encodeTextLine_total (k : ColorCtx) {a : TextAttrsOf MatV} (h : TextGood a) {text : List Str}
    (hne : text ≠ []) : ∃ n, encodeTextLine k a text = .ok n := by
  obtain ⟨ls, hls, hlen⟩ := resolveLines_total k h text
  unfold encodeTextLine
  simp only [hls, ok_bind]
  cases hl : ls.getLast? with
  | none =>
    rw [List.getLast?_eq_none_iff] at hl
    subst hl
    exact absurd (List.eq_nil_of_length_eq_zero hlen.symm) hne
  | some x => exact ⟨_, rfl⟩

theorem encodeTextParas_total (k : ColorCtx) {a : TextAttrsOf MatV} (h : TextGood a) (text : List Str) :
    ∃ ns, encodeTextParas k a text = .ok ns := by
  obtain ⟨ls, hls, _⟩ := resolveLines_total k h text
  exact bind_total ⟨ls, hls⟩ fun _ _ => ⟨_, rfl⟩

/-! ## borders, alignment -/

/-- `Border(style=…, width=…, color=…)` and its code-table lookup -/
theorem resolveBorder_total (k : ColorCtx) {style width color : Val} (hs : okBorder style = true)
    (hw : width = .null ∨ wInt width) (hc : wOptStr color) : ∃ b, resolveBorder k style width color = .ok b := by
  cases style with
  | str st =>
    obtain ⟨code, hcode⟩ : ∃ c, borderCodes.lookup st = some c := Option.isSome_iff_exists.mp hs
    unfold resolveBorder
    simp only [Val.toStr, ok_bind]
    rcases hc with rfl | ⟨s, rfl⟩
    · rcases hw with rfl | ⟨i, hi⟩
      · simp only [pure_eq_ok, ok_bind, hcode]; exact ⟨_, rfl⟩
      · cases width <;> simp only [pure_eq_ok, ok_bind, hcode, hi] <;> exact ⟨_, rfl⟩
    · rcases hw with rfl | ⟨i, hi⟩
      · simp only [pure_eq_ok, ok_bind, hcode]; exact ⟨_, rfl⟩
      · cases width <;> simp only [pure_eq_ok, ok_bind, hcode, hi] <;> exact ⟨_, rfl⟩
  | _ => cases hs

theorem resolveVJust_total {v : Val} (h : v = .null ∨ okVJust v = true) : ∃ ws, resolveVJust v = .ok ws := by
  rcases h with rfl | h
  · exact ⟨[], rfl⟩
  · cases v with
    | str s =>
      obtain ⟨code, hcode⟩ : ∃ c, vertAlignCodes.lookup s = some c := Option.isSome_iff_exists.mp h
      exact ⟨codeWords code, by simp [resolveVJust, hcode]⟩
    | _ => cases h

theorem resolveRowJust_total {v : Val} (h : okRowJust v = true) : ∃ w, resolveRowJust v = .ok w := by
  cases v with
  | str s =>
    obtain ⟨code, hcode⟩ : ∃ c, rowJustCodes.lookup s = some c := Option.isSome_iff_exists.mp h
    exact ⟨codeWord code, by simp [resolveRowJust, Val.toStr, hcode]⟩
  | _ => cases h

/-! ## `TableAttributes._encode` -/

theorem wOptStr_of_color {s : Spec} {v : Val} {M : MatV} (hs : s.ok = okColor)
    (h : s.ok v = true ∨ (v = .null ∧ M = none)) : wOptStr v :=
  h.elim (fun h => wOptStr_of_okColor (hs ▸ h)) fun h => Or.inl h.1

/-- one border of a cell of a readable table component -/
theorem mkBorder_total (k : ColorCtx) {A : TblAttrsOf MatV} (hA : TblGood A) (fs fc : Field)
    (hfs : (fs.get tblSpec).ok = okBorder ∧ (fs.get tblSpec).req = true) (hfc : (fc.get tblSpec).ok = okColor)
    {bw : Val} (hbw : bw = .null ∨ wInt bw) (r j : Nat) :
    ∃ b, (do resolveBorder k (← ilocV (fs.get A) r j) bw (← ilocV (fc.get A) r j)) = .ok b := by
  obtain ⟨st, hst, gst⟩ := ilocV_req (hA fs) hfs.2 r j
  obtain ⟨col, hcol, gcol⟩ := ilocV_total (hA fc) r j
  rw [hfs.1] at gst
  obtain ⟨b, hb⟩ := resolveBorder_total k gst hbw (wOptStr_of_color hfc gcol)
  exact ⟨b, by simp only [hst, hcol, ok_bind, hb]⟩

theorem encodeCell_total (k : ColorCtx) {A : TblAttrsOf MatV} (hA : TblGood A) (r j : Nat) (isLast : Bool)
    (text : Str) {width : Option Rat} (hw : width.isSome = true) :
    ∃ c, encodeCell k A r j isLast text width = .ok c := by
  obtain ⟨bw, hbw, gbw⟩ := ilocV_total (hA .bWidth) r j
  have hbw' : bw = .null ∨ wInt bw := gbw.symm.imp (·.1) wInt_of_okPosInt
  obtain ⟨bR, hR⟩ := mkBorder_total k hA .bRight .bcRight ⟨rfl, rfl⟩ rfl hbw' r j
  obtain ⟨bL, hL⟩ := mkBorder_total k hA .bLeft .bcLeft ⟨rfl, rfl⟩ rfl hbw' r j
  obtain ⟨bT, hT⟩ := mkBorder_total k hA .bTop .bcTop ⟨rfl, rfl⟩ rfl hbw' r j
  obtain ⟨bB, hB⟩ := mkBorder_total k hA .bBottom .bcBottom ⟨rfl, rfl⟩ rfl hbw' r j
  obtain ⟨tv, htv, hok⟩ := textValsAt_total hA.text r j
  obtain ⟨⟨tf, conv⟩, htf⟩ := resolveText_total k hok
  obtain ⟨w, hw'⟩ := Option.isSome_iff_exists.mp hw
  obtain ⟨vj, hvj, gvj⟩ := ilocV_total (hA .cellVJust) r j
  obtain ⟨ws, hws⟩ := resolveVJust_total (v := vj) (gvj.symm.imp (·.1) id)
  simp only [Field.get] at hbw hR hL hT hB hvj
  unfold encodeCell
  simp only [hbw, ok_bind, htv, htf, hw', hL, hT, hB, hvj, hws, pure_eq_ok]
  cases isLast
  · simp only [Bool.false_eq_true, if_false]
    exact ⟨_, rfl⟩
  · simp only [if_true, hR, map_ok_eq, ok_bind]
    exact ⟨_, rfl⟩

theorem encodeRow_total (k : ColorCtx) {A : TblAttrsOf MatV} (hA : TblGood A) {colWidths : List Rat} (r : Nat)
    {cells : List (Option Str)} (hne : cells ≠ []) (hlen : cells.length ≤ colWidths.length) :
    ∃ e, encodeRow k A colWidths r cells = .ok e := by
  have hn : ¬ cells.length = 0 := by
    intro h0; exact hne (List.eq_nil_of_length_eq_zero h0)
  obtain ⟨cs, hcs⟩ : ∃ cs, (cells.zipIdx.mapM fun (x : Option Str × Nat) =>
      encodeCell k A r x.2 (x.2 + 1 == cells.length) (x.1.getD []) colWidths[x.2]?) = .ok cs := by
    apply mapM_total
    intro x hx
    obtain ⟨c, j⟩ := x
    have hj := (List.mem_zipIdx hx).2.1
    simp only [Nat.zero_add] at hj
    apply encodeCell_total k hA
    have : j < colWidths.length := by omega
    simp [this]
  obtain ⟨cj, hcj, gcj⟩ := ilocV_req (hA .cellJust) rfl r 0
  obtain ⟨jw, hjw⟩ := resolveRowJust_total gcj
  obtain ⟨ch, hch, gch⟩ := ilocV_req (hA .cellHeight) rfl r 0
  obtain ⟨q, hq⟩ := wRat_of_okPosNum gch
  simp only [Field.get] at hcj hch
  unfold encodeRow
  simp only [if_neg hn]
  simp only [pure_eq_ok, ok_bind, hcs, hcj, hjw, hch, hq]
  exact ⟨_, rfl⟩

theorem encodeRows_total (k : ColorCtx) {A : TblAttrsOf MatV} (hA : TblGood A) {colWidths : List Rat} (off : Nat)
    {rows : List (List (Option Str))} (h : ∀ cells ∈ rows, cells ≠ [] ∧ cells.length ≤ colWidths.length) :
    ∃ es, encodeRows k A colWidths off rows = .ok es := by
  unfold encodeRows
  apply mapM_total
  intro x hx
  obtain ⟨cells, i⟩ := x
  have hmem : cells ∈ rows := by
    have := (List.mem_zipIdx hx).2.2
    rw [this]; exact List.getElem_mem _
  exact encodeRow_total k hA (i + off) (h cells hmem).1 (h cells hmem).2

end Proofs.EncodeTotal
