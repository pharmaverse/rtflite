import Proofs.EncodeTotalRows
import Proofs.EncodeLift
import Proofs.EncodeGroup
import Proofs.GroupBy
/-!
Totality of the encoder model, part 3: what `accepted` / `shapesInQuantifier` say field by field, `prepare`,
the processed attributes, `calculate_row_metadata` (`dataLines`, `headingRows`, `mkLDoc`) and the group_by
post-processing (`finalRows`: succeeds, or refuses non-contiguous keys with `ValueError`).
-/
namespace Proofs.EncodeTotal
open Model.Encode Model.EncodeAccepted Model.Broadcast Model.Emit Generated
open Proofs.Encode (MemV)
open Proofs.EncodeAttrs (Field GoodV)

/-! ## the clauses of `accepted` and `shapesInQuantifier` -/

/-- `accepted d` clause by clause, in the form the totality proofs use -/
structure AccFacts (d : Doc) : Prop where
  nodup : d.cols.Nodup
  rect : ∀ r ∈ d.rows, r.length = d.cols.length
  colWidth : 0 < d.page.colWidth
  margin : d.page.margin.length = 6
  borderFirst : (borderCodes.lookup d.page.borderFirst).isSome = true
  borderLast : (borderCodes.lookup d.page.borderLast).isSome = true
  bodyAttrs : TblAttrsOf.zipAll accAttr tblSpec d.body.attrs = true
  bodyW : Proofs.Widths.AllPos (d.body.colRelWidth.getD [])
  groupIn : ∀ g ∈ d.body.groupByL, g ∈ d.cols
  groupKept : ∀ g ∈ d.body.groupByL, g ∉ removedNames d.body
  headers : ∀ h, some h ∈ d.headers → TblAttrsOf.zipAll accAttr tblSpec h.attrs = true ∧
    ∀ w, h.colRelWidth = some w → Proofs.Widths.AllPos w
  pageHeader : ∀ c, d.pageHeader = some c → TextAttrsOf.zipAll accAttr textSpec c.attrs = true
  pageFooter : ∀ c, d.pageFooter = some c → TextAttrsOf.zipAll accAttr textSpec c.attrs = true
  title : ∀ c, d.title = some c → TextAttrsOf.zipAll accAttr textSpec c.attrs = true
  subline : ∀ c, d.subline = some c → TextAttrsOf.zipAll accAttr textSpec c.attrs = true
  footnote : ∀ f, d.footnote = some f → TblAttrsOf.zipAll accAttr tblSpec f.attrs = true ∧
    ∀ w, f.colRelWidth = some w → w ≠ [] ∧ Proofs.Widths.AllPos w
  source : ∀ f, d.source = some f → TblAttrsOf.zipAll accAttr tblSpec f.attrs = true ∧
    ∀ w, f.colRelWidth = some w → w ≠ [] ∧ Proofs.Widths.AllPos w

theorem widthsAcc_spec {o : Option (List Rat)} (h : widthsAcc o = true) :
    ∀ w, o = some w → w ≠ [] ∧ Proofs.Widths.AllPos w := by
  intro w hw
  subst hw
  simp only [widthsAcc, Bool.and_eq_true, Bool.not_eq_true', List.isEmpty_eq_false_iff] at h
  exact ⟨h.1, Proofs.Encode.allPos_of_posW h.2⟩

theorem widthsPos_spec {o : Option (List Rat)} (h : widthsPos o = true) :
    ∀ w, o = some w → Proofs.Widths.AllPos w := by
  intro w hw
  subst hw
  exact Proofs.Encode.allPos_of_posW h

theorem textCompAcc_spec {o : Option TextComp} (h : textCompAcc o = true) :
    ∀ c, o = some c → TextAttrsOf.zipAll accAttr textSpec c.attrs = true := by
  intro c hc; subst hc; exact h

theorem footAcc_spec {o : Option Foot} (h : footAcc o = true) :
    ∀ f, o = some f → TblAttrsOf.zipAll accAttr tblSpec f.attrs = true ∧
      ∀ w, f.colRelWidth = some w → w ≠ [] ∧ Proofs.Widths.AllPos w := by
  intro f hf; subst hf
  simp only [footAcc, Bool.and_eq_true] at h
  exact ⟨h.1, widthsAcc_spec h.2⟩

/-- the clauses of `accepted`, component by component -/
theorem accepted_parts {d : Doc} (h : Accepted d) :
    frameAcc d = true ∧ pageAcc d.page = true ∧ bodyAcc d = true ∧ d.headers.all headerAcc = true ∧
    textCompAcc d.pageHeader = true ∧ textCompAcc d.pageFooter = true ∧ textCompAcc d.title = true ∧
    textCompAcc d.subline = true ∧ footAcc d.footnote = true ∧ footAcc d.source = true := by
  simpa only [Accepted, accepted, Bool.and_eq_true, and_assoc] using h

theorem accFacts {d : Doc} (h : Accepted d) : AccFacts d := by
  obtain ⟨hframe, hpage, hbody, hheaders, hph, hpf, htitle, hsub, hfn, hsrc⟩ := accepted_parts h
  simp only [frameAcc, Bool.and_eq_true, decide_eq_true_eq, List.all_eq_true, beq_iff_eq] at hframe
  simp only [pageAcc, Bool.and_eq_true, decide_eq_true_eq] at hpage
  simp only [bodyAcc, Bool.and_eq_true, List.all_eq_true, Bool.not_eq_true', Bool.or_eq_true] at hbody
  obtain ⟨⟨⟨⟨⟨⟨hattrs, hw⟩, hg⟩, _⟩, _⟩, _⟩, hkept⟩ := hbody
  refine {
    nodup := hframe.1, rect := hframe.2, colWidth := hpage.1.1.1.2, margin := hpage.1.1.2,
    borderFirst := hpage.1.2, borderLast := hpage.2, bodyAttrs := hattrs, bodyW := Proofs.Encode.allPos_of_posW hw,
    groupIn := ?_, groupKept := ?_, headers := ?_, pageHeader := textCompAcc_spec hph,
    pageFooter := textCompAcc_spec hpf, title := textCompAcc_spec htitle, subline := textCompAcc_spec hsub,
    footnote := footAcc_spec hfn, source := footAcc_spec hsrc }
  · intro g hg'
    have := List.all_eq_true.mp hg g (by simpa [Body.groupByL] using hg')
    simpa using this
  · intro g hg' hin
    have := hkept g hg'
    rw [List.contains_eq_mem, decide_eq_false_iff_not] at this
    exact this hin
  · intro hd hmem
    have := List.all_eq_true.mp hheaders (some hd) hmem
    simp only [headerAcc, Bool.and_eq_true] at this
    exact ⟨this.1, widthsPos_spec this.2⟩

/-- `shapesInQuantifier d` clause by clause, for the removed column indices it starts from -/
structure ShapeFacts (d : Doc) (removed : List Nat) : Prop where
  hrem : removedIdx d = .ok removed
  bodyAttrs : TblAttrsOf.zipAll shpAttr tblSpec d.body.attrs = true
  ndPos : 0 < Model.Widths.nDisplayed (keepMask d.cols.length removed)
  cumLen : Model.Widths.nDisplayed (keepMask d.cols.length removed) ≤
    (Model.Widths.bodyCum (d.body.colRelWidth.getD []) (keepMask d.cols.length removed) d.page.colWidth).length
  headers : ∀ h, some h ∈ d.headers → TblAttrsOf.zipAll shpAttr tblSpec h.attrs = true ∧
    ∀ n v, headerCells d removed h = some (n, v) → 0 < n ∧ n ≤ v.length
  pageHeader : ∀ c, d.pageHeader = some c → TextAttrsOf.zipAll shpAttr textSpec c.attrs = true
  pageFooter : ∀ c, d.pageFooter = some c → TextAttrsOf.zipAll shpAttr textSpec c.attrs = true
  title : ∀ c, d.title = some c → TextAttrsOf.zipAll shpAttr textSpec c.attrs = true
  subline : ∀ c, d.subline = some c → TextAttrsOf.zipAll shpAttr textSpec c.attrs = true
  footnote : ∀ f, d.footnote = some f → TblAttrsOf.zipAll shpAttr tblSpec f.attrs = true ∧
    (f.asTable = true → f.colRelWidth.isSome = true)
  source : ∀ f, d.source = some f → TblAttrsOf.zipAll shpAttr tblSpec f.attrs = true ∧
    (f.asTable = true → f.colRelWidth.isSome = true)

theorem textCompShape_spec {o : Option TextComp} (h : textCompShape o = true) :
    ∀ c, o = some c → TextAttrsOf.zipAll shpAttr textSpec c.attrs = true := by
  intro c hc; subst hc; exact h

theorem footShape_spec {o : Option Foot} (h : footShape o = true) :
    ∀ f, o = some f → TblAttrsOf.zipAll shpAttr tblSpec f.attrs = true ∧
      (f.asTable = true → f.colRelWidth.isSome = true) := by
  intro f hf; subst hf
  simp only [footShape, Bool.and_eq_true, Bool.or_eq_true, Bool.not_eq_true'] at h
  refine ⟨h.1, fun ht => ?_⟩
  rcases h.2 with h2 | h2
  · rw [ht] at h2; cases h2
  · exact h2

theorem shapeFacts {d : Doc} (h : ShapesInQuantifier d) : ∃ removed, ShapeFacts d removed := by
  unfold ShapesInQuantifier shapesInQuantifier at h
  split at h
  · cases h
  · next removed hrem =>
    simp only [Bool.and_eq_true] at h
    obtain ⟨⟨⟨⟨⟨⟨⟨hbody, hheaders⟩, hph⟩, hpf⟩, htitle⟩, hsub⟩, hfn⟩, hsrc⟩ := h
    simp only [bodyShape, Bool.and_eq_true, decide_eq_true_eq] at hbody
    refine ⟨removed, {
      hrem := hrem, bodyAttrs := hbody.1.1, ndPos := hbody.1.2, cumLen := hbody.2,
      headers := ?_, pageHeader := textCompShape_spec hph, pageFooter := textCompShape_spec hpf,
      title := textCompShape_spec htitle, subline := textCompShape_spec hsub, footnote := footShape_spec hfn,
      source := footShape_spec hsrc }⟩
    intro hd hmem
    have := List.all_eq_true.mp hheaders (some hd) hmem
    simp only [headerShape, Bool.and_eq_true] at this
    refine ⟨this.1, ?_⟩
    intro n v hnv
    have h2 := this.2
    rw [hnv] at h2
    simpa using h2

/-! ## `prepare` -/

/-- no step of the cumulative widths, from `p` on, is 0: the column widths `dataLines` divides by -/
def StepsNZ : Rat → List Rat → Prop
  | _, [] => True
  | p, c :: cs => c - p ≠ 0 ∧ StepsNZ c cs

theorem stepsNZ_of_pairwise : ∀ (p : Rat) (l : List Rat), (∀ c ∈ l, p < c) → l.Pairwise (· < ·) → StepsNZ p l
  | _, [], _, _ => trivial
  | p, c :: cs, h1, h2 => by
    have hp := List.pairwise_cons.mp h2
    refine ⟨?_, stepsNZ_of_pairwise c cs hp.1 hp.2⟩
    exact Rat.ne_of_gt ((Rat.lt_iff_sub_pos p c).mp (h1 c (by simp)))

/-- the guard of `w / sum(w)`: positive widths do not sum to 0 -/
theorem sumQ_guard {w : List Rat} (hpos : Proofs.Widths.AllPos w) :
    ¬ ((Model.Widths.sumQ w = 0 && !w.isEmpty) = true) := by
  intro hc
  simp only [Bool.and_eq_true, decide_eq_true_eq, Bool.not_eq_true', List.isEmpty_eq_false_iff] at hc
  have := Proofs.Widths.sumQ_pos _ hc.2 hpos
  rw [hc.1] at this
  exact absurd this (by decide)

theorem bodyV_pos {d : Doc} (hacc : AccFacts d) (keep : List Bool) :
    Proofs.Widths.AllPos (if (Model.Widths.bodyProcessed (d.body.colRelWidth.getD []) keep).isEmpty
      then List.replicate (Model.Widths.nDisplayed keep) 1
      else Model.Widths.bodyProcessed (d.body.colRelWidth.getD []) keep) := by
  split
  · exact Proofs.Widths.allPos_replicate _ _ (by decide)
  · exact Proofs.Encode.allPos_bodyProcessed hacc.bodyW keep

theorem bodyCum_eq (bw : List Rat) (keep : List Bool) (W : Rat) :
    Model.Widths.bodyCum bw keep W = Model.Widths.colWidths
      (if (Model.Widths.bodyProcessed bw keep).isEmpty then List.replicate (Model.Widths.nDisplayed keep) 1
       else Model.Widths.bodyProcessed bw keep) W := by
  unfold Model.Widths.bodyCum
  dsimp only
  split <;> rfl

/-- everything the later stages need to know about the result of `prepare` -/
structure PrepOk (d : Doc) (p : Prep) (removed : List Nat) (A : TblAttrsOf MatV) : Prop where
  prep : prepare d = .ok p
  nested : d.body.attrs.mapM Attr.toNested = .ok A
  good : TblGood A
  eq : p = { removed := removed, keep := keepMask d.cols.length removed,
             ncolsDisp := Model.Widths.nDisplayed (keepMask d.cols.length removed),
             dispCols := dropCols d.cols removed, dispRows := d.rows.map fun r => dropCols r removed,
             attrs := processedAttrs A d.rows.length d.cols.length removed,
             cum := Model.Widths.bodyCum (d.body.colRelWidth.getD []) (keepMask d.cols.length removed)
               d.page.colWidth }

theorem prepare_total {d : Doc} (hacc : AccFacts d) {removed : List Nat} (hsh : ShapeFacts d removed) :
    ∃ p A, PrepOk d p removed A := by
  obtain ⟨A, hA, hgood⟩ := tblNested_total hacc.bodyAttrs hsh.bodyAttrs
  have hv := bodyV_pos hacc (keepMask d.cols.length removed)
  have hp : ∃ p, prepare d = .ok p := by
    unfold prepare
    simp only [hA, hsh.hrem, ok_bind]
    rw [if_neg (sumQ_guard hv)]
    exact ⟨_, rfl⟩
  obtain ⟨p, hp⟩ := hp
  exact ⟨p, A, hp, hA, hgood, Proofs.EncodeAttrs.prepare_eq hp hA hsh.hrem⟩

section prep
variable {d : Doc} {p : Prep} {removed : List Nat} {A : TblAttrsOf MatV}

theorem PrepOk.cum_eq (h : PrepOk d p removed A) :
    p.cum = Model.Widths.bodyCum (d.body.colRelWidth.getD []) (keepMask d.cols.length removed) d.page.colWidth := by
  rw [h.eq]

theorem PrepOk.dispRows_eq (h : PrepOk d p removed A) : p.dispRows = d.rows.map fun r => dropCols r removed := by
  rw [h.eq]

theorem PrepOk.dispCols_eq (h : PrepOk d p removed A) : p.dispCols = dropCols d.cols removed := by
  rw [h.eq]

theorem PrepOk.ncols_eq (h : PrepOk d p removed A) :
    p.ncolsDisp = Model.Widths.nDisplayed (keepMask d.cols.length removed) := by
  rw [h.eq]

theorem PrepOk.attrs_eq (h : PrepOk d p removed A) :
    p.attrs = processedAttrs A d.rows.length d.cols.length removed := by
  rw [h.eq]

/-- the cumulative widths: strictly increasing from 0, positive -/
theorem PrepOk.cum_steps (h : PrepOk d p removed A) (hacc : AccFacts d) :
    StepsNZ 0 p.cum ∧ ∀ c ∈ p.cum, 0 < c := by
  rw [h.cum_eq, bodyCum_eq]
  have := Proofs.Widths.colWidths_increasing _ d.page.colWidth hacc.colWidth
    (bodyV_pos hacc (keepMask d.cols.length removed))
  exact ⟨stepsNZ_of_pairwise 0 _ this.1 this.2, this.1⟩

/-- there is a displayed column, and a cumulative width for each -/
theorem PrepOk.dispCols_len (h : PrepOk d p removed A) (hsh : ShapeFacts d removed) :
    0 < p.dispCols.length ∧ p.dispCols.length ≤ p.cum.length := by
  rw [h.dispCols_eq, h.cum_eq, Proofs.BroadcastAttr.dropCols_length, ← Proofs.EncodeAttrs.nDisplayed_keepMask]
  exact ⟨hsh.ndPos, hsh.cumLen⟩

/-- every processed row has one cell per displayed column -/
theorem PrepOk.row_len (h : PrepOk d p removed A) (hacc : AccFacts d) :
    ∀ r ∈ p.dispRows, r.length = p.dispCols.length := by
  intro r hr
  rw [h.dispRows_eq] at hr
  obtain ⟨r0, hr0, rfl⟩ := List.mem_map.mp hr
  rw [h.dispCols_eq, Proofs.BroadcastAttr.dropCols_length, Proofs.BroadcastAttr.dropCols_length, hacc.rect r0 hr0]

end prep

/-! ## readable matrices under the broadcast operations -/

theorem FieldGood.map {s : Spec} {M : MatV} (h : FieldGood s M) (g : Mat Val → Mat Val)
    (hg : ∀ m, Proofs.Broadcast.Good m → Proofs.Broadcast.Good (g m))
    (hm : ∀ m row, row ∈ g m → ∀ v ∈ row, ∃ row' ∈ m, v ∈ row') : FieldGood s (M.map g) := by
  cases M with
  | none => exact h
  | some m =>
    exact .of_some (hg m (h.good m rfl)) fun row hrow v hv =>
      h.vals v (Proofs.Encode.memV_map hm ⟨_, rfl, row, hrow, hv⟩)

/-- the processed attributes of a non-empty frame with at least one displayed column are readable -/
theorem processed_good {A : TblAttrsOf MatV} (hA : TblGood A) {nrows ncols : Nat} (removed : List Nat)
    (hrows : 0 < nrows) (hk : 0 < (keptIdx ncols removed).length) :
    TblGood (processedAttrs A nrows ncols removed) := by
  intro f
  rw [Proofs.EncodeAttrs.processed_get]
  split
  · exact hA f
  · exact (hA f).map _ (fun m hm => Proofs.EncodeAttrs.expandSlice_good hm removed hrows hk)
      (fun m row hrow v hv => Proofs.EncodeAux.expandSlice_mem m nrows ncols removed row hrow v hv)

theorem PrepOk.attrs_good {d : Doc} {p : Prep} {removed : List Nat} {A : TblAttrsOf MatV} (h : PrepOk d p removed A)
    (hsh : ShapeFacts d removed) (hrows : d.rows ≠ []) : TblGood p.attrs := by
  rw [h.attrs_eq]
  apply processed_good h.good removed (List.length_pos_iff.mpr hrows)
  rw [← Proofs.EncodeAttrs.nDisplayed_keepMask]
  exact hsh.ndPos

/-! ## `calculate_row_metadata` -/

theorem okFont_int {v : Val} (h : okFont v = true) : ∃ i, v = .int i := by
  cases v <;> simp [okFont] at h; exact ⟨_, rfl⟩

theorem okPosNum_cases {v : Val} (h : okPosNum v = true) : (∃ j, v = .int j) ∨ ∃ f, v = .float f := by
  cases v <;> simp [okPosNum] at h
  · exact Or.inl ⟨_, rfl⟩
  · exact Or.inr ⟨_, rfl⟩

theorem dataLines_total (measure : Measure) {A : TblAttrsOf MatV} (hA : TblGood A) (r : Nat) :
    ∀ (cells : List (Option Str)) (cum : List Rat) (k : Nat) (prev : Rat) (acc : Nat × Bool),
      StepsNZ prev cum →
      (∀ q ∈ rowRequests A r cells cum k, (measure q.1 q.2.1 q.2.2).isSome = true) →
      ∃ x, dataLines measure A r cells cum k prev acc = .ok x
  | [], _, _, _, acc, _, _ => ⟨acc, by simp [dataLines]⟩
  | _ :: _, [], _, _, acc, _, _ => ⟨acc, by simp [dataLines]⟩
  | cell :: cells, c :: cum, k, prev, acc, hst, hreq => by
    obtain ⟨vs, hvs, gvs⟩ := ilocV_req (hA .size) rfl r k
    obtain ⟨vf, hvf, gvf⟩ := ilocV_req (hA .font) rfl r k
    simp only [Field.get] at hvs hvf
    obtain ⟨i, rfl⟩ := okFont_int gvf
    obtain ⟨q, hq⟩ := wRat_of_okPosNum gvs
    have hv := okPosNum_cases gvs
    -- `sizeAt` / `fontAt` read the two values as `dataLines` does, so the width of this cell was asked for
    have hsz : sizeAt A r k = some q := by
      unfold sizeAt
      rw [hvs]
      rcases hv with ⟨j, rfl⟩ | ⟨f, rfl⟩ <;> simp only [hq]
    have hft : fontAt A r k = some i := by unfold fontAt; rw [hvf]
    obtain ⟨w, hw⟩ : ∃ w, measure (strOfCell cell) i q = some w :=
      Option.isSome_iff_exists.mp (hreq (strOfCell cell, i, q) (by simp [rowRequests, hsz, hft]))
    obtain ⟨x, hx⟩ := dataLines_total measure hA r cells cum (k + 1) c
      (max acc.1 (linesOf w (c - prev)).1, acc.2 || (linesOf w (c - prev)).2) hst.2
      (fun x hx => hreq x (by simp only [rowRequests, List.mem_append]; exact Or.inr hx))
    refine ⟨x, ?_⟩
    rw [dataLines]
    -- the size is an int or a float; both branches of `dataLines` take its `toRat`
    rcases hv with ⟨j, rfl⟩ | ⟨f, rfl⟩
    · simp only [hvs, hvf, ok_bind, pure_eq_ok, hq, hw, if_neg hst.1]
      exact hx
    · simp only [hvs, hvf, ok_bind, pure_eq_ok, hq, hw, if_neg hst.1]
      exact hx

theorem headingRows_total (measure : Measure) {total : Rat} (ht : total ≠ 0) (names : List Str)
    (vals : List (Option Str))
    (hreq : ∀ q ∈ headingRequest names vals, (measure q.1 q.2.1 q.2.2).isSome = true) :
    ∃ x, headingRows measure total names vals = .ok x := by
  unfold headingRows
  by_cases he : (headingText names vals).isEmpty = true
  · simp only [he, if_true, pure_eq_ok]; exact ⟨_, rfl⟩
  · -- a group heading is measured in font 1 (default of `_calculate_header_rows`) at `calculate_row_metadata`'s default
    -- size 9, not at the body's attributes
    have := hreq (headingText names vals, 1, 9) (by simp [headingRequest, he])
    obtain ⟨w, hw⟩ : ∃ w, measure (headingText names vals) 1 9 = some w := Option.isSome_iff_exists.mp this
    simp only [he, Bool.false_eq_true, if_false, hw, ok_bind, pure_eq_ok, if_neg ht]
    exact ⟨_, rfl⟩

theorem measure_spec {measure : Measure} {d : Doc} {p : Prep} (hm : MeasureOk measure d) (hp : prepare d = .ok p) :
    ∀ x ∈ ldocInput d p, ∀ q ∈ rowReqs d p x, (measure q.1 q.2.1 q.2.2).isSome = true := by
  intro x hx q hq
  unfold MeasureOk measureOk requests at hm
  rw [hp] at hm
  simp only [List.all_eq_true] at hm
  exact hm q (List.mem_flatMap.mpr ⟨x, hx, hq⟩)

theorem mkLDoc_total (measure : Measure) {d : Doc} {p : Prep} {removed : List Nat} {A : TblAttrsOf MatV}
    (h : PrepOk d p removed A) (hacc : AccFacts d) (hsh : ShapeFacts d removed) (hm : MeasureOk measure d) :
    ∃ x, mkLDoc measure d p = .ok x := by
  have hspec := measure_spec hm h.prep
  obtain ⟨hsteps, hpos⟩ := h.cum_steps hacc
  have htotal : p.cum.getLast?.getD 0 ≠ 0 := by
    cases hc : p.cum.getLast? with
    | none =>
      have hlen := hsh.cumLen
      have hnd := hsh.ndPos
      rw [← h.cum_eq, List.getLast?_eq_none_iff.mp hc, List.length_nil] at hlen
      omega
    | some c =>
      simp only [Option.getD_some]
      exact Rat.ne_of_gt (hpos c (List.mem_of_getLast? hc))
  unfold mkLDoc
  dsimp only
  refine bind_total ?_ (fun rows _ => ⟨_, rfl⟩)
  apply mapM_total
  intro x hx
  have hx' : x ∈ ldocInput d p := hx
  have hreq := hspec x hx'
  obtain ⟨⟨⟨cells, pk, sk⟩, pc, sc⟩, r⟩ := x
  have hrow : d.rows ≠ [] := by
    intro h0
    simp [ldocInput, h.dispRows_eq, h0] at hx'
  have hgood := h.attrs_good hsh hrow
  simp only [rowReqs, List.mem_append] at hreq
  obtain ⟨x1, hx1⟩ := dataLines_total measure hgood r cells p.cum 0 0 (1, false) hsteps
    (fun q hq => hreq q (Or.inl (Or.inl hq)))
  dsimp only
  refine bind_total ⟨x1, hx1⟩ fun _ _ => ?_
  refine bind_ite_total (fun hc => headingRows_total measure htotal _ _ fun q hq =>
    hreq q (Or.inl (Or.inr (by rw [if_pos hc]; exact hq)))) (fun _ => ⟨_, rfl⟩) fun _ => ?_
  exact bind_ite_total (fun hc => headingRows_total measure htotal _ _ fun q hq =>
    hreq q (Or.inr (by rw [if_pos hc]; exact hq))) (fun _ => ⟨_, rfl⟩) fun _ => ⟨_, rfl⟩

/-! ## group_by: `finalRows` succeeds or refuses non-contiguous keys -/

open Model.GroupBy Proofs.GroupBy in
/-- **the group_by keys of `d` are contiguous**: at every level of the (de-duplicated) `group_by` list the hierarchical
keys of the frame handed to the grouping service — the displayed columns of the processed frame — are contiguous
(`Model.GroupBy.Contiguous`: between two occurrences of a key there is nothing but that key; null is a value) -/
def GroupKeysContiguous (d : Doc) : Prop :=
  ∀ p, prepare d = .ok p → ∀ l, l < d.body.groupByL.eraseDups.length →
    Contiguous (keysAt (toFrame p.dispCols p.dispRows) d.body.groupByL.eraseDups l)

/-- `n` bounds the length: `eraseDups` recurses on the filtered tail, which is no sublist term of `l` -/
theorem nodup_eraseDups : ∀ (n : Nat) (l : List Model.Encode.Str), l.length ≤ n → l.eraseDups.Nodup
  | _, [], _ => by simp
  | 0, _ :: _, h => by simp at h
  | n + 1, a :: l, h => by
    rw [List.eraseDups_cons]
    have hlen : (l.filter fun b => !b == a).length ≤ n := by
      have := List.length_filter_le (fun b => !b == a) l
      simp only [List.length_cons] at h
      omega
    refine List.nodup_cons.mpr ⟨?_, nodup_eraseDups n _ hlen⟩
    intro hmem
    rw [List.mem_eraseDups, List.mem_filter] at hmem
    simp at hmem

theorem contiguous_nil {α : Type} : Model.GroupBy.Contiguous ([] : List α) := by
  intro pre mid post a e
  cases pre <;> simp at e

open Model.GroupBy Proofs.GroupBy in
/-- `enhance_group_by` succeeds exactly when the keys are contiguous at every level of the de-duplicated list -/
theorem enhance_ok_iff (df : Frame) (wf : WF df) (gb : List Model.Encode.Str) (hsub : ∀ g ∈ gb, g ∈ names df) :
    (∃ s, enhanceGroupBy df gb = .ok s) ↔
      ∀ l, l < gb.eraseDups.length → Contiguous (keysAt df gb.eraseDups l) := by
  by_cases h0 : (gb = [] || height df = 0) = true
  · unfold enhanceGroupBy
    rw [if_pos h0]
    refine ⟨fun _ l hl => ?_, fun _ => ⟨_, rfl⟩⟩
    simp only [Bool.or_eq_true, decide_eq_true_eq] at h0
    rcases h0 with h0 | h0
    · rw [h0] at hl; simp at hl
    · unfold keysAt; rw [h0]; exact contiguous_nil
  · have hh : gb ≠ [] ∧ height df ≠ 0 := by simpa using h0
    rw [enhance_eq df gb (by simpa using h0) (any_missing_eq_false df gb hsub),
      ← validate_ok_iff_eraseDups df wf gb hsub hh.1 hh.2]
    cases validateDataSorting df gb with
    | error e => exact ⟨fun ⟨_, h⟩ => (nomatch h), fun h => (nomatch h)⟩
    | ok u => exact ⟨fun _ => rfl, fun _ => ⟨_, rfl⟩⟩

/-- the group_by columns are displayed columns -/
theorem group_displayed {d : Doc} {p : Prep} {removed : List Nat} {A : TblAttrsOf MatV} (h : PrepOk d p removed A)
    (hacc : AccFacts d) (hsh : ShapeFacts d removed) : ∀ g ∈ d.body.groupByL, g ∈ p.dispCols := by
  intro g hg
  obtain ⟨h1, _⟩ := Proofs.EncodeLift.removedIdx_ok hsh.hrem
  rw [h.dispCols_eq, h1, Proofs.EncodeLift.dropCols_cols_eq_filter hacc.nodup, List.mem_filter]
  refine ⟨hacc.groupIn g hg, ?_⟩
  have := hacc.groupKept g hg
  simpa using this

/-- without `group_by` there is nothing to refuse -/
theorem groupKeysContiguous_of_no_groupby {d : Doc} (h : d.body.groupByL = []) : GroupKeysContiguous d := by
  intro p _ l hl
  rw [h] at hl
  simp at hl

/-- `finalRows` succeeds on contiguous keys and refuses, with `ValueError`, all others -/
theorem finalRows_total {d : Doc} {p : Prep} {removed : List Nat} {A : TblAttrsOf MatV} (h : PrepOk d p removed A)
    (hacc : AccFacts d) (hsh : ShapeFacts d removed) (heights : List Nat) :
    (∃ rows, finalRows d p heights = .ok rows ∧ GroupKeysContiguous d) ∨
    (finalRows d p heights = .error "ValueError" ∧ ¬ GroupKeysContiguous d) := by
  have hiff : GroupKeysContiguous d ↔
      ∃ s, Model.GroupBy.enhanceGroupBy (toFrame p.dispCols p.dispRows) d.body.groupByL = .ok s := by
    rw [enhance_ok_iff _ (Proofs.EncodeGroup.wf_toFrame _ _) _
      (by rw [Proofs.EncodeGroup.names_toFrame]; exact group_displayed h hacc hsh)]
    refine ⟨fun hc => hc p h.prep, fun hc p' hp' => ?_⟩
    rw [h.prep] at hp'
    cases hp'
    exact hc
  by_cases h0 : d.body.groupByL = []
  · exact Or.inl ⟨_, Proofs.EncodeGroup.finalRows_no_groupby h0, groupKeysContiguous_of_no_groupby h0⟩
  · cases hs : Model.GroupBy.enhanceGroupBy (toFrame p.dispCols p.dispRows) d.body.groupByL with
    | ok s =>
      cases hf : finalRows d p heights with
      | ok rows => exact Or.inl ⟨rows, rfl, hiff.mpr ⟨s, hs⟩⟩
      | error e =>
        obtain ⟨_, e', he'⟩ := (Proofs.EncodeGroup.finalRows_error_iff h0 e).mp hf
        rw [hs] at he'
        cases he'
    | error e' =>
      refine Or.inr ⟨(Proofs.EncodeGroup.finalRows_error_iff h0 "ValueError").mpr ⟨rfl, e', hs⟩, fun hc => ?_⟩
      obtain ⟨s, h⟩ := hiff.mp hc
      rw [hs] at h
      cases h

end Proofs.EncodeTotal
