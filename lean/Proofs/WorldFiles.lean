import Model.WorldFiles
import Proofs.Memo
/-! Helper lemmas for `Props/C14files.lean`: histories that interleave operations with file-system events
(`Model/WorldFiles.lean`).  The store of file contents stays sound for the requests a history makes as long as its key
is faithful among THOSE requests (`FaithfulOn P`, `P` an invariant of the file system along the history): `purityOn`. -/
namespace Proofs.WorldFiles
open Model.Memo Model.World Proofs.Memo

variable {κ : Type} [DecidableEq κ]

theorem runF_base (S : Spec FileReq κ (Option Content)) (q : Paths) (T : Table) (ops : List FOp) :
    ∀ fw : FWorld κ, (runF S q T fw ops).base = (run T fw.base (baseOpsF ops)).1 := by
  induction ops with
  | nil =>
    intro fw
    rfl
  | cons o os ih =>
    intro fw
    cases o with
    | op o =>
      simp only [runF, baseOpsF, run]
      rw [ih]
      rfl
    | ev e =>
      simp only [runF, baseOpsF]
      rw [ih]
      rfl

theorem runF_fs (S : Spec FileReq κ (Option Content)) (q : Paths) (T : Table) (ops : List FOp) :
    ∀ fw : FWorld κ, (runF S q T fw ops).fs = fw.fs.run (eventsF ops) := by
  induction ops with
  | nil =>
    intro fw
    rfl
  | cons o os ih =>
    intro fw
    cases o with
    | op o =>
      simp only [runF, eventsF]
      rw [ih]
      rfl
    | ev e =>
      simp only [runF, eventsF, Fs.run]
      rw [ih]
      rfl

theorem runF_fixed (S : Spec FileReq κ (Option Content)) (q : Paths) (T : Table) (ops : List FOp) (fw : FWorld κ) :
    (runF S q T fw ops).base.seed = fw.base.seed ∧ (runF S q T fw ops).base.heap = fw.base.heap ∧
      (runF S q T fw ops).base.frames = fw.base.frames := by
  rw [runF_base]
  exact Proofs.World.run_fixed T fw.base _

/-- the target's result depends on the process through the seed, the caller's objects and frames, the file system
and the answers the store gives -/
theorem encodeCtorF_congr (S : Spec FileReq κ (Option Content)) (q : Paths) (T : Table) {fw fw' : FWorld κ} (c : Ctor)
    (hb : fw.base.seed = fw'.base.seed ∧ fw.base.heap = fw'.base.heap ∧ fw.base.frames = fw'.base.frames)
    (hfs : fw.fs = fw'.fs)
    (hst : ∀ d, (readDoc S q fw'.base.heap fw'.fs fw.store d).2 = (readDoc S q fw'.base.heap fw'.fs fw'.store d).2) :
    encodeCtorF S q T fw c = encodeCtorF S q T fw' c := by
  obtain ⟨hs, hh, hf⟩ := hb
  unfold encodeCtorF
  rw [hh, hf, hfs]
  cases construct fw'.base.heap fw'.base.frames c with
  | ok d =>
    simp only
    rw [hst, Proofs.World.encodeDoc_outcome T d hs hh hf]
  | error e => rfl

/-! ### a store whose key is faithful among the requests `P` that the history makes -/

variable {P : FileReq → Prop}

theorem readDoc_soundOn (S : Spec FileReq κ (Option Content)) (hF : FaithfulOn P S) (q : Paths) (h : Heap) (fs : Fs)
    (hP : ∀ p, P { fs := fs, path := p }) (st : Store κ (Option Content)) (hs : SoundOn P S st) (d : Doc) :
    SoundOn P S (readDoc S q h fs st d).1 ∧
      (readDoc S q h fs st d).2 = ((q h d).map (fun p => ({ fs := fs, path := p } : FileReq))).map S.compute :=
  askAll_soundOn S hF _ st hs (fun r hr => by obtain ⟨p, _, rfl⟩ := List.mem_map.mp hr; exact hP p)

theorem storeAfterF_soundOn (S : Spec FileReq κ (Option Content)) (hF : FaithfulOn P S) (q : Paths) (w : World)
    (fs : Fs) (hP : ∀ p, P { fs := fs, path := p }) (st : Store κ (Option Content)) (hs : SoundOn P S st) (o : Op) :
    SoundOn P S (storeAfterF S q w fs st o) := by
  fun_cases storeAfterF S q w fs st o
  case case1 => exact (readDoc_soundOn S hF q _ fs hP _ hs _).1
  case case3 => exact (readDoc_soundOn S hF q _ fs hP _ (readDoc_soundOn S hF q _ fs hP _ hs _).1 _).1
  all_goals exact hs

/-- If every request of a history is in `P` — the file system starts there and no event of the history leaves —
the store stays sound for `P` and the file system ends there. -/
theorem runF_soundOn (S : Spec FileReq κ (Option Content)) (hF : FaithfulOn P S) (q : Paths) (T : Table)
    (ops : List FOp)
    (hstep : ∀ fs, ∀ e ∈ eventsF ops, (∀ p, P { fs := fs, path := p }) → ∀ p, P { fs := fs.step e, path := p }) :
    ∀ fw : FWorld κ, (∀ p, P { fs := fw.fs, path := p }) → SoundOn P S fw.store →
      SoundOn P S (runF S q T fw ops).store ∧ ∀ p, P { fs := (runF S q T fw ops).fs, path := p } := by
  induction ops with
  | nil => exact fun _ hP hs => ⟨hs, hP⟩
  | cons o os ih =>
    intro fw hP hs
    cases o with
    | op o => exact ih hstep _ hP (storeAfterF_soundOn S hF q fw.base fw.fs hP fw.store hs o)
    | ev e =>
      exact ih (fun fs e' he' => hstep fs e' (List.mem_cons_of_mem _ he')) _
        (hstep fw.fs e (List.mem_cons_self ..) hP) hs

/-- **Purity with a store that is faithful among the requests the history makes.**  After such a history the
target's outcome and the content every one of its paths is answered with are those of a fresh process in the file
system as it is then. -/
theorem purityOn (S : Spec FileReq κ (Option Content)) (hF : FaithfulOn P S) (q : Paths) (T : Table) (w₀ : World)
    (fs₀ : Fs) (ops : List FOp) (c : Ctor) (h0 : ∀ p, P { fs := fs₀, path := p })
    (hstep : ∀ fs, ∀ e ∈ eventsF ops, (∀ p, P { fs := fs, path := p }) → ∀ p, P { fs := fs.step e, path := p }) :
    encodeCtorF S q T (runF S q T (freshF w₀ fs₀) ops) c
      = encodeCtorF S q T (freshF w₀ (fs₀.run (eventsF ops))) c := by
  obtain ⟨hs, hP⟩ := runF_soundOn S hF q T ops hstep (freshF w₀ fs₀) h0 (soundOn_nil P S)
  rw [runF_fs] at hP
  apply encodeCtorF_congr S q T (fw' := freshF w₀ (fs₀.run (eventsF ops))) c
    (runF_fixed S q T ops (freshF w₀ fs₀)) (runF_fs S q T ops (freshF w₀ fs₀))
  intro d
  exact (readDoc_soundOn S hF q _ _ hP _ hs d).2.trans (readDoc_soundOn S hF q _ _ hP _ (soundOn_nil P S) d).2.symm

/-- events that change no file leave every file where it is -/
theorem step_files_of_not_changes (fs : Fs) (e : FsEv) (h : e.changesFiles = false) : (fs.step e).files = fs.files := by
  cases e with
  | chdir d => rfl
  | touch d n => rfl
  | _ => exact Bool.noConfusion h

/-- keyed by the resolved path, the store is faithful among the requests made over one table of files -/
theorem resolvedKey_faithfulOn (F : List ((Nat × Nat) × Content)) :
    FaithfulOn (fun r => r.fs.files = F) resolvedKey := by
  intro r r' hr hr' hk
  show aget (r.fs.resolve r.path) r.fs.files = aget (r'.fs.resolve r'.path) r'.fs.files
  rw [hr, hr']
  exact congrArg (aget · F) hk

end Proofs.WorldFiles
