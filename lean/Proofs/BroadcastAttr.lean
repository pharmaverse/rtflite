import Proofs.Broadcast
import Model.CellAttr
/-! Column removal on attribute matrices (core Lean only): `keptIdx`, `dropCols`, `expandSlice`, and `cellAttr` against
its specification `specAttr`; the hypotheses of `Proofs.Broadcast.Good` are spelled out one by one. -/
namespace Proofs.BroadcastAttr
open Model.Broadcast Model.CellAttr
open Proofs.Broadcast (Good Shape cell toList_shape toList_cell iloc_eq_cell)

theorem row_exists {α} (m : Mat α) (hne : m ≠ []) (r : Nat) :
    ∃ row, m[r % m.length]? = some row ∧ row ∈ m := by
  have h := Nat.mod_lt r (List.length_pos_iff.mpr hne)
  exact ⟨m[r % m.length], List.getElem?_eq_getElem h, List.getElem_mem h⟩

theorem toList_length {α} (m : Mat α) (rows cols : Nat) (hne : m ≠ []) :
    (m.toList rows cols).length = rows :=
  Proofs.Broadcast.toList_length hne rows cols

theorem toList_getElem? {α} (m : Mat α) (rows cols r : Nat) (hne : m ≠ []) (hr : r < rows)
    (row0 : List α) (hrow : m[r % m.length]? = some row0) :
    (m.toList rows cols)[r]? =
      some ((repeatList row0 (max 1 ((cols + m.ncols - 1) / m.ncols))).take cols) := by
  rw [Proofs.Broadcast.toList_getElem? hne rows cols r hr, hrow]
  rfl

theorem keptIdx_pairwise (cols : Nat) (removed : List Nat) :
    (keptIdx cols removed).Pairwise (· < ·) :=
  List.Pairwise.filter _ List.pairwise_lt_range

theorem mem_keptIdx (cols : Nat) (removed : List Nat) (c : Nat) :
    c ∈ keptIdx cols removed ↔ (c < cols ∧ c ∉ removed) := by
  simp [keptIdx, List.mem_filter, List.mem_range]

theorem keptIdx_length_le (cols : Nat) (removed : List Nat) : (keptIdx cols removed).length ≤ cols := by
  have := List.length_filter_le (fun c => !removed.contains c) (List.range cols)
  simpa [keptIdx] using this

theorem dropCols_map_some {α} (row : List α) (removed : List Nat) :
    (dropCols row removed).map some = (keptIdx row.length removed).map (fun c => row[c]?) := by
  unfold dropCols keptIdx
  rw [List.range_eq_range', ← List.zipIdx_map_snd 0 row, List.filter_map, List.map_map, List.map_map]
  apply List.map_congr_left
  intro x hx
  exact (List.mk_mem_zipIdx_iff_getElem?.mp (List.mem_filter.mp hx).1).symm

theorem dropCols_length {α} (row : List α) (removed : List Nat) :
    (dropCols row removed).length = (keptIdx row.length removed).length := by
  have := congrArg List.length (dropCols_map_some row removed)
  simpa using this

theorem dropCols_getElem? {α} (row : List α) (removed : List Nat) (j c : Nat)
    (hj : (keptIdx row.length removed)[j]? = some c) :
    (dropCols row removed)[j]? = row[c]? := by
  have h := congrArg (fun l => l[j]?) (dropCols_map_some row removed)
  simp only [List.getElem?_map, hj, Option.map_some] at h
  cases hd : (dropCols row removed)[j]? with
  | none => simp [hd] at h
  | some v => simpa [hd] using h

theorem expandSlice_length {α} (m : Mat α) (rows cols : Nat) (removed : List Nat) (hne : m ≠ []) :
    (m.expandSlice rows cols removed).length = rows := by
  simp [Mat.expandSlice, toList_length m rows cols hne]

theorem expandSlice_shape {α} {m : Mat α} (h : Good m) (rows cols : Nat) (removed : List Nat) :
    Shape (m.expandSlice rows cols removed) rows (keptIdx cols removed).length := by
  refine ⟨expandSlice_length m rows cols removed h.ne, ?_⟩
  intro row hrow
  simp only [Mat.expandSlice, List.mem_map] at hrow
  obtain ⟨row', hmem, rfl⟩ := hrow
  rw [dropCols_length, (toList_shape h rows cols).row row' hmem]

theorem expandSlice_ncols {α} (m : Mat α) (rows cols : Nat) (removed : List Nat) (hne : m ≠ [])
    (hrect : m.Rect) (hc : 0 < m.ncols) (hrows : 0 < rows) :
    (m.expandSlice rows cols removed).ncols = (keptIdx cols removed).length :=
  (expandSlice_shape ⟨hne, hrect, hc⟩ rows cols removed).ncols hrows

/-- the cell of the expanded, column-reduced matrix is the cell of the original position -/
theorem expandSlice_iloc {α} (m : Mat α) (rows cols : Nat) (removed : List Nat) (r j c : Nat)
    (hne : m ≠ []) (hrect : m.Rect) (hc : 0 < m.ncols) (hr : r < rows)
    (hj : (keptIdx cols removed)[j]? = some c) :
    (m.expandSlice rows cols removed).iloc r j = m.iloc r c := by
  have hg : Good m := ⟨hne, hrect, hc⟩
  have hjlt : j < (keptIdx cols removed).length := (List.getElem?_eq_some_iff.mp hj).1
  have hccols : c < cols := ((mem_keptIdx cols removed c).mp (List.mem_of_getElem? hj)).1
  rw [(expandSlice_shape hg rows cols removed).iloc hr hjlt, iloc_eq_cell hg, ← toList_cell hg hr hccols]
  unfold cell Mat.expandSlice
  rw [List.getElem?_map]
  cases hrow : (m.toList rows cols)[r]? with
  | none => rfl
  | some row =>
    have hlen := (toList_shape hg rows cols).row row (List.mem_of_getElem? hrow)
    exact dropCols_getElem? row removed j c (by rw [hlen]; exact hj)

theorem cellAttr_eq_spec {α} (A : Mat α) (rows cols : Nat) (removed : List Nat) (start height i j : Nat)
    (hne : A ≠ []) (hrect : A.Rect) (hc : 0 < A.ncols)
    (hpage : start + height ≤ rows) (hi : i < height)
    (hj : j < (keptIdx cols removed).length) :
    cellAttr A rows cols removed start height i j = specAttr A cols removed start i j := by
  have hg : Good A := ⟨hne, hrect, hc⟩
  have hjc : (keptIdx cols removed)[j]? = some (keptIdx cols removed)[j] := List.getElem?_eq_getElem hj
  unfold cellAttr specAttr
  simp only [hjc]
  by_cases hrem : removed.isEmpty = true
  · rw [if_pos hrem, Proofs.Broadcast.pageRows_iloc hg start hi]
    have : removed = [] := List.isEmpty_iff.mp hrem
    subst this
    have hnil : keptIdx cols [] = List.range cols := by simp [keptIdx]
    simp only [hnil, List.getElem_range]
  · have hgE : Good (A.expandSlice rows cols removed) :=
      (expandSlice_shape hg rows cols removed).good (by omega) (by omega)
    rw [if_neg hrem, Proofs.Broadcast.pageRows_iloc hgE start hi]
    exact expandSlice_iloc A rows cols removed (start + i) j _ hne hrect hc (by omega) hjc

end Proofs.BroadcastAttr
