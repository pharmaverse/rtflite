import Proofs.EncodeTotalMore
/-!
Totality of the encoder models, part 8: the refusal is decided by the data alone.

The totality statements name the contiguity of the group_by keys in both outcomes: a document and contiguous keys, or
`ValueError` and keys that are not.  The two outcomes exclude each other, so on an accepted configuration of the
quantifier the encoder refuses if and only if the keys (of some section) are not contiguous.
-/
namespace Proofs.EncodeTotal
open Model.Encode Model.EncodeAccepted Model.EncodeAcceptedMore Model.EncodeMulti

/-- on an accepted configuration of the quantifier the pages are refused exactly for non-contiguous keys -/
theorem encodePages_refused_iff (measure : Measure) (k : ColorCtx) {d : Doc} (ha : Accepted d)
    (hs : ShapesInQuantifier d) (hm : MeasureOk measure d) :
    encodePages measure k d = .error "ValueError" ↔ ¬ GroupKeysContiguous d :=
  error_iff_of_ok_or_error (encodePages_total measure k ha hs hm) (fun hc hn => hn hc)

/-- the single-section encoder returned a document ⇒ the group_by keys are contiguous -/
theorem encode_ok_contiguous (measure : Measure) {d : Doc} (ha : Accepted d) (hs : ShapesInQuantifier d)
    (hm : MeasureOk measure d) {g : Model.Rtf.DocG} (hg : encode measure d = .ok g) : GroupKeysContiguous d :=
  of_ok_or_error (encode_total measure ha hs hm) hg

/-- the multi-section encoder: a document ⇒ the keys of EVERY section are contiguous -/
theorem encodeM_ok_contiguous (measure : Measure) {d : MDoc} (ha : AcceptedM d) (hs : ShapesInQuantifierM d)
    (hm : MeasureOkM measure d) {g : Model.Rtf.DocG} (hg : encodeM measure d = .ok g) :
    ∀ sd ∈ sectionDocs d, GroupKeysContiguous sd :=
  of_ok_or_error (encodeM_total measure ha hs hm) hg

end Proofs.EncodeTotal
