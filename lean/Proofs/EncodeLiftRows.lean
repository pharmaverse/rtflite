import Model.Encode
import Model.Layout
import Proofs.Encode
import Proofs.Layout
import Proofs.EncodeLift
/-!
# Table rows actually written by the encoder model, block by block

Helper lemmas for `Props/C03enc.lean`: every role-level block is rendered to at most as many table-row elements
(`\trowd … \row`) as the row budget counts for it (`weight`, the summand of `Props.C03.tableRows`).
-/
namespace Proofs.EncodeLiftRows
open Model.Rtf Model.Emit Model.Encode Model.Broadcast Model.Layout Proofs.EncodeLift Proofs.LayoutRoles

/-- an element that is a table row (`\trowd … \row`) -/
def isRowElem (e : Elem) : Bool :=
  match e with
  | BlockG.row _ _ _ :: _ => true
  | _ => false

def rowElems (es : List Elem) : Nat := (es.filter isRowElem).length

/-- the summand of `Props.C03.tableRows` -/
def weight (ld : LDoc) : Block → Nat
  | .colHeader _ => 1
  | .heading _ _ => 1
  | .sublineHeading _ => 1
  | .data i => Proofs.Layout.linesOf ld i
  | .footnote true => 1
  | .source true => 1
  | _ => 0

theorem rowElems_encodeRows {k : ColorCtx} {A : TblAttrsOf MatV} {cw : List Rat} {off : Nat}
    {rows : List (List (Option Str))} {es : List Elem} (h : encodeRows k A cw off rows = .ok es) :
    rowElems es ≤ rows.length := by
  unfold encodeRows at h
  have := Proofs.Encode.all2_length (Proofs.Encode.mapM_ok h)
  rw [List.length_zipIdx] at this
  rw [← this]
  exact List.length_filter_le _ _

theorem rowElems_plain (ns : List (List Node)) : rowElems (ns.map fun n => [BlockG.plain n]) = 0 := by
  unfold rowElems
  rw [List.length_eq_zero_iff, List.filter_eq_nil_iff]
  intro a ha
  obtain ⟨n, _, rfl⟩ := List.mem_map.mp ha
  simp [isRowElem]

theorem rowElems_textElem {k : ColorCtx} {c : Option TextComp} {es : List Elem} (h : textElem k c = .ok es) :
    rowElems es = 0 := by
  unfold textElem at h
  split at h
  · cases h; rfl
  · split at h
    · cases h; rfl
    · cases h; rfl
    · obtain ⟨a, _, h⟩ := Proofs.Encode.bind_ok h
      obtain ⟨n, _, h⟩ := Proofs.Encode.bind_ok h
      cases Proofs.Encode.pure_ok h
      rfl

theorem rowElems_renderFoot {k : ColorCtx} {d : Doc} {f : Foot} {o : Option String} {es : List Elem}
    (h : renderFoot k d f o = .ok es) : rowElems es ≤ if f.asTable then 1 else 0 := by
  obtain ⟨A, _, hcase⟩ := Proofs.Encode.renderFoot_inv h
  rcases hcase with ⟨_, ps, _, rfl⟩ | ⟨ht, w, _, hrows⟩
  · have := rowElems_plain (ps.map fun n => [n])
    rw [List.map_map] at this
    simp only [Function.comp_def] at this
    rw [this]
    exact Nat.zero_le _
  · rw [ht, if_pos rfl]
    exact rowElems_encodeRows hrows

/-- every block is rendered to at most as many table rows as `tableRows` counts for it -/
theorem rowElems_block {k : ColorCtx} {d : Doc} {pl : Plan} {pg : PageCtx} {pa : PageAttrs} {b : Block}
    {es : List Elem} (hl : ∀ r ∈ pl.ld.rows, 1 ≤ r.lines) (hlen : pl.ld.rows.length = pl.rows.length)
    (hfn : ∀ a, b = Block.footnote a → ∀ f, d.footnote = some f → f.asTable = a)
    (hsrc : ∀ a, b = Block.source a → ∀ f, d.source = some f → f.asTable = a)
    (h : renderBlock k d pl.bodyA pl.p pl.rows pg pa b = .ok es) : rowElems es ≤ weight pl.ld b := by
  cases b with
  | brk =>
    simp only [renderBlock] at h
    obtain ⟨ns, _, h⟩ := Proofs.Encode.bind_ok h
    cases Proofs.Encode.pure_ok h
    exact Nat.le_refl _
  | title =>
    simp only [renderBlock] at h
    obtain ⟨es1, h1, h⟩ := Proofs.Encode.bind_ok h
    cases Proofs.Encode.pure_ok h
    have := rowElems_textElem h1
    unfold rowElems at this ⊢
    rw [List.filter_append, List.length_append, this]
    exact Nat.le_refl _
  | subline =>
    simp only [renderBlock] at h
    rw [rowElems_textElem h]
    exact Nat.zero_le _
  | sublineHeading t =>
    simp only [renderBlock] at h
    split at h <;> cases h <;> exact Nat.zero_le _
  | colHeader i =>
    simp only [renderBlock] at h
    split at h
    · rw [Proofs.Encode.renderHeader_eq] at h
      split at h
      · cases h; exact Nat.zero_le _
      · obtain ⟨_, _, _, h⟩ := Proofs.Encode.headerInner_inv h
        exact rowElems_encodeRows h
    · cases h; exact Nat.zero_le _
  | heading lvl t =>
    obtain ⟨e, _, rfl⟩ := renderBlock_heading_inv h
    exact List.length_filter_le _ _
  | data i =>
    obtain ⟨cells, e, hcells, _, rfl⟩ := renderBlock_data_inv h
    have hi : i < pl.ld.rows.length := by
      rw [hlen]; exact (List.getElem?_eq_some_iff.mp hcells).1
    have : 1 ≤ Proofs.Layout.linesOf pl.ld i := by
      simp only [Proofs.Layout.linesOf, List.getElem?_eq_getElem hi, Option.map_some, Option.getD_some]
      exact hl _ (List.getElem_mem hi)
    exact Nat.le_trans (List.length_filter_le _ _) this
  | footnote a =>
    simp only [renderBlock] at h
    split at h
    · next f hf =>
      have := rowElems_renderFoot h
      rw [hfn a rfl f hf] at this
      cases a <;> exact this
    · cases h; exact Nat.zero_le _
  | source a =>
    simp only [renderBlock] at h
    split at h
    · next f hf =>
      have := rowElems_renderFoot h
      rw [hsrc a rfl f hf] at this
      cases a <;> exact this
    · cases h; exact Nat.zero_le _

/-- a footnote block of a rendered page carries the component's table flag, and the component is not absent -/
theorem footnote_mem (d : LDoc) (pg : PageCtx) (a : Bool) (h : Block.footnote a ∈ Model.Layout.renderPage d pg) :
    a = (d.footnote == .table) ∧ d.footnote ≠ .absent := by
  have h : Block.footnote a ∈ segFootnote d pg := (mem_renderPage d pg).mp h
  unfold segFootnote at h
  split at h
  · next hc =>
    rw [List.mem_singleton, Block.footnote.injEq] at h
    exact ⟨h, fun h0 => by rw [h0] at hc; cases hc⟩
  · cases h

theorem source_mem (d : LDoc) (pg : PageCtx) (a : Bool) (h : Block.source a ∈ Model.Layout.renderPage d pg) :
    a = (d.source == .table) ∧ d.source ≠ .absent := by
  have h : Block.source a ∈ segSource d pg := (mem_renderPage d pg).mp h
  unfold segSource at h
  split at h
  · next hc =>
    rw [List.mem_singleton, Block.source.injEq] at h
    exact ⟨h, fun h0 => by rw [h0] at hc; cases hc⟩
  · cases h

/-- the flag of a footnote / source block the encoder renders is the component's `as_table` -/
theorem foot_flags {measure : Measure} {d : Doc} {pl : Plan} (hp : plan measure d = .ok pl)
    (x : PageCtx × List Block) (hx : x ∈ pl.pageBlocks) (b : Block) (hb : b ∈ x.2) :
    (∀ a, b = Block.footnote a → ∀ f, d.footnote = some f → f.asTable = a) ∧
    (∀ a, b = Block.source a → ∀ f, d.source = some f → f.asTable = a) := by
  have hf := plan_facts hp
  obtain ⟨_, hbs⟩ := pageBlocks_mem hx
  rw [hbs] at hb
  constructor
  · intro a ha f hfn
    subst ha
    obtain ⟨h1, h2⟩ := footnote_mem pl.ld x.1 a hb
    rw [hf.footnote, hfn] at h1 h2
    rw [h1, footComp_table h2]
  · intro a ha f hfn
    subst ha
    obtain ⟨h1, h2⟩ := source_mem pl.ld x.1 a hb
    rw [hf.source, hfn] at h1 h2
    rw [h1, footComp_table h2]

theorem rowElems_append (a b : List Elem) : rowElems (a ++ b) = rowElems a + rowElems b := by
  unfold rowElems
  rw [List.filter_append, List.length_append]

theorem rowElems_pageElems_le (w : Block → Nat) : ∀ (T : List (Block × List Elem)),
    (∀ y ∈ T, rowElems y.2 ≤ w y.1) → rowElems (pageElems T) ≤ ((T.map Prod.fst).map w).sum
  | [], _ => Nat.le_refl _
  | y :: T, h => by
    simp only [pageElems, List.flatMap_cons, List.map_cons, List.sum_cons]
    rw [rowElems_append]
    exact Nat.add_le_add (h y List.mem_cons_self)
      (rowElems_pageElems_le w T fun z hz => h z (List.mem_cons_of_mem _ hz))

/-- on every page of the trace, the table-row elements written are at most the sum of the blocks' weights -/
theorem rowElems_page {measure : Measure} {k : ColorCtx} {d : Doc} {pl : Plan} {R : Trace}
    (hp : plan measure d = .ok pl) (hR : Renders k d pl R) (x : PageCtx × List (Block × List Elem)) (hx : x ∈ R) :
    rowElems (pageElems x.2) ≤ ((x.2.map Prod.fst).map (weight pl.ld)).sum := by
  have hlen : pl.ld.rows.length = pl.rows.length := by
    obtain ⟨h1, h2⟩ := plan_rows_length hp
    rw [h1, h2]
  apply rowElems_pageElems_le
  intro y hy
  have hflags := foot_flags hp _ (hR.page_mem hx) y.1 (List.mem_map.mpr ⟨y, hy, rfl⟩)
  exact rowElems_block (plan_facts hp).lines_pos hlen hflags.1 hflags.2 (hR.each x hx y hy)

end Proofs.EncodeLiftRows
