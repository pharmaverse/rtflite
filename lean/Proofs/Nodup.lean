/-!
Deciding `List.Nodup` on numbers by evaluation.  The list is first cut into residue classes and each class is scanned
on its own, so that the quadratic scan runs over short lists only; keys of any type are compared through a code
(`(l.map f).Nodup → l.Nodup`: equal keys have equal codes).  Any positive moduli are sound (`nodupBuckets_sound`); the
`7` and `9` of the callers only set the size of the classes.
-/
namespace Proofs.Nodup

def notIn (x : Nat) : List Nat → Bool
  | [] => true
  | y :: ys => match Nat.beq x y with
    | true => false
    | false => notIn x ys

def nodupB : List Nat → Bool
  | [] => true
  | x :: xs => match notIn x xs with
    | true => nodupB xs
    | false => false

/-- `chk` holds of each residue class mod `m` of `l`; nests (`nodupBuckets 7 (nodupBuckets 9 nodupB)`) -/
def nodupBuckets (m : Nat) (chk : List Nat → Bool) (l : List Nat) : Bool :=
  (List.range m).all (fun v => chk (l.filter (fun x => Nat.beq (x % m) v)))

theorem notIn_sound {x : Nat} : ∀ {l : List Nat}, notIn x l = true → x ∉ l
  | [], _ => List.not_mem_nil
  | y :: ys, h => by
    unfold notIn at h
    split at h
    · cases h
    · next hb => exact List.not_mem_cons_of_ne_of_not_mem (Nat.ne_of_beq_eq_false hb) (notIn_sound h)

theorem nodupB_sound : ∀ {l : List Nat}, nodupB l = true → l.Nodup
  | [], _ => List.nodup_nil
  | x :: xs, h => by
    unfold nodupB at h
    split at h
    · next hn => exact List.nodup_cons.mpr ⟨notIn_sound hn, nodupB_sound h⟩
    · cases h

theorem nodupBuckets_sound {m : Nat} (hm : 0 < m) {chk : List Nat → Bool} (hc : ∀ {l}, chk l = true → l.Nodup)
    {l : List Nat} (h : nodupBuckets m chk l = true) : l.Nodup := by
  rw [List.nodup_iff_count]
  intro a
  have hb := List.all_eq_true.mp h (a % m) (List.mem_range.mpr (Nat.mod_lt _ hm))
  have hnd := hc hb
  rw [List.nodup_iff_count] at hnd
  have := hnd a
  rw [List.count_filter (by simp)] at this
  exact this

end Proofs.Nodup
