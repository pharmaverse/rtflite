import Model.Layout
import Proofs.LayoutRoles
/-! Group headings of a page (`renderPage`): one boundary of `_render_body` (`boundaryHeadings` together with
`updateLast`), the body of a page (`bodyBlocks`), the page-top headings (a boundary with every level forced), and
what this says about the body segments of a page. -/
namespace Proofs.LayoutHeadings
open Model.Paginate Model.Layout Proofs.LayoutRoles

/-! ### last heading of a level, headings in force -/

/-- text of a block when it is a level-`l` heading -/
def hd (l : Nat) : Block → Option String
  | .heading l' t => if l' = l then some t else none
  | _ => none

/-- text of the last level-`l` heading in a block list (same as `Props.C05.lastHeading`) -/
def lastH (l : Nat) (bs : List Block) : Option String := bs.reverse.findSome? (hd l)

@[simp] theorem lastH_nil (l : Nat) : lastH l [] = none := rfl

theorem lastH_cons (l : Nat) (b : Block) (bs : List Block) :
    lastH l (b :: bs) = (lastH l bs).or (hd l b) := by
  simp [lastH]

/-- same as `Props.C05.inForceStep` -/
def forceStep (f : Nat → Option String) : Block → (Nat → Option String)
  | .heading l t => fun k => if k = l then some t else if l < k then none else f k
  | _ => f

def forceFrom (f : Nat → Option String) (bs : List Block) : Nat → Option String :=
  bs.foldl forceStep f

/-- same as `Props.C05.inForce` -/
def force (bs : List Block) : Nat → Option String := forceFrom (fun _ => none) bs

theorem force_append (xs ys : List Block) : force (xs ++ ys) = forceFrom (force xs) ys := by
  simp [force, forceFrom, List.foldl_append]

theorem forceFrom_cons (f : Nat → Option String) (b : Block) (bs : List Block) :
    forceFrom f (b :: bs) = forceFrom (forceStep f b) bs := rfl

theorem forceFrom_deeper (l : Nat) : ∀ (bs : List Block) (f : Nat → Option String),
    (∀ b ∈ bs, ∀ l' t, b = Block.heading l' t → l < l') → forceFrom f bs l = f l
  | [], f, _ => rfl
  | b :: bs, f, h => by
    rw [forceFrom_cons, forceFrom_deeper l bs _ (fun b' hb' => h b' (List.mem_cons_of_mem _ hb'))]
    cases b with
    | heading l' t =>
      have := h _ List.mem_cons_self l' t rfl
      simp only [forceStep]
      rw [if_neg (by omega), if_neg (by omega)]
    | _ => rfl

/-- if a value is in force at level `l`, the last heading of a level `≤ l` has level `l`, so it is also the last of
level `l` -/
theorem lastH_of_forceFrom {l : Nat} {v : String} : ∀ (bs : List Block) (f : Nat → Option String),
    forceFrom f bs l = some v → (lastH l bs).or (f l) = some v
  | [], f, h => h
  | b :: bs, f, h => by
    have ih := lastH_of_forceFrom bs (forceStep f b) h
    rw [lastH_cons, Option.or_assoc]
    cases hl : lastH l bs with
    | some x => rw [hl] at ih; exact ih
    | none =>
      rw [hl, Option.none_or] at ih
      rw [Option.none_or]
      cases b with
      | heading l' t =>
        simp only [forceStep] at ih
        simp only [hd]
        split at ih
        · next e => rw [if_pos e.symm]; exact ih
        · next e =>
          rw [if_neg (Ne.symm e), Option.none_or]
          split at ih
          · cases ih
          · exact ih
      | _ => exact ih

theorem lastH_of_force {l : Nat} {v : String} {bs : List Block} (h : force bs l = some v) :
    lastH l bs = some v := by
  simpa using lastH_of_forceFrom bs _ h

theorem groupValues_length (k : List (Option String)) : (groupValues k).length = k.length := by
  simp [groupValues]

theorem isDivider_some (v : String) : isDivider (some v) = (v == "-----") := rfl

theorem filtered_real {x : Option String} {v : String} :
    (if isDivider x then none else some x) = some (some v) ↔ x = some v ∧ v ≠ "-----" := by
  constructor
  · intro h
    split at h
    · cases h
    · next hnd =>
      cases h
      exact ⟨rfl, fun e => hnd (by rw [isDivider_some, beq_iff_eq]; exact e)⟩
  · rintro ⟨rfl, hv⟩
    exact if_neg (by rw [isDivider_some, beq_iff_eq]; exact hv)

theorem groupValues_getElem?_real {k : List (Option String)} {l : Nat} {v : String} :
    (groupValues k)[l]? = some (some (some v)) ↔ (k[l]? = some (some v) ∧ v ≠ "-----") := by
  simp only [groupValues, List.getElem?_map, Option.map_eq_some_iff, filtered_real]
  constructor
  · rintro ⟨_, h, rfl, hv⟩; exact ⟨h, hv⟩
  · rintro ⟨h, hv⟩; exact ⟨_, h, rfl, hv⟩

theorem groupValues_mem_real {k : List (Option String)} {s : String}
    (h : some (some s) ∈ groupValues k) : some s ∈ k ∧ s ≠ "-----" := by
  obtain ⟨x, hx, e⟩ := List.mem_map.mp h
  obtain ⟨rfl, hs⟩ := filtered_real.mp e
  exact ⟨hx, hs⟩

/-- `differs` of `boundaryHeadings` and `updateLast`: the new value `s` is not the remembered one -/
def differsFrom (l0 : Option (Option String)) (s : String) : Bool :=
  match l0 with
  | some (some v) => s != v
  | _ => true

theorem differsFrom_false {l0 : Option (Option String)} {s : String} (h : differsFrom l0 s = false) :
    l0 = some (some s) := by
  unfold differsFrom at h
  split at h
  · simp at h; rw [h]
  · simp at h

theorem updateLast_cons_real (l0 : Option (Option String)) (s : String)
    (ls ns : List (Option (Option String))) (fc : Bool) :
    updateLast (l0 :: ls) (some (some s) :: ns) fc =
      some (some s) :: updateLast ls ns (differsFrom l0 s || fc) :=
  rfl

theorem updateLast_cons_null (l0 : Option (Option String))
    (ls ns : List (Option (Option String))) (fc : Bool) :
    updateLast (l0 :: ls) (some none :: ns) fc = some none :: updateLast ls ns fc :=
  rfl

theorem updateLast_cons_div (l0 : Option (Option String))
    (ls ns : List (Option (Option String))) (fc : Bool) :
    updateLast (l0 :: ls) (none :: ns) fc = (if fc then none else l0) :: updateLast ls ns fc :=
  rfl

theorem updateLast_length : ∀ (ls ns : List (Option (Option String))) (fc : Bool),
    ls.length = ns.length → (updateLast ls ns fc).length = ls.length
  | [], [], _, _ => by simp [updateLast]
  | l0 :: ls, n0 :: ns, fc, h => by
    have ih := fun fc' => updateLast_length ls ns fc' (Nat.succ.inj h)
    rcases n0 with _ | _ | s
    · rw [updateLast_cons_div, List.length_cons, ih, List.length_cons]
    · rw [updateLast_cons_null, List.length_cons, ih, List.length_cons]
    · rw [updateLast_cons_real, List.length_cons, ih, List.length_cons]

/-- a level with a new value (real or null) remembers it -/
theorem updateLast_real : ∀ (ls ns : List (Option (Option String))) (fc : Bool),
    ls.length = ns.length → ∀ (m : Nat) (x : Option String), ns[m]? = some (some x) →
      (updateLast ls ns fc)[m]? = some (some x)
  | [], [], _, _, m, x, h => by simp at h
  | l0 :: ls, n0 :: ns, fc, hlen, 0, x, h => by
    obtain rfl : n0 = some x := by simpa using h
    cases x with
    | none => rw [updateLast_cons_null]; rfl
    | some s => rw [updateLast_cons_real]; rfl
  | l0 :: ls, n0 :: ns, fc, hlen, m + 1, x, h => by
    have ih := fun fc' => updateLast_real ls ns fc' (Nat.succ.inj hlen) m x h
    rcases n0 with _ | _ | s
    · rw [updateLast_cons_div]; exact ih _
    · rw [updateLast_cons_null]; exact ih _
    · rw [updateLast_cons_real]; exact ih _

theorem boundaryHeadings_cons_real (l0 : Option (Option String)) (s : String)
    (ls ns : List (Option (Option String))) (lvl : Nat) (f : Bool) :
    boundaryHeadings (l0 :: ls) (some (some s) :: ns) lvl f =
      if differsFrom l0 s || f then Block.heading lvl s :: boundaryHeadings ls ns (lvl + 1) true
      else boundaryHeadings ls ns (lvl + 1) f :=
  rfl

theorem boundaryHeadings_cons_null (l0 : Option (Option String))
    (ls ns : List (Option (Option String))) (lvl : Nat) (f : Bool) :
    boundaryHeadings (l0 :: ls) (some none :: ns) lvl f = boundaryHeadings ls ns (lvl + 1) f :=
  rfl

theorem boundaryHeadings_cons_div (l0 : Option (Option String))
    (ls ns : List (Option (Option String))) (lvl : Nat) (f : Bool) :
    boundaryHeadings (l0 :: ls) (none :: ns) lvl f = boundaryHeadings ls ns (lvl + 1) f :=
  rfl

theorem boundaryHeadings_mem (ls ns : List (Option (Option String))) (lvl : Nat) (f : Bool) :
    ∀ b ∈ boundaryHeadings ls ns lvl f, ∃ l t, b = Block.heading l t ∧ lvl ≤ l ∧ some (some t) ∈ ns := by
  have up : ∀ {b : Block} {lvl : Nat} {n : Option (Option String)} {ns : List (Option (Option String))},
      (∃ l t, b = Block.heading l t ∧ lvl + 1 ≤ l ∧ some (some t) ∈ ns) →
      ∃ l t, b = Block.heading l t ∧ lvl ≤ l ∧ some (some t) ∈ n :: ns :=
    fun ⟨l, t, h, h1, h2⟩ => ⟨l, t, h, Nat.le_of_succ_le h1, List.mem_cons_of_mem _ h2⟩
  fun_induction boundaryHeadings ls ns lvl f with
  | case1 l0 ls ns lvl force s differs hdf ih =>
    intro b hb
    rcases List.mem_cons.mp hb with rfl | hb
    · exact ⟨lvl, s, rfl, Nat.le_refl _, List.mem_cons_self⟩
    · exact up (ih b hb)
  | case2 l0 ls ns lvl force s differs hdf ih => exact fun b hb => up (ih b hb)
  | case3 l0 ls n ns lvl force hn ih => exact fun b hb => up (ih b hb)
  | case4 => nofun

/-- the page-top headings are a boundary with every level forced -/
theorem topHeadings_eq_boundary (k : List (Option String)) :
    topHeadings k = boundaryHeadings (groupValues k) (groupValues k) 0 true := by
  unfold topHeadings
  generalize groupValues k = gs
  generalize 0 = n
  induction gs generalizing n with
  | nil => simp [boundaryHeadings]
  | cons g gs ih =>
    rcases g with _ | _ | s
    · rw [boundaryHeadings_cons_div, ← ih]; rfl
    · rw [boundaryHeadings_cons_null, ← ih]; rfl
    · rw [boundaryHeadings_cons_real, Bool.or_true, if_pos rfl, ← ih]; rfl

theorem forceFrom_boundary_deeper (ls ns : List (Option (Option String))) (lvl : Nat) (fc : Bool)
    (f : Nat → Option String) (l : Nat) (hl : l < lvl) :
    forceFrom f (boundaryHeadings ls ns lvl fc) l = f l := by
  apply forceFrom_deeper
  intro b hb l' t hbt
  obtain ⟨l'', t'', h, h1, _⟩ := boundaryHeadings_mem _ _ _ _ b hb
  rw [hbt] at h; cases h; omega

/-- One boundary.  If what `ls` remembers is in force before it (not needed when `fc` forces every level), then what
`updateLast` remembers is in force after it.  A level with a real new value is rendered, or is unchanged and was in
force; a divider level is still remembered only if no outer level was rendered, and then no heading passed it. -/
theorem forceFrom_boundary : ∀ (ls ns : List (Option (Option String))) (lvl : Nat) (fc : Bool)
    (f : Nat → Option String), ls.length = ns.length →
    (fc = false → ∀ (m : Nat) (s : String), ls[m]? = some (some (some s)) → f (lvl + m) = some s) →
    ∀ (m : Nat) (v : String), (updateLast ls ns fc)[m]? = some (some (some v)) →
      forceFrom f (boundaryHeadings ls ns lvl fc) (lvl + m) = some v
  | [], [], _, _, _, _, _, m, v, h => by simp [updateLast] at h
  | l0 :: ls, n0 :: ns, lvl, fc, f, hlen, P, m, v, h => by
    have hlen' : ls.length = ns.length := Nat.succ.inj hlen
    have keep := fun fc' g => forceFrom_boundary_deeper ls ns (lvl + 1) fc' g lvl (Nat.lt_succ_self _)
    have P' : fc = false → ∀ (m : Nat) (s : String), ls[m]? = some (some (some s)) →
        f (lvl + 1 + m) = some s := fun hfc m s hm => by
      rw [Nat.add_right_comm]; exact P hfc (m + 1) s hm
    have e : ∀ m, lvl + (m + 1) = lvl + 1 + m := fun m => (Nat.add_right_comm lvl 1 m).symm
    rcases n0 with _ | _ | s0
    · rw [boundaryHeadings_cons_div]
      rw [updateLast_cons_div] at h
      cases m with
      | zero =>
        cases fc with
        | true => simp at h
        | false =>
          have hl0 : l0 = some (some v) := by simpa using h
          rw [Nat.add_zero lvl, keep]
          exact P rfl 0 v (by rw [hl0]; rfl)
      | succ m => rw [e m]; exact forceFrom_boundary ls ns (lvl + 1) fc f hlen' P' m v h
    · rw [boundaryHeadings_cons_null]
      rw [updateLast_cons_null] at h
      cases m with
      | zero => simp at h
      | succ m => rw [e m]; exact forceFrom_boundary ls ns (lvl + 1) fc f hlen' P' m v h
    · rw [boundaryHeadings_cons_real]
      rw [updateLast_cons_real] at h
      cases hc : (differsFrom l0 s0 || fc) with
      | true =>
        rw [hc] at h
        rw [if_pos rfl, forceFrom_cons]
        cases m with
        | zero =>
          obtain rfl : s0 = v := by simpa using h
          rw [Nat.add_zero lvl, keep]
          simp [forceStep]
        | succ m => rw [e m]; exact forceFrom_boundary ls ns (lvl + 1) true _ hlen' nofun m v h
      | false =>
        obtain ⟨hd0, rfl⟩ := Bool.or_eq_false_iff.mp hc
        rw [hc] at h
        rw [if_neg Bool.false_ne_true]
        cases m with
        | zero =>
          obtain rfl : s0 = v := by simpa using h
          rw [Nat.add_zero lvl, keep]
          exact P rfl 0 s0 (by rw [differsFrom_false hd0]; rfl)
        | succ m => rw [e m]; exact forceFrom_boundary ls ns (lvl + 1) false f hlen' P' m v h

theorem force_top (A : List Block) {k : List (Option String)} {l : Nat} {v : String}
    (h : (groupValues k)[l]? = some (some (some v))) : force (A ++ topHeadings k) l = some v := by
  have := forceFrom_boundary (groupValues k) (groupValues k) 0 true (force A) rfl nofun l v
    (updateLast_real _ _ _ rfl l _ h)
  rwa [Nat.zero_add, ← topHeadings_eq_boundary, ← force_append] at this

theorem split_right {α : Type} {xs ys pre post : List α} {b : α} (hb : b ∉ ys)
    (h : xs ++ ys = pre ++ b :: post) : ∃ post', xs = pre ++ b :: post' ∧ post = post' ++ ys := by
  rcases List.append_eq_append_iff.mp h with ⟨a', h1, h2⟩ | ⟨c', h1, h2⟩
  · exact absurd (by rw [h2]; simp) hb
  · cases c' with
    | nil => exact absurd (by rw [List.nil_append] at h2; rw [← h2]; simp) hb
    | cons c cs =>
      simp only [List.cons_append, List.cons.injEq] at h2
      exact ⟨cs, by rw [h1, h2.1], h2.2⟩

/-! ### the data rows of a block list and the headings in force before them -/

/-- `P n f` holds of every data row `n` of `bs`, `f` being the headings in force before the row when `f0` are those in
force before `bs` -/
def Rows (P : Nat → (Nat → Option String) → Prop) (f0 : Nat → Option String) (bs : List Block) : Prop :=
  ∀ pre n post, bs = pre ++ Block.data n :: post → P n (forceFrom f0 pre)

section
variable {P : Nat → (Nat → Option String) → Prop} {f : Nat → Option String}

theorem Rows.nil : Rows P f [] := by
  intro pre n post h; simp at h

theorem Rows.cons {b : Block} {bs : List Block} (hb : ∀ n, b = Block.data n → P n f)
    (h : Rows P (forceStep f b) bs) : Rows P f (b :: bs) := by
  intro pre n post he
  cases pre with
  | nil => exact hb n (List.cons.inj he).1
  | cons c pre =>
    obtain ⟨rfl, he'⟩ := List.cons.inj he
    exact h pre n post he'

theorem Rows.append_left {A bs : List Block} (hA : ∀ b ∈ A, ∀ n, b ≠ Block.data n)
    (h : Rows P (forceFrom f A) bs) : Rows P f (A ++ bs) := by
  induction A generalizing f with
  | nil => exact h
  | cons a A ih =>
    exact Rows.cons (fun n e => absurd e (hA a List.mem_cons_self n))
      (ih (fun b hb => hA b (List.mem_cons_of_mem _ hb)) h)

theorem Rows.append_right {bs T : List Block} (hT : ∀ b ∈ T, ∀ n, b ≠ Block.data n)
    (h : Rows P f bs) : Rows P f (bs ++ T) := by
  intro pre n post he
  obtain ⟨post', h1, _⟩ := split_right (fun hm => hT _ hm n rfl) he
  exact h pre n post' h1

end

/-- the real non-divider values of the key of row `n` are in force -/
def Under (keyAt : Nat → Option (List (Option String))) (n : Nat) (f : Nat → Option String) : Prop :=
  ∀ key, keyAt n = some key → ∀ (l : Nat) v, key[l]? = some (some v) → v ≠ "-----" → f l = some v

/-- Invariant of `bodyBlocks` along the rows of a page: the real values `last` remembers are in force (`f`), and `last`
remembers the real non-divider values of the current key `k`.  Then every data row of the rest of the body stands under
the values of its own key; `keyAt` says which key belongs to which row number. -/
theorem body_rows (nlev : Nat) (keyAt : Nat → Option (List (Option String))) :
    ∀ (ks : List (List (Option String))) (k : List (Option String)) (last : List (Option (Option String)))
    (i : Nat) (f : Nat → Option String),
    (∀ j key, (k :: ks)[j]? = some key → keyAt (i + j) = some key) →
    (∀ k' ∈ ks, k'.length = nlev) → last.length = nlev →
    (∀ (l : Nat) v, last[l]? = some (some (some v)) → f l = some v) →
    (∀ (l : Nat) v, k[l]? = some (some v) → v ≠ "-----" → last[l]? = some (some (some v))) →
    Rows (Under keyAt) f (Block.data i :: bodyBlocks ks (some k) last (i + 1))
  | ks, k, last, i, f, hkey, hks, hlen, H1, H2 => by
    refine Rows.cons (fun n e key hk l v h1 h2 => ?_) ?_
    · cases e
      cases (hkey 0 k rfl).symm.trans hk
      exact H1 l v (H2 l v h1 h2)
    · match ks with
      | [] => rw [bodyBlocks]; exact Rows.nil
      | k' :: ks =>
        have hkey' : ∀ j key, (k' :: ks)[j]? = some key → keyAt (i + 1 + j) = some key := fun j key h => by
          rw [Nat.add_right_comm]; exact hkey (j + 1) key h
        have hks' : ∀ k'' ∈ ks, k''.length = nlev := fun k'' h => hks k'' (List.mem_cons_of_mem _ h)
        rw [bodyBlocks]
        split
        · have hl2 : last.length = (groupValues k').length := by
            rw [groupValues_length, hks k' List.mem_cons_self, hlen]
          refine Rows.append_left (fun b hb n e => ?_) (body_rows nlev keyAt ks k' _ (i + 1) _ hkey' hks'
            (by rw [updateLast_length _ _ _ hl2, hlen]) (fun l v h => ?_)
            (fun l v h1 h2 => updateLast_real _ _ _ hl2 l _ (groupValues_getElem?_real.mpr ⟨h1, h2⟩)))
          · obtain ⟨_, _, h, _⟩ := boundaryHeadings_mem _ _ _ _ b hb
            cases e.symm.trans h
          · have := forceFrom_boundary last (groupValues k') 0 false _ hl2
              (fun _ m s hm => by rw [Nat.zero_add]; exact H1 m s hm) l v h
            rwa [Nat.zero_add] at this
        · next hne =>
          obtain rfl : k = k' := by simpa using hne
          exact body_rows nlev keyAt ks k last (i + 1) f hkey' hks' hlen H1 H2

/-! ### "a heading is followed by a deeper heading or a data row" -/

/-- `bs` begins with a data row or with a heading of level at least `n` -/
def Starts (n : Nat) (bs : List Block) : Prop :=
  ∃ b rest, bs = b :: rest ∧ ((∃ i, b = Block.data i) ∨ (∃ l' t', b = Block.heading l' t' ∧ n ≤ l'))

/-- every heading of `bs` is directly followed by a deeper heading or a data row (`Props.C05.C05_heading_followed`) -/
def Good (bs : List Block) : Prop :=
  ∀ pre l t post, bs = pre ++ Block.heading l t :: post → Starts (l + 1) post

theorem Starts.mono {n m : Nat} {bs : List Block} (hnm : n ≤ m) (h : Starts m bs) : Starts n bs := by
  obtain ⟨b, rest, rfl, h | ⟨l', t', rfl, h⟩⟩ := h
  · exact ⟨b, rest, rfl, Or.inl h⟩
  · exact ⟨_, rest, rfl, Or.inr ⟨l', t', rfl, by omega⟩⟩

theorem Starts.append {n : Nat} {bs : List Block} (h : Starts n bs) (F : List Block) :
    Starts n (bs ++ F) := by
  obtain ⟨b, rest, rfl, h⟩ := h
  exact ⟨b, rest ++ F, rfl, h⟩

theorem Starts.data (n i : Nat) (rest : List Block) : Starts n (Block.data i :: rest) :=
  ⟨_, rest, rfl, Or.inl ⟨i, rfl⟩⟩

theorem Good.nil : Good [] := by
  intro pre l t post h; simp at h

theorem Good.cons {b : Block} {bs : List Block} (hb : ∀ l t, b = Block.heading l t → Starts (l + 1) bs)
    (h : Good bs) : Good (b :: bs) := by
  intro pre l t post he
  cases pre with
  | nil =>
    obtain ⟨rfl, rfl⟩ := List.cons.inj he
    exact hb l t rfl
  | cons c pre => exact h pre l t post (List.cons.inj he).2

theorem Good.cons_data (i : Nat) {bs : List Block} (h : Good bs) : Good (Block.data i :: bs) :=
  Good.cons (fun _ _ e => nomatch e) h

theorem Good.cons_heading {l : Nat} {t : String} {bs : List Block} (hs : Starts (l + 1) bs)
    (h : Good bs) : Good (Block.heading l t :: bs) :=
  Good.cons (fun _ _ e => by cases e; exact hs) h

theorem Good.append_left {A bs : List Block} (hA : ∀ b ∈ A, ∀ l t, b ≠ Block.heading l t)
    (h : Good bs) : Good (A ++ bs) := by
  induction A with
  | nil => exact h
  | cons a A ih =>
    exact Good.cons (fun l t e => absurd e (hA a List.mem_cons_self l t))
      (ih fun b hb => hA b (List.mem_cons_of_mem _ hb))

theorem Good.append_right {bs F : List Block} (hF : ∀ b ∈ F, ∀ l t, b ≠ Block.heading l t)
    (h : Good bs) : Good (bs ++ F) := by
  intro pre l t post he
  obtain ⟨post', h1, rfl⟩ := split_right (fun hm => hF _ hm l t rfl) he
  exact (h pre l t post' h1).append F

theorem good_boundary {X : List Block} (hX : Good X) (hdat : ∃ i rest, X = Block.data i :: rest)
    (ls ns : List (Option (Option String))) (lvl : Nat) (f : Bool) :
    Good (boundaryHeadings ls ns lvl f ++ X) ∧ Starts lvl (boundaryHeadings ls ns lvl f ++ X) := by
  fun_induction boundaryHeadings ls ns lvl f with
  | case1 l0 ls ns lvl force s differs hdf ih =>
    exact ⟨Good.cons_heading ih.2 ih.1, _, _, rfl, Or.inr ⟨lvl, s, rfl, Nat.le_refl _⟩⟩
  | case2 l0 ls ns lvl force s differs hdf ih => exact ⟨ih.1, ih.2.mono (Nat.le_succ _)⟩
  | case3 l0 ls n ns lvl force hn ih => exact ⟨ih.1, ih.2.mono (Nat.le_succ _)⟩
  | case4 =>
    obtain ⟨i, rest, rfl⟩ := hdat
    exact ⟨hX, Starts.data _ _ _⟩

theorem bodyBlocks_cons (k : List (Option String)) (ks : List (List (Option String)))
    (prev : Option (List (Option String))) (last : List (Option (Option String))) (i : Nat) :
    ∃ X last', bodyBlocks (k :: ks) prev last i = X ++ Block.data i :: bodyBlocks ks (some k) last' (i + 1) ∧
      (X = [] ∨ X = boundaryHeadings last (groupValues k) 0 false) := by
  cases prev with
  | none => exact ⟨[], last, by rw [bodyBlocks, List.nil_append], Or.inl rfl⟩
  | some pk =>
    rw [bodyBlocks]
    split
    · exact ⟨_, _, rfl, Or.inr rfl⟩
    · exact ⟨[], last, rfl, Or.inl rfl⟩

theorem good_body : ∀ (ks : List (List (Option String))) (prev : Option (List (Option String)))
    (last : List (Option (Option String))) (i : Nat), Good (bodyBlocks ks prev last i)
  | [], prev, last, i => by rw [bodyBlocks]; exact Good.nil
  | k :: ks, prev, last, i => by
    obtain ⟨X, last', e, hX⟩ := bodyBlocks_cons k ks prev last i
    have hg := Good.cons_data i (good_body ks (some k) last' (i + 1))
    rw [e]
    rcases hX with rfl | rfl
    · exact hg
    · exact (good_boundary hg ⟨_, _, rfl⟩ _ _ _ _).1

theorem body_mem : ∀ (ks : List (List (Option String))) (prev : Option (List (Option String)))
    (last : List (Option (Option String))) (i : Nat),
    ∀ b ∈ bodyBlocks ks prev last i,
      (∃ n, b = Block.data n) ∨ ∃ l t, b = Block.heading l t ∧ ∃ k ∈ ks, some (some t) ∈ groupValues k
  | [], prev, last, i => by simp [bodyBlocks]
  | k :: ks, prev, last, i => by
    obtain ⟨X, last', e, hX⟩ := bodyBlocks_cons k ks prev last i
    intro b hb
    rw [e, List.mem_append, List.mem_cons] at hb
    rcases hb with hb | rfl | hb
    · rcases hX with rfl | rfl
      · cases hb
      · obtain ⟨l, t, rfl, _, h⟩ := boundaryHeadings_mem _ _ _ _ b hb
        exact Or.inr ⟨l, t, rfl, k, List.mem_cons_self, h⟩
    · exact Or.inl ⟨_, rfl⟩
    · exact (body_mem ks _ _ _ b hb).imp_right fun ⟨l, t, h, k', hk', ht⟩ =>
        ⟨l, t, h, k', List.mem_cons_of_mem _ hk', ht⟩

/-! ### the body segments of a page, and its subline heading -/

theorem segSubHeading_mem (d : LDoc) (pg : PageCtx) : ∀ b ∈ segSubHeading d pg,
    ∃ r, d.rows[pg.start]? = some r ∧ b = Block.sublineHeading (", ".intercalate (sublineParts r.skey)) := by
  intro b hb
  unfold segSubHeading at hb
  split at hb
  · split at hb
    · next r hr =>
      split at hb
      · cases hb
      · exact ⟨r, hr, List.mem_singleton.mp hb⟩
    · cases hb
  · cases hb

theorem dataBlocks_mem (s n : Nat) : ∀ b ∈ dataBlocks s n, ∃ i, b = Block.data i := by
  intro b hb
  obtain ⟨j, _, rfl⟩ := List.mem_map.mp hb
  exact ⟨_, rfl⟩

theorem page_keys_mem (d : LDoc) (pg : PageCtx) (k : List (Option String))
    (hk : k ∈ ((d.rows.drop pg.start).take pg.height).map (·.pkey)) : ∃ r ∈ d.rows, k = r.pkey := by
  obtain ⟨r, hr, rfl⟩ := List.mem_map.mp hk
  exact ⟨r, List.mem_of_mem_drop (List.mem_of_mem_take hr), rfl⟩

theorem body_seg_mem (d : LDoc) (pg : PageCtx) :
    ∀ b ∈ segTop d pg ++ segBody d pg, (∃ n, b = Block.data n) ∨
      ∃ l t, b = Block.heading l t ∧ d.spanning = true ∧ ∃ r ∈ d.rows, some (some t) ∈ groupValues r.pkey := by
  intro b hb
  simp only [segTop, segBody, List.mem_append] at hb
  by_cases hsp : d.spanning = true
  · simp only [hsp, if_true] at hb
    rcases hb with hb | hb
    · split at hb
      · next r hr =>
        rw [topHeadings_eq_boundary] at hb
        obtain ⟨l, t, rfl, _, h⟩ := boundaryHeadings_mem _ _ _ _ b hb
        exact Or.inr ⟨l, t, rfl, hsp, r, List.mem_of_getElem? hr, h⟩
      · cases hb
    · split at hb
      · refine (body_mem _ _ _ _ b hb).imp_right fun ⟨l, t, h, k, hk, ht⟩ => ?_
        obtain ⟨r, hr, rfl⟩ := page_keys_mem d pg k hk
        exact ⟨l, t, h, hsp, r, hr, ht⟩
      · exact Or.inl (dataBlocks_mem _ _ b hb)
  · simp only [hsp] at hb
    rcases hb with hb | hb
    · cases hb
    · exact Or.inl (dataBlocks_mem _ _ b (by simpa using hb))

theorem renderPage_heading_mem (d : LDoc) (pg : PageCtx) (l : Nat) (t : String)
    (h : Block.heading l t ∈ renderPage d pg) :
    d.spanning = true ∧ ∃ r ∈ d.rows, some (some t) ∈ groupValues r.pkey := by
  rcases body_seg_mem d pg _ ((mem_renderPage d pg).mp h) with ⟨_, h⟩ | ⟨l', t', h, h'⟩
  · cases h
  · cases h; exact h'

theorem body_seg_spanning (d : LDoc) (pg : PageCtx) (hsp : d.spanning = true)
    (hin : pg.start + pg.height ≤ d.rows.length) (hpos : 0 < pg.height) :
    ∃ r0 ks, d.rows[pg.start]? = some r0 ∧
      ((d.rows.drop pg.start).take pg.height).map (·.pkey) = r0.pkey :: ks ∧
      segTop d pg ++ segBody d pg = topHeadings r0.pkey ++
        Block.data pg.dataStart :: bodyBlocks ks (some r0.pkey) (groupValues r0.pkey) (pg.dataStart + 1) := by
  have hlt : pg.start < d.rows.length := by omega
  have hr0 : d.rows[pg.start]? = some d.rows[pg.start] := List.getElem?_eq_getElem hlt
  obtain ⟨h', hh⟩ : ∃ h', pg.height = h' + 1 := ⟨pg.height - 1, by omega⟩
  have hks : ((d.rows.drop pg.start).take pg.height).map (·.pkey) =
      d.rows[pg.start].pkey :: ((d.rows.drop (pg.start + 1)).take h').map (·.pkey) := by
    rw [hh, List.drop_eq_getElem_cons hlt, List.take_succ_cons, List.map_cons]
  exact ⟨_, _, hr0, hks, by simp only [segTop, segBody, hsp, hr0, hks, if_true, bodyBlocks]⟩

/-- Every data row of a page with spanning rows stands under its own group headings: each real non-divider page_by
value of the row is in force before it, hence is also the text of the last heading of its level. -/
theorem under_heading (d : LDoc) (nlev : Nat) (hsp : d.spanning = true)
    (hw : ∀ r ∈ d.rows, r.pkey.length = nlev)
    (pg : PageCtx) (hds : pg.dataStart = pg.start) (hin : pg.start + pg.height ≤ d.rows.length)
    (hpos : 0 < pg.height)
    (pre post : List Block) (i : Nat) (hsplit : renderPage d pg = pre ++ Block.data i :: post)
    (r : LRow) (hr : d.rows[i]? = some r) (l : Nat) (v : String)
    (hv : r.pkey[l]? = some (some v)) (hdiv : v ≠ "-----") :
    lastH l pre = some v ∧ force pre l = some v := by
  suffices h : force pre l = some v from ⟨lastH_of_force h, h⟩
  obtain ⟨r0, ks, _, hkeys, hmid⟩ := body_seg_spanning d pg hsp hin hpos
  have hmem : ∀ k ∈ r0.pkey :: ks, k.length = nlev := by
    intro k hk
    rw [← hkeys] at hk
    obtain ⟨r', hr', rfl⟩ := page_keys_mem d pg k hk
    exact hw r' hr'
  have hrows : Rows (Under fun n => d.rows[n]?.map (·.pkey)) (fun _ => none) (renderPage d pg) := by
    rw [renderPage_eq_head_body_tail, hmid, List.append_assoc]
    -- no data row before the body (ranks below 5), among the page-top headings or after it (ranks above 5)
    refine Rows.append_left (fun b hb n e => ?_) (Rows.append_left (fun b hb n e => ?_)
      (Rows.append_right (fun b hb n e => ?_) (body_rows nlev _ ks r0.pkey (groupValues r0.pkey) pg.dataStart _
        (fun j key hj => ?_) (fun k' h => hmem k' (List.mem_cons_of_mem _ h))
        (by rw [groupValues_length]; exact hmem _ List.mem_cons_self) (fun l v h => ?_)
        (fun l v h1 h2 => groupValues_getElem?_real.mpr ⟨h1, h2⟩))))
    · subst e
      exact Nat.not_succ_le_self 4 ((segHead_sorted d pg).2 _ hb)
    · subst e
      rw [topHeadings_eq_boundary] at hb
      obtain ⟨_, _, h, _⟩ := boundaryHeadings_mem _ _ _ _ _ hb
      cases h
    · subst e
      exact Nat.not_succ_le_self 5 (segTail_rk d pg _ hb)
    · rw [← hkeys, List.getElem?_map, List.getElem?_take, List.getElem?_drop] at hj
      split at hj
      · rw [hds]; exact hj
      · cases hj
    · have := force_top (segHead d pg) h
      rwa [force_append] at this
  exact hrows pre i post hsplit r.pkey (congrArg (Option.map (·.pkey)) hr) l v hv hdiv

theorem sublineParts_map_some (vals : List String) (hnd : ∀ v ∈ vals, v ≠ "-----") :
    sublineParts (vals.map some) = vals := by
  induction vals with
  | nil => rfl
  | cons v vs ih =>
    have hv : v ≠ "-----" := hnd v (by simp)
    have ih' := ih (fun w hw => hnd w (List.mem_cons_of_mem _ hw))
    simp only [sublineParts, groupValues] at ih' ⊢
    simp only [List.map_cons, isDivider_some, beq_iff_eq, hv, if_false, List.filterMap_cons, ih']

theorem segSubHeading_eq (d : LDoc) (hs : d.hasSubline = true) (pg : PageCtx)
    (r : LRow) (hr : d.rows[pg.start]? = some r) (vals : List String)
    (hvals : r.skey = vals.map some) (hne : vals ≠ []) (hnd : ∀ v ∈ vals, v ≠ "-----") :
    segSubHeading d pg = [Block.sublineHeading (", ".intercalate vals)] := by
  have hemp : vals.isEmpty = false := by cases vals <;> simp at hne ⊢
  simp only [segSubHeading, hs, hr, hvals, sublineParts_map_some vals hnd, hemp, if_true]
  rfl

end Proofs.LayoutHeadings
