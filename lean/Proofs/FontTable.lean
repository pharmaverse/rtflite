import Model.Color
import Model.Encode
import Model.EncodeMulti
import Model.EncodeFigure
/-!
The font table of the document head as a list of characters.

`Model.Color.fontTableText` builds a `String` by appending; every encoder then reads it back with `.toList`.  In the
kernel a `String` is a UTF-8 byte array, which both steps decode again character by character.  `tableChars` renders
the same text directly as `List Char`, so that evaluating an encoder on a concrete document builds no string.
`fontNodes` is what the three encoders put into the head; `encodeWith_eq`, `preamble_eq`, `preambleF_eq` restate them
over it: rewrite with these before evaluating an encoder by `decide +kernel`.
-/
namespace Proofs.FontTable
open Model.Rtf Model.Emit Model.Encode Model.Color Generated

def entryChars (e : FontEntry) : List Char :=
  ['{', '\\', 'f'] ++ Nat.toDigits 10 e.num ++ e.style.toList ++ e.charset.toList ++
    ['\\', 'f', 'p', 'r', 'q', '2', ' '] ++ e.name.toList ++ [';', '}', '\n']

def tableChars (es : List FontEntry) : List Char :=
  ['{', '\\', 'f', 'o', 'n', 't', 't', 'b', 'l'] ++ es.flatMap entryChars ++ ['}']

theorem foldl_entries_toList (es : List FontEntry) (acc : String) :
    (es.foldl (fun acc e => acc ++ "{" ++ "\\f" ++ toString e.num ++ e.style ++ e.charset ++ "\\fprq2 " ++ e.name ++
      ";}\n") acc).toList = acc.toList ++ es.flatMap entryChars := by
  induction es generalizing acc with
  | nil => simp
  | cons e es ih =>
    have e1 : "{".toList = ['{'] := by decide
    have e2 : "\\f".toList = ['\\', 'f'] := by decide
    have e3 : "\\fprq2 ".toList = ['\\', 'f', 'p', 'r', 'q', '2', ' '] := by decide
    have e4 : ";}\n".toList = [';', '}', '\n'] := by decide
    have e5 : (toString e.num).toList = Nat.toDigits 10 e.num := Nat.toList_repr
    rw [List.foldl_cons, ih]
    simp only [String.toList_append, List.flatMap_cons, entryChars, List.append_assoc, e1, e2, e3, e4, e5,
      List.cons_append, List.nil_append]

theorem text_toList (es : List FontEntry) :
    (es.foldl (fun acc e => acc ++ "{" ++ "\\f" ++ toString e.num ++ e.style ++ e.charset ++ "\\fprq2 " ++ e.name ++
      ";}\n") "{\\fonttbl" ++ "}").toList = tableChars es := by
  rw [String.toList_append, foldl_entries_toList]
  rfl

theorem fontTableText_toList {ft : List (Nat × String × String × String × String)} {s : String}
    (h : fontTableText ft = .ok s) : ∃ es, fontEntries ft = .ok es ∧ s.toList = tableChars es := by
  unfold fontTableText at h
  split at h
  · cases h
  · rename_i es hes
    cases h
    exact ⟨es, hes, text_toList es⟩

/-- the font table of the source tree as the encoders put it into the head -/
def fontNodes : Except String (List Node) :=
  match fontEntries fontTable with
  | .ok es => pure (textNodes (tableChars es))
  | .error _ => throw "ValueError"

/-- what the encoders do with the font table, on the character form -/
theorem bind_fontTable {α : Type} {f : String → Except String α} {g : List Node → Except String α}
    (h : ∀ s, f s = g (textNodes s.toList)) :
    ((match fontTableText fontTable with
      | .ok s => pure s
      | .error _ => throw "ValueError") >>= f) = fontNodes >>= g := by
  unfold fontNodes fontTableText
  cases fontEntries fontTable with
  | error e => rfl
  | ok es => exact (h _).trans (congrArg (fun cs => g (textNodes cs)) (text_toList es))

theorem encodeWith_eq (measure : Measure) (d : Model.Encode.Doc) : encodeWith measure d = (do
    let k := mkColorCtx d
    let (elems, near) ← encodePages measure k d
    let font ← fontNodes
    let colorTbl ← match generateColorTable colorTable (some k.used) with
      | .ok s => pure s
      | .error _ => throw "ValueError"
    let head : List Node :=
      [cw0 "ansi", Node.nl, cwi "deff" 0, cwi "deflang" 1033, Node.nl] ++ font ++ [Node.nl] ++
      textNodes colorTbl.toList ++ [Node.nl, Node.nl, Node.nl] ++ (← pageHF k "header" d.pageHeader) ++ [Node.nl] ++
      (← pageHF k "footer" d.pageFooter) ++ [Node.nl] ++ (← pageSettings d.page) ++ [Node.nl]
    return ({ head := head, blocks := joinElems elems ++ [BlockG.plain [Node.nl, Node.nl, Node.nl, Node.nl]] }, near)) := by
  unfold encodeWith
  refine bind_congr fun r => ?_
  obtain ⟨elems, near⟩ := r
  exact bind_fontTable fun _ => rfl

theorem preamble_eq (k : ColorCtx) (page : Page) (pageHeader pageFooter : Option TextComp) :
    Model.EncodeMulti.preamble k page pageHeader pageFooter = (do
    let font ← fontNodes
    let colorTbl ← match generateColorTable colorTable (some k.used) with
      | .ok s => pure s
      | .error _ => throw "ValueError"
    return [cw0 "ansi", Node.nl, cwi "deff" 0, cwi "deflang" 1033, Node.nl] ++ font ++ [Node.nl] ++
      textNodes colorTbl.toList ++ [Node.nl, Node.nl, Node.nl] ++ (← pageHF k "header" pageHeader) ++ [Node.nl] ++
      (← pageHF k "footer" pageFooter) ++ [Node.nl] ++ (← pageSettings page) ++ [Node.nl]) :=
  bind_fontTable fun _ => rfl

theorem preambleF_eq (k : ColorCtx) (d : Model.EncodeFigure.FDoc) : Model.EncodeFigure.preambleF k d = (do
    let font ← fontNodes
    let colorTbl ← match generateColorTable colorTable (some k.used) with
      | .ok s => pure s
      | .error _ => throw "ValueError"
    return [cw0 "ansi", Node.nl, cwi "deff" 0, cwi "deflang" 1033] ++ font ++
      textNodes colorTbl.toList ++ [Node.nl] ++ (← pageHF k "header" d.pageHeader) ++
      (← pageHF k "footer" d.pageFooter) ++ (← pageSettings d.page)) :=
  bind_fontTable fun _ => rfl

end Proofs.FontTable
