import Model.Escape
import Model.Emit
import Model.EscNodes
import Proofs.Rtf
import Proofs.Escape
import Proofs.Emit
/-!
Helper lemmas for `Props/C01esc.lean`: the escaper's output as syntax nodes (`Model/EscNodes.lean`) prints to the
escaper's bytes, is a valid text hole and has the `\uc1\uN*` form.
-/
namespace Proofs.EscNodes
open Model.Rtf Model.Emit Model.Escape Model.EscNodes

/-! ### the two decimal printers agree -/

theorem intDigits_agree (k : Int) : (intDigits k).map Char.toNat = intRepr k := by
  rw [(Proofs.Rtf.intDigits_spec k).1, List.map_append, Proofs.Rtf.natDigits_agree, intRepr]
  split <;> rfl

/-! ### the nodes of one code unit / one code point -/

/-- `\uc1\uN*` for one UTF-16 code unit -/
def unitNodes (u : Nat) : List Node := [cwi "uc" 1, cwi "u" (signed16 u), Node.txt ['*']]

theorem escNodesCp_ascii (n : Nat) (h : n < 128) : escNodesCp n = [Node.txt [Char.ofNat n]] := by
  simp [escNodesCp, h]

theorem escNodesCp_high (n : Nat) (h : ¬ n < 128) : escNodesCp n = (codeUnits n).flatMap unitNodes := by
  simp only [escNodesCp, h, if_false]; rfl

theorem escNodes_cons (n : Nat) (t : List Nat) : escNodes (n :: t) = escNodesCp n ++ escNodes t := by
  simp [escNodes]

theorem printNodes_flatMap {α : Type} (l : List α) (f : α → List Node) :
    printNodes (l.flatMap f) = l.flatMap (fun x => printNodes (f x)) := by
  induction l with
  | nil => simp [printNodes]
  | cons x l ih => simp only [List.flatMap_cons, Proofs.Emit.printNodes_append, ih]

theorem print_unit (u : Nat) : (printNodes (unitNodes u)).map Char.toNat = escUnit u := by
  have e1 : "uc".toList = ['u', 'c'] := by decide +kernel
  have e2 : "u".toList = ['u'] := by decide +kernel
  have e3 : intDigits 1 = ['1'] := by decide
  simp only [unitNodes, cwi, printNodes, printNode, e1, e2, e3, escUnit, List.map_append, List.map_cons,
    List.map_nil, intDigits_agree, List.append_nil, List.cons_append, List.nil_append, Bool.false_eq_true, if_false]
  rfl

theorem print_escNodesCp (n : Nat) : (printNodes (escNodesCp n)).map Char.toNat = escapeCp n := by
  by_cases h : n < 128
  · simp [escNodesCp_ascii n h, escapeCp, h, printNodes, printNode, Proofs.AsciiString.toNat_ofNat_ascii n h]
  · rw [escNodesCp_high n h, printNodes_flatMap]
    simp only [escapeCp, h, if_false, List.map_flatMap, print_unit]

theorem print_escNodes (t : List Nat) : (printNodes (escNodes t)).map Char.toNat = escape t := by
  simp only [escNodes, escape, printNodes_flatMap, List.map_flatMap, print_escNodesCp]

theorem safeChar_ofNat (n : Nat) (h : n < 128) (hp : plainCp n = true) : safeChar (Char.ofNat n) = true := by
  simp only [plainCp, Bool.and_eq_true, bne_iff_ne, ne_eq] at hp
  obtain ⟨⟨⟨⟨h1, h2⟩, h3⟩, h4⟩, h5⟩ := hp
  have ht := Proofs.AsciiString.toNat_ofNat_ascii n h
  have key : ∀ c : Char, n ≠ c.toNat → Char.ofNat n ≠ c := by
    intro c hc e
    rw [e] at ht
    exact hc ht.symm
  simp only [safeChar, Bool.and_eq_true, bne_iff_ne, ne_eq]
  exact ⟨⟨⟨⟨key '\\' h1, key '{' h2⟩, key '}' h3⟩, key '\n' h4⟩, key '\r' h5⟩

theorem plain_unit (u : Nat) : plainNodes (unitNodes u) = true := by
  have e1 : tableWord "uc".toList = false := by decide
  have e2 : tableWord "u".toList = false := by decide
  simp only [unitNodes, cwi, plainNodes, plainNode, e1, e2, Bool.not_false, Bool.and_self]

theorem plainNodes_flatMap {α : Type} (l : List α) (f : α → List Node) (h : ∀ x ∈ l, plainNodes (f x) = true) :
    plainNodes (l.flatMap f) = true := by
  induction l with
  | nil => simp [plainNodes]
  | cons x l ih =>
    rw [List.flatMap_cons, Proofs.Emit.plainNodes_append, h x (by simp), ih (fun y hy => h y (by simp [hy]))]
    rfl

theorem plain_escNodesCp (n : Nat) : plainNodes (escNodesCp n) = true := by
  by_cases h : n < 128
  · simp [escNodesCp_ascii n h, plainNodes, plainNode]
  · rw [escNodesCp_high n h]
    exact plainNodes_flatMap _ _ (fun u _ => plain_unit u)

theorem plain_escNodes (t : List Nat) : plainNodes (escNodes t) = true :=
  plainNodes_flatMap _ _ (fun n _ => plain_escNodesCp n)

theorem nodesOk_flatMap {α : Type} (l : List α) (f : α → List Node)
    (h : ∀ x ∈ l, ∀ after, nodesOk (f x) after = true) : ∀ after, nodesOk (l.flatMap f) after = true := by
  induction l with
  | nil => intro after; simp [nodesOk]
  | cons x l ih =>
    intro after
    rw [List.flatMap_cons, Proofs.Emit.nodesOk_append, h x (by simp), ih (fun y hy => h y (by simp [hy]))]
    rfl

theorem nodesOk_unit (u : Nat) (after : Option Char) : nodesOk (unitNodes u) after = true := by
  have e1 : nameOk "uc".toList = true := by decide
  have e2 : nameOk "u".toList = true := by decide
  have e3 : ∀ k : Int, badAfter (some k) '\\' = false := by intro k; simp only [badAfter]; decide
  have e4 : ∀ k : Int, badAfter (some k) '*' = false := by intro k; simp only [badAfter]; decide
  have e6 : nodesOk [] after = true := by simp [nodesOk]
  have e5 : safeChar '*' = true := by decide
  have n2 : Proofs.Emit.nextChar [Node.txt ['*']] after = some '*' := by
    simp [Proofs.Emit.nextChar, printNodes, printNode]
  simp only [unitNodes, cwi, Proofs.Emit.nodesOk_cons, Proofs.Emit.nextChar_cw, n2, nodeOk, e1, e2, e3, e4, e6,
    List.all_cons, List.all_nil, e5, Bool.and_self, Bool.not_false, Bool.or_true]

theorem nodesOk_escNodesCp (n : Nat) (hp : plainCp n = true) (after : Option Char) :
    nodesOk (escNodesCp n) after = true := by
  by_cases h : n < 128
  · simp [escNodesCp_ascii n h, Proofs.Emit.nodesOk_cons, nodeOk, nodesOk, safeChar_ofNat n h hp]
  · rw [escNodesCp_high n h]
    exact nodesOk_flatMap _ _ (fun u _ a => nodesOk_unit u a) after

theorem nodesOk_escNodes (t : List Nat) (hp : ∀ n ∈ t, plainCp n = true) (after : Option Char) :
    nodesOk (escNodes t) after = true :=
  nodesOk_flatMap _ _ (fun n hn a => nodesOk_escNodesCp n (hp n hn) a) after

theorem uFormAux_unit (u : Nat) (hu : u < 65536) (fuel : Nat) (rest : List Node) :
    uFormAux (fuel + 1) (unitNodes u ++ rest) = uFormAux fuel rest := by
  obtain ⟨hlo, hhi⟩ := Proofs.Escape.signed16_range u hu
  simp only [unitNodes, cwi, List.cons_append, List.nil_append, uFormAux, beq_self_eq_true, if_true, hlo, hhi,
    decide_true, Bool.true_and]

theorem uFormAux_units (us : List Nat) (hu : ∀ u ∈ us, u < 65536) : ∀ (fuel : Nat) (rest : List Node),
    uFormAux (fuel + us.length) (us.flatMap unitNodes ++ rest) = uFormAux fuel rest := by
  induction us with
  | nil => intro fuel rest; simp
  | cons u us ih =>
    intro fuel rest
    rw [List.flatMap_cons, List.append_assoc, List.length_cons, ← Nat.add_assoc,
      uFormAux_unit u (hu u (by simp)), ih (fun v hv => hu v (by simp [hv]))]

theorem codeUnits_length (n : Nat) : 1 ≤ (codeUnits n).length := by
  unfold codeUnits; split <;> simp

theorem length_unitNodes (us : List Nat) : (us.flatMap unitNodes).length = 3 * us.length := by
  induction us with
  | nil => simp
  | cons u us ih => simp only [List.flatMap_cons, List.length_append, ih, unitNodes, List.length_cons,
      List.length_nil]; omega

/-- one unit of fuel is spent per text node and per `\uc1\uN*` triple, so the length of the node list is enough fuel -/
theorem uFormAux_escNodes (t : List Nat) (hs : ∀ n ∈ t, isScalar n = true) :
    ∀ fuel, (escNodes t).length ≤ fuel → uFormAux fuel (escNodes t) = true := by
  induction t with
  | nil => intro fuel _; cases fuel <;> simp [escNodes, uFormAux]
  | cons n t ih =>
    intro fuel hf
    have ih' := ih (fun m hm => hs m (by simp [hm]))
    rw [escNodes_cons] at hf ⊢
    by_cases h : n < 128
    · rw [escNodesCp_ascii n h] at hf ⊢
      cases fuel with
      | zero => simp at hf
      | succ f =>
        simp only [List.cons_append, List.nil_append, uFormAux]
        apply ih'
        simp only [List.cons_append, List.nil_append, List.length_cons] at hf
        omega
    · rw [escNodesCp_high n h] at hf ⊢
      have hn : n < 0x110000 := by
        have := hs n (by simp)
        simp only [isScalar, Bool.or_eq_true, Bool.and_eq_true, decide_eq_true_eq] at this
        omega
      have hl := codeUnits_length n
      rw [List.length_append, length_unitNodes] at hf
      obtain ⟨f, rfl⟩ : ∃ f, fuel = f + (codeUnits n).length := ⟨fuel - (codeUnits n).length, by omega⟩
      rw [uFormAux_units _ (Proofs.Escape.codeUnits_lt n hn)]
      apply ih'
      omega

theorem uForm_escNodes (t : List Nat) (hs : ∀ n ∈ t, isScalar n = true) : uForm (escNodes t) = true :=
  uFormAux_escNodes t hs _ (Nat.le_refl _)

end Proofs.EscNodes
