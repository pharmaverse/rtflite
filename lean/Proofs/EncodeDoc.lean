import Model.EncodeMulti
import Proofs.Encode
import Proofs.EncodeTables
/-!
The whole document: `encode measure d = .ok g` and `InDomain d` give `docOk g`.  The head is that of the multi-section
path (`Model.EncodeMulti.preamble`), so the argument about it is given once, for both.
-/
namespace Proofs.EncodeDoc
open Model.Rtf Model.Emit Model.Encode Model.EncodeDomain Model.EncodeMulti Generated
open Proofs.Emit Proofs.Encode Proofs.EncodeTables

theorem ng_nls : ∀ n, NG (List.replicate n Node.nl)
  | 0 => ng_nil
  | n + 1 => ng_cons ng_nl (ng_nls n)

theorem preamble_ok {k : ColorCtx} {page : Page} {ph pf : Option TextComp} {head : List Node}
    (h : preamble k page ph pf = .ok head) (hph : textCompOk ph = true) (hpf : textCompOk pf = true) : NG head := by
  unfold preamble at h
  dsimp only at h
  simp only [pure_bind, throw_bind'] at h
  split at h
  · next fontTbl hfont =>
    split at h
    · next colorTbl hcolor =>
      peel h as hdr hhdr
      peel h as ftr hftr
      peel h as ps hps
      cases pure_ok h
      have h1 : NG [cw0 "ansi", Node.nl, cwi "deff" 0, cwi "deflang" 1033, Node.nl] := ng_closed (by decide +kernel)
      exact ng_append (ng_append (ng_append (ng_append (ng_append (ng_append (ng_append (ng_append (ng_append
        (ng_append h1 (fontTbl_ng _ hfont)) ng_nl) (colorTbl_ng _ _ hcolor)) (ng_nls 3))
        (pageHF_ok hhdr (by decide +kernel) hph)) ng_nl) (pageHF_ok hftr (by decide +kernel) hpf)) ng_nl)
        (pageSettings_ok hps)) ng_nl
    · cases h
  · cases h

/-- a document of good elements under a preamble -/
theorem docOk_of_preamble {k : ColorCtx} {page : Page} {ph pf : Option TextComp} {head : List Node} {elems : List Elem}
    (h : preamble k page ph pf = .ok head) (hph : textCompOk ph = true) (hpf : textCompOk pf = true)
    (he : ∀ e ∈ elems, ElemOk e) :
    docOk { head := head, blocks := joinElems elems ++ [BlockG.plain [Node.nl, Node.nl, Node.nl, Node.nl]] } = true :=
  docOk_of_parts _ _ (preamble_ok h hph hpf) (elemOk_append (joinElems_ok _ he) (elemOk_of_ng (ng_nls 4)))

/-- the single-section encoder builds its head as the multi-section one does -/
theorem encodeWith_preamble (measure : Measure) (d : Doc) : encodeWith measure d = (do
    let k := mkColorCtx d
    let (elems, near) ← encodePages measure k d
    let head ← preamble k d.page d.pageHeader d.pageFooter
    return ({ head := head, blocks := joinElems elems ++ [BlockG.plain [Node.nl, Node.nl, Node.nl, Node.nl]] }, near)) := by
  unfold encodeWith preamble
  refine bind_congr fun r => ?_
  obtain ⟨elems, near⟩ := r
  cases Model.Color.fontTableText fontTable with
  | error e => rfl
  | ok fontTbl =>
    cases Model.Color.generateColorTable colorTable (some (mkColorCtx d).used) with
    | error e => rfl
    | ok colorTbl => simp only [bind_assoc, pure_bind]

theorem encodeWith_docOk {measure : Measure} {d : Doc} {x : DocG × Nat} (h : encodeWith measure d = .ok x)
    (hd : inDomain d = true) : docOk x.1 = true := by
  obtain ⟨_, _, _, _, _, _, _, hph, hpf, _, _⟩ := dom_parts hd
  rw [encodeWith_preamble] at h
  dsimp only at h
  peel h as y hy
  peel h as head hhead
  cases pure_ok h
  exact docOk_of_preamble hhead hph hpf (encodePages_ok (show encodePages measure _ d = .ok (y.1, y.2) from hy) hd)

/-- every document of the domain that the model encoder accepts satisfies the grammar's side condition -/
theorem encode_docOk {measure : Measure} {d : Doc} {g : DocG} (h : encode measure d = .ok g)
    (hd : inDomain d = true) : docOk g = true := by
  unfold encode at h
  obtain ⟨x, hx, rfl⟩ := map_ok h
  exact encodeWith_docOk hx hd

end Proofs.EncodeDoc
