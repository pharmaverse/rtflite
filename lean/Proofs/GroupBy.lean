import Model.GroupBy
import Model.GroupBySpec
/-! `Model.GroupBy` row by row (core Lean only).  Every polars mask and new column is brought to the form
`(List.range n).map f`, which gives the cell of each level after suppression and after `restore_page_context`
(`cellAt_restored`: it is `expectedCell`).  The validator's loop `contig` decides `Contiguous`, so `enhance_group_by`
raises exactly on non-contiguous keys.  Then fill-down per page segment, the page slices of a frame, and the text-key
validator of the older code on separator-free data. -/
namespace Proofs.GroupBy
open Model.GroupBy

/-- all columns have the frame's height -/
def WF (df : Frame) : Prop := ∀ p ∈ df, p.2.length = height df

theorem getCol_cons (n : Str) (c : Col) (f : Frame) (m : Str) :
    getCol ((n, c) :: f) m = if m = n then c else getCol f m := by
  unfold getCol
  by_cases h : m = n
  · subst h; simp [List.lookup]
  · have : (m == n) = false := by simpa using h
    simp [List.lookup, this, h]

theorem getCol_nil (m : Str) : getCol [] m = [] := rfl

theorem mem_names_cons (n : Str) (c : Col) (f : Frame) (m : Str) :
    m ∈ names ((n, c) :: f) ↔ m = n ∨ m ∈ names f := by simp [names]

theorem getCol_of_not_mem (f : Frame) (m : Str) (h : m ∉ names f) : getCol f m = [] := by
  induction f with
  | nil => rfl
  | cons p f ih =>
    obtain ⟨n, c⟩ := p
    rw [mem_names_cons, not_or] at h
    rw [getCol_cons, if_neg h.1, ih h.2]

theorem getCol_mem (f : Frame) (m : Str) (h : m ∈ names f) : (m, getCol f m) ∈ f := by
  induction f with
  | nil => simp [names] at h
  | cons p f ih =>
    obtain ⟨n, c⟩ := p
    rw [getCol_cons]
    by_cases hm : m = n
    · simp [hm]
    · rw [if_neg hm]
      exact List.mem_cons_of_mem _ (ih (((mem_names_cons n c f m).mp h).resolve_left hm))

theorem length_getCol (f : Frame) (wf : WF f) (m : Str) (h : m ∈ names f) :
    (getCol f m).length = height f := wf _ (getCol_mem f m h)

theorem getCol_map_set (f : Frame) (name : Str) (v : Col) (m : Str) :
    getCol (f.map (fun p => if p.1 = name then (p.1, v) else p)) m =
      if m = name ∧ m ∈ names f then v else getCol f m := by
  induction f with
  | nil => simp [getCol_nil, names]
  | cons p f ih =>
    obtain ⟨n, c⟩ := p
    simp only [List.map_cons]
    by_cases hn : n = name
    · subst hn
      simp only [if_true, getCol_cons, ih, mem_names_cons]
      by_cases hm : m = n <;> simp [hm]
    · simp only [hn, if_false, getCol_cons, ih, mem_names_cons]
      by_cases hm : m = n
      · subst hm; simp [hn]
      · simp [hm]

theorem getCol_append_single (f : Frame) (name : Str) (v : Col) (m : Str) :
    getCol (f ++ [(name, v)]) m = if m ∈ names f then getCol f m else if m = name then v else [] := by
  induction f with
  | nil => simp [getCol_cons, getCol_nil, names]
  | cons p f ih =>
    obtain ⟨n, c⟩ := p
    simp only [List.cons_append, getCol_cons, ih, mem_names_cons]
    by_cases hm : m = n <;> simp [hm]

theorem getCol_setCol (f : Frame) (name : Str) (v : Col) (m : Str) :
    getCol (setCol f name v) m = if m = name then v else getCol f m := by
  unfold setCol
  split
  · rename_i h
    rw [getCol_map_set]
    by_cases hm : m = name <;> simp [hm, h]
  · rename_i h
    rw [getCol_append_single]
    by_cases hm : m = name
    · simp [hm, h]
    · by_cases hin : m ∈ names f
      · simp [hm, hin]
      · simp [hm, hin, getCol_of_not_mem f m hin]

theorem names_setCol (f : Frame) (name : Str) (v : Col) (h : name ∈ names f) :
    names (setCol f name v) = names f := by
  unfold setCol
  rw [if_pos h]
  simp only [names, List.map_map]
  apply List.map_congr_left
  intro p _
  simp only [Function.comp]
  split <;> rfl

theorem height_setCol (f : Frame) (name : Str) (v : Col) (h : name ∈ names f)
    (hv : v.length = height f) : height (setCol f name v) = height f := by
  unfold setCol
  rw [if_pos h]
  cases f with
  | nil => simp [names] at h
  | cons p f =>
    simp only [List.map_cons, height]
    split <;> simp [hv, height]

theorem WF_setCol (f : Frame) (name : Str) (v : Col) (h : name ∈ names f)
    (hv : v.length = height f) (wf : WF f) : WF (setCol f name v) := by
  intro p hp
  rw [height_setCol f name v h hv]
  unfold setCol at hp
  rw [if_pos h] at hp
  simp only [List.mem_map] at hp
  obtain ⟨q, hq, rfl⟩ := hp
  split
  · exact hv
  · exact wf q hq

/-! ## the polars expressions, row by row

Every mask and every new column is brought to the form `(List.range n).map f`, `f` giving the value at
row `i`; `zipWith` of two such lists is again one. -/

theorem cellAt_of_lt (c : Col) (i : Nat) (h : i < c.length) : c[i]? = some (cellAt c i) := by
  simp [cellAt, List.getElem?_eq_getElem h]

theorem cellAt_of_ge (c : Col) (i : Nat) (h : c.length ≤ i) : cellAt c i = none := by
  simp [cellAt, List.getElem?_eq_none h]

theorem col_eq_range_map (c : Col) : c = (List.range c.length).map (cellAt c) := by
  apply List.ext_getElem?
  intro i
  by_cases h : i < c.length
  · rw [List.getElem?_map, List.getElem?_range h, cellAt_of_lt c i h]; rfl
  · rw [List.getElem?_eq_none (Nat.le_of_not_lt h), List.getElem?_eq_none (by simpa using Nat.le_of_not_lt h)]

theorem cellAt_range_map (n : Nat) (f : Nat → Cell) (i : Nat) (h : i < n) :
    cellAt ((List.range n).map f) i = f i := by
  simp [cellAt, h]

theorem zipWith_range_map {α β γ : Type} (g : α → β → γ) (f : Nat → α) (f' : Nat → β) (n : Nat) :
    List.zipWith g ((List.range n).map f) ((List.range n).map f') =
      (List.range n).map fun i => g (f i) (f' i) := by
  rw [List.zipWith_map, List.zipWith_self]

/-- the value a row is compared with: the previous row's, null for row 0 -/
def prevCell (c : Col) (i : Nat) : Cell := if i = 0 then none else cellAt c (i - 1)

theorem shift1_eq (c : Col) : shift1 c = (List.range c.length).map (prevCell c) := by
  apply List.ext_getElem?
  intro i
  unfold shift1 prevCell
  rw [List.getElem?_take, List.getElem?_map]
  by_cases h : i < c.length
  · rw [if_pos h, List.getElem?_range h]
    cases i with
    | zero => rfl
    | succ k => simp [cellAt_of_lt c k (by omega)]
  · rw [if_neg h, List.getElem?_eq_none (by simpa using h)]; rfl

/-- a level's value changed against the previous row (row 0 compares with null) -/
def chg (df : Frame) (h : Str) (i : Nat) : Bool :=
  decide (cellAt (getCol df h) i ≠ prevCell (getCol df h) i)

theorem changed_eq (df : Frame) (h : Str) :
    changed (getCol df h) = (List.range (getCol df h).length).map (chg df h) := by
  rw [changed, neMissing, shift1_eq]
  conv => lhs; arg 2; rw [col_eq_range_map (getCol df h)]
  exact zipWith_range_map _ _ _ _

theorem foldl_orMask_range_map {ι : Type} (n : Nat) (g : ι → Nat → Bool) (js : List ι) :
    ∀ b0 : Nat → Bool, (js.map fun j => (List.range n).map (g j)).foldl orMask ((List.range n).map b0) =
      (List.range n).map fun i => b0 i || js.any (g · i) := by
  induction js with
  | nil => intro b0; simp
  | cons j js ih =>
    intro b0
    rw [List.map_cons, List.foldl_cons, orMask, zipWith_range_map, ih]
    simp [Bool.or_assoc]

theorem showMask_eq (df : Frame) (wf : WF df) (higher : List Str) (column : Str)
    (hsub : ∀ h ∈ higher ++ [column], h ∈ names df) :
    showMask df higher column =
      (List.range (height df)).map fun i => i == 0 || (higher ++ [column]).any (chg df · i) := by
  have hc : (higher.map fun h => changed (getCol df h)) ++ [changed (getCol df column)] =
      (higher ++ [column]).map fun h => (List.range (height df)).map (chg df h) := by
    rw [← List.map_singleton (f := fun h => changed (getCol df h)), ← List.map_append]
    apply List.map_congr_left
    intro h hm
    rw [changed_eq, length_getCol df wf h (hsub h hm)]
  rw [showMask, hc, row0]
  exact foldl_orMask_range_map _ _ _ _

theorem levelValues_eq (df : Frame) (wf : WF df) (gb : List Str) (hsub : ∀ g ∈ gb, g ∈ names df)
    (l : Nat) (hl : l < gb.length) :
    levelValues df gb l gb[l] = (List.range (height df)).map fun i =>
      if i == 0 || (gb.take (l + 1)).any (chg df · i) then cellAt (getCol df gb[l]) i else none := by
  have htake : gb.take l ++ [gb[l]] = gb.take (l + 1) := (List.take_succ_eq_append_getElem hl).symm
  rw [levelValues, whenThen,
    showMask_eq df wf _ _ (by rw [htake]; exact fun h hh => hsub h (List.mem_of_mem_take hh)), htake]
  conv => lhs; arg 3; rw [col_eq_range_map (getCol df gb[l]), length_getCol df wf _ (hsub _ (List.getElem_mem hl))]
  exact zipWith_range_map _ _ _ _

theorem length_levelValues (df : Frame) (wf : WF df) (gb : List Str) (hsub : ∀ g ∈ gb, g ∈ names df)
    (l : Nat) (hl : l < gb.length) : (levelValues df gb l gb[l]).length = height df := by
  rw [levelValues_eq df wf gb hsub l hl, List.length_map, List.length_range]

/-! ## the loop over levels as a sequence of column updates -/

def applyUps (f : Frame) (ups : List (Str × Col)) : Frame := ups.foldl (fun r p => setCol r p.1 p.2) f

theorem suppressHier_eq (df : Frame) (gb : List Str) :
    suppressHier df gb = applyUps df (gb.zipIdx.map (fun p => (p.1, levelValues df gb p.2 p.1))) := by
  simp [suppressHier, applyUps, List.foldl_map]

theorem names_applyUps (ups : List (Str × Col)) (f : Frame) (h : ∀ p ∈ ups, p.1 ∈ names f) :
    names (applyUps f ups) = names f := by
  apply List.foldlRecOn (motive := fun r => names r = names f) ups _ rfl
  intro r hr u hu
  rw [names_setCol r u.1 u.2 (hr ▸ h u hu), hr]

theorem getCol_applyUps_other (ups : List (Str × Col)) (m : Str) (hm : ∀ p ∈ ups, p.1 ≠ m) (f : Frame) :
    getCol (applyUps f ups) m = getCol f m := by
  apply List.foldlRecOn (motive := fun r => getCol r m = getCol f m) ups _ rfl
  intro r hr u hu
  rw [getCol_setCol, if_neg (fun e => hm u hu e.symm), hr]

theorem getCol_applyUps_mem (ups : List (Str × Col)) (hnd : (ups.map (·.1)).Nodup) (m : Str) (v : Col)
    (hmem : (m, v) ∈ ups) : ∀ f : Frame, getCol (applyUps f ups) m = v := by
  induction ups with
  | nil => simp at hmem
  | cons u ups ih =>
    intro f
    simp only [List.map_cons, List.nodup_cons] at hnd
    rcases List.mem_cons.mp hmem with h | h
    · subst h
      have := getCol_applyUps_other ups m (fun p hp e => hnd.1 (e ▸ List.mem_map_of_mem (f := (·.1)) hp))
        (setCol f m v)
      rw [applyUps, List.foldl_cons, ← applyUps, this, getCol_setCol, if_pos rfl]
    · exact ih hnd.2 h (setCol f u.1 u.2)

theorem getCol_suppressHier_level (df : Frame) (gb : List Str) (hnd : gb.Nodup) (l : Nat)
    (hl : l < gb.length) :
    getCol (suppressHier df gb) gb[l] = levelValues df gb l gb[l] := by
  rw [suppressHier_eq]
  apply getCol_applyUps_mem
  · rw [List.map_map]
    exact (List.zipIdx_map_fst 0 gb).symm ▸ hnd
  · apply List.mem_map.mpr
    refine ⟨(gb[l], l), ?_, rfl⟩
    rw [List.mem_iff_getElem?]
    exact ⟨l, by simp [hl]⟩

theorem mem_of_mem_levelUps (df : Frame) (gb : List Str) (p : Str × Col)
    (hp : p ∈ gb.zipIdx.map (fun p => (p.1, levelValues df gb p.2 p.1))) : p.1 ∈ gb := by
  obtain ⟨q, hq, rfl⟩ := List.mem_map.mp hp
  have := List.mem_map_of_mem (f := Prod.fst) hq
  rwa [List.zipIdx_map_fst] at this

theorem getCol_suppressHier_other (df : Frame) (gb : List Str) (m : Str) (hm : m ∉ gb) :
    getCol (suppressHier df gb) m = getCol df m := by
  rw [suppressHier_eq]
  exact getCol_applyUps_other _ m (fun p hp e => hm (e ▸ mem_of_mem_levelUps df gb p hp)) df

theorem names_suppressHier (df : Frame) (gb : List Str) (hsub : ∀ g ∈ gb, g ∈ names df) :
    names (suppressHier df gb) = names df := by
  rw [suppressHier_eq]
  exact names_applyUps _ df (fun p hp => hsub _ (mem_of_mem_levelUps df gb p hp))

theorem orMask_comm (a b : List Bool) : orMask a b = orMask b a := by
  unfold orMask
  rw [List.zipWith_comm]
  congr 1
  funext x y
  exact Bool.or_comm y x

/-- with a single group column both code paths compute the same frame -/
theorem suppressSingle_eq_hier (df : Frame) (column : Str) :
    suppressSingle df column = suppressHier df [column] := by
  simp [suppressSingle, suppressHier, levelValues, showMask, List.zipIdx_cons,
    orMask_comm (changed (getCol df column))]

theorem cellAt_set (c : Col) (idx : Nat) (a : Cell) (i : Nat) :
    cellAt (c.set idx a) i = if i = idx ∧ idx < c.length then a else cellAt c i := by
  unfold cellAt
  rw [List.getElem?_set]
  by_cases h : idx = i
  · subst h
    by_cases hl : idx < c.length <;> simp [hl]
  · have : ¬ i = idx := fun e => h e.symm
    simp [h, this]

theorem getCol_restoreCols (orig : Frame) (idx : Nat) (gb : List Str) (m : Str) :
    ∀ res : Frame,
      getCol (gb.foldl (fun r col => setCol r col ((getCol r col).set idx (cellAt (getCol orig col) idx))) res) m
        = if m ∈ gb then (getCol res m).set idx (cellAt (getCol orig m) idx) else getCol res m := by
  induction gb with
  | nil => intro res; simp
  | cons g gb ih =>
    intro res
    simp only [List.foldl_cons]
    rw [ih, getCol_setCol]
    by_cases hmg : m = g
    · subst hmg
      by_cases hin : m ∈ gb <;> simp [hin, List.set_set]
    · by_cases hin : m ∈ gb <;> simp [hin, hmg]

theorem getCol_restoreOne (orig : Frame) (gb : List Str) (res : Frame) (idx : Nat) (m : Str) :
    getCol (restoreOne orig gb res idx) m =
      if m ∈ gb ∧ idx < height orig then (getCol res m).set idx (cellAt (getCol orig m) idx)
      else getCol res m := by
  unfold restoreOne
  by_cases h : idx < height orig
  · simp only [h, if_true, and_true]; exact getCol_restoreCols orig idx gb m res
  · simp [h]

theorem names_restoreOne (orig : Frame) (gb : List Str) (res : Frame) (idx : Nat)
    (h : ∀ g ∈ gb, g ∈ names res) : names (restoreOne orig gb res idx) = names res := by
  unfold restoreOne
  split
  · apply List.foldlRecOn (motive := fun r => names r = names res) gb _ rfl
    intro r hr g hg
    rw [names_setCol r g _ (hr ▸ h g hg), hr]
  · rfl

/-- the two early exits of `restore_page_context` return what the loop would -/
theorem restorePageContext_eq (sup orig : Frame) (gb : List Str) (starts : List Nat) :
    restorePageContext sup orig gb starts = starts.foldl (restoreOne orig gb) sup := by
  unfold restorePageContext
  split
  · rename_i h
    simp only [Bool.or_eq_true, decide_eq_true_eq] at h
    rcases h with rfl | rfl
    · symm
      apply List.foldlRecOn (motive := (· = sup)) starts _ rfl
      rintro r rfl s _
      unfold restoreOne
      split <;> rfl
    · rfl
  · rfl

/-- pointwise effect of `restore_page_context` on a group column -/
theorem cellAt_restorePageContext (sup orig : Frame) (gb : List Str) (starts : List Nat) (m : Str)
    (hm : m ∈ gb) (i : Nat) :
    cellAt (getCol (restorePageContext sup orig gb starts) m) i =
      if i ∈ starts ∧ i < height orig ∧ i < (getCol sup m).length then cellAt (getCol orig m) i
      else cellAt (getCol sup m) i := by
  rw [restorePageContext_eq]
  induction starts generalizing sup with
  | nil => simp
  | cons s starts ih =>
    simp only [List.foldl_cons]
    rw [ih, getCol_restoreOne]
    by_cases hs : s < height orig
    · simp only [hm, hs, and_self, if_true, List.length_set, cellAt_set, List.mem_cons]
      by_cases his : i = s
      · subst his
        by_cases hl : i < (getCol sup m).length <;> simp [hl, hs]
      · simp [his]
    · simp only [hs, and_false, if_false, List.mem_cons]
      by_cases his : i = s
      · subst his; simp [hs]
      · simp [his]

theorem getCol_restorePageContext_other (sup orig : Frame) (gb : List Str) (starts : List Nat) (m : Str)
    (hm : m ∉ gb) : getCol (restorePageContext sup orig gb starts) m = getCol sup m := by
  rw [restorePageContext_eq]
  apply List.foldlRecOn (motive := fun r => getCol r m = getCol sup m) starts _ rfl
  intro r hr s _
  rw [getCol_restoreOne, if_neg (fun h => hm h.1), hr]

theorem length_getCol_restore (sup orig : Frame) (gb : List Str) (starts : List Nat) (m : Str) :
    (getCol (restorePageContext sup orig gb starts) m).length = (getCol sup m).length := by
  rw [restorePageContext_eq]
  apply List.foldlRecOn (motive := fun r => (getCol r m).length = (getCol sup m).length) starts _ rfl
  intro r hr s _
  rw [getCol_restoreOne]
  split <;> simp [hr]

theorem names_restorePageContext (sup orig : Frame) (gb : List Str) (starts : List Nat)
    (h : ∀ g ∈ gb, g ∈ names sup) : names (restorePageContext sup orig gb starts) = names sup := by
  rw [restorePageContext_eq]
  apply List.foldlRecOn (motive := fun r => names r = names sup) starts _ rfl
  intro r hr s _
  rw [names_restoreOne orig gb r s (hr ▸ h), hr]

/-! ## putting the cell clause together -/

theorem any_missing_eq_false (df : Frame) (gb : List Str) (hsub : ∀ g ∈ gb, g ∈ names df) :
    (gb.any fun c => !(names df).contains c) = false := by
  rw [List.any_eq_false]
  intro g hg
  simpa using hsub g hg

/-- past its two early exits `enhance_group_by` is the validator's verdict, then the suppression (with a single group
column by the other code path, which computes the same frame) -/
theorem enhance_eq (df : Frame) (gb : List Str) (h0 : (gb = [] || height df = 0) = false)
    (h1 : (gb.any fun c => !(names df).contains c) = false) :
    enhanceGroupBy df gb = (validateDataSorting df gb).map fun _ => suppressHier df gb := by
  unfold enhanceGroupBy
  rw [if_neg (by rw [h0]; exact Bool.false_ne_true), if_neg (by rw [h1]; exact Bool.false_ne_true)]
  rcases validateDataSorting df gb with e | ⟨⟨⟩⟩
  · rfl
  · show (match gb with
      | [column] => Except.ok (suppressSingle df column)
      | _ => Except.ok (suppressHier df gb)) = .ok (suppressHier df gb)
    split
    · rw [suppressSingle_eq_hier]
    · rfl

theorem enhance_ok (df : Frame) (gb : List Str) (s : Frame) (h : enhanceGroupBy df gb = .ok s) :
    (gb = [] ∨ height df = 0) ∧ s = df ∨
    (gb ≠ [] ∧ height df ≠ 0 ∧ (∀ g ∈ gb, g ∈ names df) ∧ validateDataSorting df gb = .ok () ∧
      s = suppressHier df gb) := by
  by_cases h0 : (gb = [] || height df = 0) = true
  · unfold enhanceGroupBy at h
    rw [if_pos h0] at h
    exact Or.inl ⟨by simpa using h0, (Except.ok.inj h).symm⟩
  · by_cases h1 : (gb.any fun c => !(names df).contains c) = true
    · unfold enhanceGroupBy at h
      rw [if_neg h0, if_pos h1] at h
      cases h
    · rw [enhance_eq df gb (by simpa using h0) (by simpa using h1)] at h
      have h0' : gb ≠ [] ∧ height df ≠ 0 := by simpa using h0
      rcases hv : validateDataSorting df gb with e | ⟨⟨⟩⟩
      · rw [hv] at h; cases h
      · rw [hv] at h
        exact Or.inr ⟨h0'.1, h0'.2, by simpa using h1, rfl, (Except.ok.inj h).symm⟩

theorem hkey_map (df : Frame) (gb : List Str) (l i : Nat) :
    hkey (gb.map (getCol df)) l i = (gb.take (l + 1)).map (fun g => cellAt (getCol df g) i) := by
  simp only [hkey, List.map_take, List.map_map]
  rfl

theorem isRepeat_iff (gcols : List Col) (l i : Nat) :
    isRepeat gcols l i = true ↔ 0 < i ∧ hkey gcols l i = hkey gcols l (i - 1) := by
  simp [isRepeat]

theorem isPageStart_eq_false_iff (starts : List Nat) (i : Nat) :
    isPageStart starts i = false ↔ i ≠ 0 ∧ i ∉ starts := by
  simp [isPageStart]

theorem expectedCell_of_blank (gcols : List Col) (starts : List Nat) (l i : Nat)
    (h : isRepeat gcols l i = true ∧ isPageStart starts i = false) :
    expectedCell gcols starts l i = none := by
  simp [expectedCell, h]

theorem expectedCell_of_shown (gcols : List Col) (starts : List Nat) (l i : Nat)
    (h : ¬ (isRepeat gcols l i = true ∧ isPageStart starts i = false)) :
    expectedCell gcols starts l i = cellAt (gcols.getD l []) i := by
  rw [expectedCell, if_neg (by simpa using h)]

theorem getD_groupCols (df : Frame) (gb : List Str) (l : Nat) (hl : l < gb.length) :
    (gb.map (getCol df)).getD l [] = getCol df gb[l] := by
  simp [List.getD, hl]

theorem expectedCell_eq (df : Frame) (gb : List Str) (starts : List Nat) (l : Nat) (hl : l < gb.length)
    (i : Nat) :
    expectedCell (gb.map (getCol df)) starts l i =
      if isRepeat (gb.map (getCol df)) l i && !isPageStart starts i then none
      else cellAt (getCol df gb[l]) i := by
  rw [expectedCell, getD_groupCols df gb l hl]

theorem any_chg_eq (df : Frame) (gs : List Str) (i : Nat) (hi : 0 < i) :
    gs.any (fun h => chg df h i) =
      !decide (gs.map (fun g => cellAt (getCol df g) i) = gs.map (fun g => cellAt (getCol df g) (i - 1))) := by
  induction gs with
  | nil => simp
  | cons g gs ih =>
    simp only [List.any_cons, ih, List.map_cons, List.cons.injEq]
    have : chg df g i = !decide (cellAt (getCol df g) i = cellAt (getCol df g) (i - 1)) := by
      simp [chg, prevCell, Nat.ne_of_gt hi]
    rw [this]
    by_cases h1 : cellAt (getCol df g) i = cellAt (getCol df g) (i - 1) <;> simp [h1]

theorem shown_eq_not_isRepeat (df : Frame) (gb : List Str) (l i : Nat) :
    (i == 0 || (gb.take (l + 1)).any (chg df · i)) = !isRepeat (gb.map (getCol df)) l i := by
  unfold isRepeat
  cases i with
  | zero => rfl
  | succ k => rw [any_chg_eq df _ _ (Nat.succ_pos k), hkey_map, hkey_map]; simp

theorem cellAt_suppressHier (df : Frame) (wf : WF df) (gb : List Str) (hnd : gb.Nodup)
    (hsub : ∀ g ∈ gb, g ∈ names df) (l : Nat) (hl : l < gb.length) (i : Nat) (hi : i < height df) :
    cellAt (getCol (suppressHier df gb) gb[l]) i =
      if isRepeat (gb.map (getCol df)) l i then none else cellAt (getCol df gb[l]) i := by
  rw [getCol_suppressHier_level df gb hnd l hl, levelValues_eq df wf gb hsub l hl,
    cellAt_range_map _ _ i hi, shown_eq_not_isRepeat]
  cases isRepeat (gb.map (getCol df)) l i <;> rfl

/-- **cell clause**: every group cell of the restored frame is what the specification demands -/
theorem cellAt_restored (df : Frame) (wf : WF df) (gb : List Str) (hnd : gb.Nodup) (starts : List Nat)
    (s : Frame) (h : enhanceGroupBy df gb = .ok s) (l : Nat) (hl : l < gb.length) (i : Nat)
    (hi : i < height df) :
    cellAt (getCol (restorePageContext s df gb starts) gb[l]) i =
      expectedCell (gb.map (getCol df)) starts l i := by
  rcases enhance_ok df gb s h with ⟨h0, _⟩ | ⟨_, _, hsub, _, hs⟩
  · rcases h0 with h0 | h0
    · subst h0; simp at hl
    · omega
  · subst hs
    rw [cellAt_restorePageContext _ _ _ _ _ (List.getElem_mem hl), getCol_suppressHier_level df gb hnd l hl,
      length_levelValues df wf gb hsub l hl, ← getCol_suppressHier_level df gb hnd l hl,
      cellAt_suppressHier df wf gb hnd hsub l hl i hi, expectedCell_eq df gb starts l hl]
    unfold isPageStart
    by_cases hst : i ∈ starts
    · simp [hst, hi]
    · by_cases h0 : i = 0
      · subst h0; simp [isRepeat]
      · simp [hst, h0]

/-- columns not named in `group_by` come through suppression and restoration as they were -/
theorem getCol_restored_other (df : Frame) (gb : List Str) (starts : List Nat) (s : Frame)
    (h : enhanceGroupBy df gb = .ok s) (m : Str) (hm : m ∉ gb) :
    getCol (restorePageContext s df gb starts) m = getCol df m := by
  rw [getCol_restorePageContext_other _ _ _ _ _ hm]
  rcases enhance_ok df gb s h with ⟨_, hs⟩ | ⟨_, _, _, _, hs⟩
  · rw [hs]
  · rw [hs, getCol_suppressHier_other df gb m hm]

/-! ## contiguity: the validator's loop decides the specification -/

section Contig
variable {α : Type} [DecidableEq α]

theorem contigB_cons (v : α) (vs : List α) :
    contigB (v :: vs) = true ↔ (v ∈ vs → vs.head? = some v) ∧ contigB vs = true := by
  simp only [contigB, Bool.and_eq_true, decide_eq_true_eq]

theorem contigB_cons_self (v : α) (vs : List α) : contigB (v :: v :: vs) = contigB (v :: vs) := by
  simp [contigB]

theorem contigB_cons_ne (cur v : α) (vs : List α) (h : v ≠ cur) :
    contigB (cur :: v :: vs) = true ↔ cur ∉ vs ∧ contigB (v :: vs) = true := by
  have : ¬ cur = v := fun e => h e.symm
  rw [contigB_cons cur]
  simp [this, h]

/-- the loop with current value `cur` and the values met so far `seen`: the rest `vs` is accepted iff it is
contiguous after `cur` and brings back no earlier value other than `cur` -/
theorem contigAux_iff (vs : List α) : ∀ (cur : α) (seen : List α), cur ∈ seen →
    (contigAux cur seen vs = true ↔
      contigB (cur :: vs) = true ∧ ∀ x ∈ seen, x ≠ cur → x ∉ vs) := by
  induction vs with
  | nil => intro cur seen _; simp [contigAux, contigB]
  | cons v vs ih =>
    intro cur seen hcur
    unfold contigAux
    by_cases hv : v = cur
    · subst hv
      rw [if_neg (by simp), ih v seen hcur, contigB_cons_self]
      simp only [List.mem_cons, not_or]
      exact and_congr_right fun _ => forall₂_congr fun x _ =>
        ⟨fun h hne => ⟨hne, h hne⟩, fun h hne => (h hne).2⟩
    · rw [if_pos hv]
      by_cases hs : v ∈ seen
      · -- `v` was seen before and is met again after `cur`
        rw [if_pos hs]
        simp only [Bool.false_eq_true, false_iff, not_and]
        exact fun _ hall => hall v hs hv List.mem_cons_self
      · rw [if_neg hs, ih v (v :: seen) List.mem_cons_self, contigB_cons_ne cur v vs hv]
        simp only [List.mem_cons, forall_eq_or_imp, ne_eq, not_true_eq_false, false_imp_iff, true_and, not_or]
        constructor
        · rintro ⟨h1, h2⟩
          have hc : ¬ cur = v := fun e => hv e.symm
          exact ⟨⟨h2 cur hcur hc, h1⟩, fun x hx _ => ⟨fun e => hs (e ▸ hx), h2 x hx fun e => hs (e ▸ hx)⟩⟩
        · rintro ⟨⟨h1, h2⟩, h3⟩
          refine ⟨h2, fun x hx _ => ?_⟩
          by_cases hxc : x = cur
          · exact hxc ▸ h1
          · exact (h3 x hx hxc).2

/-- the loop of `validate_data_sorting` accepts exactly the contiguous sequences -/
theorem contig_eq_contigB (ks : List α) : contig ks = contigB ks := by
  cases ks with
  | nil => rfl
  | cons v vs =>
    have := contigAux_iff vs v [v] (by simp)
    simp only [List.mem_singleton, ne_eq, forall_eq, not_true_eq_false, false_imp_iff, and_true] at this
    exact Bool.eq_iff_iff.mpr this

omit [DecidableEq α] in
/-- a sequence is contiguous iff its tail is and its head, should it occur again, occurs next -/
theorem contiguous_cons (v : α) (vs : List α) :
    Contiguous (v :: vs) ↔ (v ∈ vs → vs.head? = some v) ∧ Contiguous vs := by
  constructor
  · intro h
    refine ⟨fun hin => ?_, fun pre mid post a e => h (v :: pre) mid post a (by rw [e]; rfl)⟩
    obtain ⟨s, t, e⟩ := List.append_of_mem hin
    cases s with
    | nil => simp [e]
    | cons a s =>
      have := h [] (a :: s) t v (by rw [e]; rfl) a (by simp)
      simp [e, this]
  · rintro ⟨h1, h2⟩ pre mid post a e x hx
    cases pre with
    | cons p pre =>
      simp only [List.cons_append, List.cons.injEq] at e
      exact h2 pre mid post a e.2 x hx
    | nil =>
      simp only [List.nil_append, List.cons.injEq] at e
      obtain ⟨rfl, e⟩ := e
      -- `v` occurs in `vs = mid ++ v :: post`, so `vs` starts with `v`; the rest of `mid` lies between two `v` of `vs`
      cases mid with
      | nil => simp at hx
      | cons m mid =>
        have hhead := h1 (by rw [e]; simp)
        rw [e] at hhead
        simp only [List.cons_append, List.head?_cons, Option.some.injEq] at hhead
        subst hhead
        rcases List.mem_cons.mp hx with hx | hx
        · exact hx
        · exact h2 [] mid post m (by rw [e]; rfl) x hx

/-- the structural form and the statement form agree -/
theorem contigB_iff (ks : List α) : contigB ks = true ↔ Contiguous ks := by
  induction ks with
  | nil => exact ⟨fun _ pre mid post a e => by cases pre <;> simp at e, fun _ => rfl⟩
  | cons v vs ih => rw [contigB_cons, contiguous_cons, ih]

theorem contiguous_of_contigB (ks : List α) (h : contigB ks = true) : Contiguous ks := (contigB_iff ks).mp h

theorem contigB_of_contiguous (ks : List α) (h : Contiguous ks) : contigB ks = true := (contigB_iff ks).mpr h

theorem contig_iff (ks : List α) : contig ks = true ↔ Contiguous ks := by
  rw [contig_eq_contigB, contigB_iff]

omit [DecidableEq α] in
theorem contiguous_map_injOn {β : Type} (f : α → β) (ks : List α)
    (hf : ∀ a ∈ ks, ∀ b ∈ ks, f a = f b → a = b) : Contiguous (ks.map f) ↔ Contiguous ks := by
  constructor
  · intro h pre mid post a e x hx
    have := h (pre.map f) (mid.map f) (post.map f) (f a) (by rw [e]; simp) (f x)
      (List.mem_map_of_mem hx)
    exact hf x (by rw [e]; simp [hx]) a (by rw [e]; simp) this
  · intro h pre mid post b e y hy
    -- split ks along the image
    obtain ⟨pre', r1, rfl, rfl, e1⟩ := List.map_eq_append_iff.mp e
    obtain ⟨a, r2, rfl, rfl, e2⟩ := List.map_eq_cons_iff.mp e1
    obtain ⟨mid', r3, rfl, rfl, e3⟩ := List.map_eq_append_iff.mp e2
    obtain ⟨a', post', rfl, ha', rfl⟩ := List.map_eq_cons_iff.mp e3
    have haa : a' = a := hf a' (by simp) a (by simp) ha'
    subst haa
    obtain ⟨x, hx, rfl⟩ := List.mem_map.mp hy
    rw [h pre' mid' post' a' rfl x hx]

end Contig

/-! ## the validator against the specification -/

theorem eraseDups_of_nodup (l : List Str) (h : l.Nodup) : l.eraseDups = l := by
  induction l with
  | nil => simp
  | cons a l ih =>
    simp only [List.nodup_cons] at h
    rw [List.eraseDups_cons]
    have : l.filter (fun b => !b == a) = l := by
      rw [List.filter_eq_self]
      intro b hb
      have : b ≠ a := fun e => h.1 (e ▸ hb)
      simpa using this
    rw [this, ih h.2]

/-- keys of all rows at level `l` (the sequence whose contiguity the property speaks about) -/
def keysAt (df : Frame) (gb : List Str) (l : Nat) : List (List Cell) :=
  (List.range (height df)).map (hkey (gb.map (getCol df)) l)

theorem tuples_eq_keysAt (df : Frame) (gb : List Str) (l : Nat) :
    tuples df (gb.take (l + 1)) = keysAt df gb l := by
  unfold tuples keysAt
  apply List.map_congr_left
  intro i _
  rw [hkey_map]

theorem levelOk_iff (df : Frame) (wf : WF df) (gb : List Str) (hsub : ∀ g ∈ gb, g ∈ names df)
    (l : Nat) (hl : l < gb.length) :
    levelOk df gb l = true ↔ Contiguous (keysAt df gb l) := by
  unfold levelOk
  by_cases h0 : l = 0
  · subst h0
    cases gb with
    | nil => simp at hl
    | cons g gb =>
      -- level 0 is judged on the bare values; the key of a row is the one-element list of its value
      have hk : keysAt df (g :: gb) 0 = (getCol df g).map (fun x => [x]) := by
        conv => rhs; rw [col_eq_range_map (getCol df g), length_getCol df wf g (hsub g (by simp))]
        simp [keysAt, hkey]
      rw [if_pos rfl, contig_iff, List.headD_cons, hk,
        contiguous_map_injOn (fun x : Cell => [x]) _ (fun a _ b _ e => by simpa using e)]
  · rw [if_neg h0, contig_iff, tuples_eq_keysAt]

/-- past its early exits the validator is the conjunction of the level checks on `gb.eraseDups` -/
theorem validate_eq (df : Frame) (gb : List Str) (h0 : (gb = [] || height df = 0) = false)
    (h1 : (gb.any fun c => !(names df).contains c) = false) :
    validateDataSorting df gb =
      if (List.range gb.eraseDups.length).all (levelOk df gb.eraseDups) then .ok () else .error .valueError := by
  obtain ⟨hne, hh⟩ : gb ≠ [] ∧ height df ≠ 0 := by simpa using h0
  have h1' : (gb.eraseDups.any fun c => !(names df).contains c) = false := by
    rw [List.any_eq_false] at h1 ⊢
    exact fun c hc => h1 c (List.mem_eraseDups.mp hc)
  unfold validateDataSorting
  simp only [hh, hne, if_false, h1', Bool.false_eq_true]

/-- the validator works on `gb.eraseDups`: it accepts iff every prefix level of that key is contiguous -/
theorem validate_ok_iff_eraseDups (df : Frame) (wf : WF df) (gb : List Str)
    (hsub : ∀ g ∈ gb, g ∈ names df) (hne : gb ≠ []) (hh : height df ≠ 0) :
    validateDataSorting df gb = .ok () ↔
      ∀ l, l < gb.eraseDups.length → Contiguous (keysAt df gb.eraseDups l) := by
  have hsub' : ∀ g ∈ gb.eraseDups, g ∈ names df := fun g hg => hsub g (List.mem_eraseDups.mp hg)
  have hall : (List.range gb.eraseDups.length).all (levelOk df gb.eraseDups) = true ↔
      ∀ l, l < gb.eraseDups.length → Contiguous (keysAt df gb.eraseDups l) := by
    simp only [List.all_eq_true, List.mem_range]
    exact forall_congr' fun l => imp_congr_right (levelOk_iff df wf _ hsub' l)
  rw [validate_eq df gb (by simp [hne, hh]) (any_missing_eq_false df gb hsub), ← hall]
  split <;> simp [*]

/-- the validator accepts iff every prefix level of the group key is contiguous -/
theorem validate_ok_iff (df : Frame) (wf : WF df) (gb : List Str) (hnd : gb.Nodup)
    (hsub : ∀ g ∈ gb, g ∈ names df) (hne : gb ≠ []) (hh : height df ≠ 0) :
    validateDataSorting df gb = .ok () ↔ ∀ l, l < gb.length → Contiguous (keysAt df gb l) := by
  rw [validate_ok_iff_eraseDups df wf gb hsub hne hh, eraseDups_of_nodup gb hnd]

theorem validate_error_is_valueError (df : Frame) (gb : List Str) (e : Err)
    (_h : validateDataSorting df gb = .error e) : e = .valueError := by
  cases e; rfl

theorem error_iff_not_ok (r : Except Err Unit) : r = .error .valueError ↔ ¬ r = .ok () := by
  rcases r with ⟨⟨⟩⟩ | ⟨⟨⟩⟩ <;> simp

/-- on a non-empty frame with known group columns `enhance_group_by` fails exactly when the validator does -/
theorem enhance_error_iff_validate (df : Frame) (gb : List Str) (hsub : ∀ g ∈ gb, g ∈ names df)
    (hne : gb ≠ []) (hh : height df ≠ 0) :
    enhanceGroupBy df gb = .error .valueError ↔ ¬ validateDataSorting df gb = .ok () := by
  rw [← error_iff_not_ok, enhance_eq df gb (by simp [hne, hh]) (any_missing_eq_false df gb hsub)]
  rcases validateDataSorting df gb with ⟨⟨⟩⟩ | ⟨⟨⟩⟩ <;> simp [Except.map]

/-- **rejection clause** -/
theorem enhance_error_iff (df : Frame) (wf : WF df) (gb : List Str) (hnd : gb.Nodup)
    (hsub : ∀ g ∈ gb, g ∈ names df) (hne : gb ≠ []) (hh : height df ≠ 0) :
    enhanceGroupBy df gb = .error .valueError ↔ ¬ ∀ l, l < gb.length → Contiguous (keysAt df gb l) := by
  rw [enhance_error_iff_validate df gb hsub hne hh, validate_ok_iff df wf gb hnd hsub hne hh]

theorem cellAt_cons_zero (x : Cell) (xs : Col) : cellAt (x :: xs) 0 = x := by simp [cellAt]
theorem cellAt_cons_succ (x : Cell) (xs : Col) (j : Nat) : cellAt (x :: xs) (j + 1) = cellAt xs j := by
  simp [cellAt]
theorem cellAt_nil (j : Nat) : cellAt [] j = none := by simp [cellAt]

theorem fillFrom_cons (carry o : Cell) (os : Col) :
    fillFrom carry (o :: os) = o.or carry :: fillFrom (o.or carry) os := by
  cases o <;> rfl

/-- rendered segment `out` against original segment `orig`: if each cell shows the original or is a blank
standing for the value of the row above (`prev` for the first row), filling down from a carry that agrees
with a non-null `prev` gives back every non-null original cell -/
theorem fill_of_pointwise : ∀ (out orig : Col) (prev carry : Cell), out.length = orig.length →
    (∀ j, j < orig.length → cellAt out j = cellAt orig j ∨
      (cellAt out j = none ∧ cellAt orig j = cellAt (prev :: orig) j)) →
    (prev ≠ none → carry = prev) →
    (fillFrom carry out).length = orig.length ∧
      ∀ j, cellAt orig j ≠ none → cellAt (fillFrom carry out) j = cellAt orig j := by
  intro out
  induction out with
  | nil =>
    intro orig prev carry hl _ _
    cases orig with
    | nil => simp [fillFrom]
    | cons x xs => simp at hl
  | cons o os ih =>
    intro orig prev carry hl hp hinv
    cases orig with
    | nil => simp at hl
    | cons x xs =>
      have hox : o = x ∨ (o = none ∧ x = prev) := by simpa [cellAt_cons_zero] using hp 0 (by simp)
      -- what is carried past this row is the row's own value unless the row is blank
      have hinv' : x ≠ none → o.or carry = x := by
        intro hxn
        rcases hox with rfl | ⟨rfl, rfl⟩
        · cases o with
          | none => exact absurd rfl hxn
          | some v => rfl
        · exact hinv hxn
      have := ih xs x (o.or carry) (by simpa using hl)
        (fun j hj => by simpa only [cellAt_cons_succ] using hp (j + 1) (by simpa using hj)) hinv'
      rw [fillFrom_cons]
      refine ⟨by simp [this.1], ?_⟩
      intro j hj
      cases j with
      | zero =>
        rw [cellAt_cons_zero] at hj ⊢
        exact hinv' hj
      | succ j =>
        rw [cellAt_cons_succ] at hj ⊢
        exact this.2 j hj

theorem cellAt_drop_take (c : Col) (a h j : Nat) :
    cellAt ((c.drop a).take h) j = if j < h then cellAt c (a + j) else none := by
  unfold cellAt
  rw [List.getElem?_take]
  split
  · rw [List.getElem?_drop]
  · rfl

theorem fill_all_nonnull (f o : Col) (hl : f.length = o.length)
    (h : ∀ j, cellAt o j ≠ none → cellAt f j = cellAt o j) (hnn : ∀ x ∈ o, x ≠ none) : f = o := by
  rw [col_eq_range_map f, col_eq_range_map o, hl]
  apply List.map_congr_left
  intro j hj
  exact h j (hnn _ (List.mem_of_getElem? (cellAt_of_lt o j (List.mem_range.mp hj))))

/-! ## page slices of columns, and the fill-down clause per page segment -/

theorem splitCol_getElem? : ∀ (hs : List Nat) (c : Col) (p : Nat) (hp : p < hs.length),
    (splitCol c hs)[p]? = some ((c.drop (hs.take p).sum).take hs[p]) := by
  intro hs
  induction hs with
  | nil => intro c p hp; simp at hp
  | cons h hs ih =>
    intro c p hp
    cases p with
    | zero => simp [splitCol]
    | succ p =>
      simp only [splitCol, List.getElem?_cons_succ, List.take_succ_cons, List.sum_cons,
        List.getElem_cons_succ]
      rw [ih (c.drop h) p (by simpa using hp), List.drop_drop]

theorem mem_pageStartsAux_iff : ∀ (hs : List Nat) (cum : Nat) (nf : Bool) (x : Nat),
    x ∈ pageStartsAux cum nf hs ↔ ∃ p, p < hs.length ∧ (nf = true ∨ 0 < p) ∧ x = cum + (hs.take p).sum
  | [], cum, nf, x => by simp [pageStartsAux]
  | h :: hs, cum, nf, x => by
    simp only [pageStartsAux, List.mem_append]
    rw [mem_pageStartsAux_iff hs (cum + h) true x]
    constructor
    · rintro (h1 | ⟨p, hp, _, hx⟩)
      · cases nf with
        | false => simp at h1
        | true =>
          simp only [if_true, List.mem_singleton] at h1
          exact ⟨0, by simp, Or.inl rfl, by simp [h1]⟩
      · refine ⟨p + 1, by simpa using hp, Or.inr (Nat.succ_pos _), ?_⟩
        simp only [List.take_succ_cons, List.sum_cons]
        omega
    · rintro ⟨p, hp, hor, hx⟩
      cases p with
      | zero =>
        rcases hor with h1 | h1
        · left; simp [h1, hx]
        · omega
      | succ p =>
        right
        refine ⟨p, by simpa using hp, Or.inl rfl, ?_⟩
        simp only [List.take_succ_cons, List.sum_cons] at hx
        omega

theorem hkey_component (df : Frame) (gb : List Str) (l : Nat) (hl : l < gb.length) (i i' : Nat)
    (h : hkey (gb.map (getCol df)) l i = hkey (gb.map (getCol df)) l i') :
    cellAt (getCol df gb[l]) i = cellAt (getCol df gb[l]) i' := by
  rw [hkey_map, hkey_map] at h
  have := congrArg (fun xs => xs[l]?) h
  simp only [List.getElem?_map, List.getElem?_take, Nat.lt_succ_self, if_true,
    List.getElem?_eq_getElem hl, Option.map_some, Option.some.injEq] at this
  exact this

theorem getCol_of_height_zero (f : Frame) (wf : WF f) (h : height f = 0) (m : Str) : getCol f m = [] := by
  by_cases hm : m ∈ names f
  · exact List.eq_nil_of_length_eq_zero (by rw [length_getCol f wf m hm, h])
  · exact getCol_of_not_mem f m hm

theorem length_getCol_group (df : Frame) (wf : WF df) (gb : List Str) (s : Frame)
    (h : enhanceGroupBy df gb = .ok s) (l : Nat) (hl : l < gb.length) :
    (getCol df gb[l]).length = height df := by
  rcases enhance_ok df gb s h with ⟨h0, _⟩ | ⟨_, _, hsub, _, _⟩
  · rcases h0 with rfl | h0
    · simp at hl
    · rw [getCol_of_height_zero df wf h0, h0]; rfl
  · exact length_getCol df wf _ (hsub _ (List.getElem_mem hl))

theorem length_restored_group (df : Frame) (wf : WF df) (gb : List Str) (hnd : gb.Nodup) (starts : List Nat)
    (s : Frame) (h : enhanceGroupBy df gb = .ok s) (l : Nat) (hl : l < gb.length) :
    (getCol (restorePageContext s df gb starts) gb[l]).length = height df := by
  rw [length_getCol_restore]
  rcases enhance_ok df gb s h with ⟨_, rfl⟩ | ⟨_, _, hsub, _, rfl⟩
  · exact length_getCol_group s wf gb s h l hl
  · rw [getCol_suppressHier_level df gb hnd l hl, length_levelValues df wf gb hsub l hl]

/-- **fill-down clause** for one page segment `[a, a+h)` whose first row is a page start -/
theorem segment_fill (df : Frame) (wf : WF df) (gb : List Str) (hnd : gb.Nodup) (starts : List Nat)
    (s : Frame) (hok : enhanceGroupBy df gb = .ok s) (l : Nat) (hl : l < gb.length) (a h : Nat)
    (ha : a = 0 ∨ a ∈ starts) :
    let shown := ((getCol (restorePageContext s df gb starts) gb[l]).drop a).take h
    let orig := ((getCol df gb[l]).drop a).take h
    (fillDown shown).length = orig.length ∧
      ∀ j, cellAt orig j ≠ none → cellAt (fillDown shown) j = cellAt orig j := by
  intro shown orig
  have hlenO := length_getCol_group df wf gb s hok l hl
  have hlenS := length_restored_group df wf gb hnd starts s hok l hl
  unfold fillDown
  apply fill_of_pointwise shown orig none none _ _ (fun hn => absurd rfl hn)
  · simp [shown, orig, hlenO, hlenS]
  · intro j hj
    have hjh : j < h ∧ a + j < height df := by
      simp only [orig, List.length_take, List.length_drop, hlenO] at hj
      omega
    simp only [shown, orig, cellAt_drop_take, hjh.1, if_true]
    rw [cellAt_restored df wf gb hnd starts s hok l hl (a + j) hjh.2]
    by_cases hb : isRepeat (gb.map (getCol df)) l (a + j) = true ∧ isPageStart starts (a + j) = false
    · -- a blank: the row repeats the key of the row above, which is on the same page
      right
      refine ⟨expectedCell_of_blank _ _ _ _ hb, ?_⟩
      have hk := ((isRepeat_iff _ _ _).mp hb.1).2
      have hps := (isPageStart_eq_false_iff _ _).mp hb.2
      cases j with
      | zero => exact absurd ha (not_or.mpr hps)
      | succ k =>
        rw [cellAt_cons_succ, cellAt_drop_take, if_pos (by omega)]
        exact hkey_component df gb l hl (a + (k + 1)) (a + k) hk
    · left
      rw [expectedCell_of_shown _ _ _ _ hb, getD_groupCols df gb l hl]

/-! ## page slices of frames -/

theorem getCol_sliceFrame (f : Frame) (a h : Nat) (m : Str) :
    getCol (sliceFrame f a h) m = ((getCol f m).drop a).take h := by
  induction f with
  | nil => simp [sliceFrame, getCol_nil]
  | cons q f ih =>
    obtain ⟨n, c⟩ := q
    simp only [sliceFrame, List.map_cons] at ih ⊢
    rw [getCol_cons, getCol_cons, ih]
    split <;> rfl

theorem splitFrameAux_getElem? (f : Frame) : ∀ (hs : List Nat) (cur p : Nat) (hp : p < hs.length),
    (splitFrameAux f cur hs)[p]? = some (sliceFrame f (cur + (hs.take p).sum) hs[p]) := by
  intro hs
  induction hs with
  | nil => intro cur p hp; simp at hp
  | cons h hs ih =>
    intro cur p hp
    cases p with
    | zero => simp [splitFrameAux]
    | succ p =>
      simp only [splitFrameAux, List.getElem?_cons_succ, List.take_succ_cons, List.sum_cons,
        List.getElem_cons_succ]
      rw [ih (cur + h) p (by simpa using hp), Nat.add_assoc]

/-! ## the text-key validator (`validate_data_sorting` before commit 36bfff8, D32) on separator-free data -/

/-- a cell that cannot take part in a key collision of the text-key validator -/
def SepFree (c : Cell) : Prop := c ≠ some "__NULL__".toList ∧ ∀ s, c = some s → '|' ∉ s

/-- the text the older validator compares: `fill_null("__NULL__")` -/
def keyText (c : Cell) : Str := c.getD "__NULL__".toList

theorem keyText_inj (a b : Cell) (ha : SepFree a) (hb : SepFree b) (h : keyText a = keyText b) : a = b := by
  cases a <;> cases b <;> simp only [keyText, Option.getD_none, Option.getD_some] at h
  · rfl
  · exact absurd (congrArg some h.symm) hb.1
  · exact absurd (congrArg some h) ha.1
  · rw [h]

theorem keyText_nosep (a : Cell) (ha : SepFree a) : '|' ∉ keyText a := by
  cases a with
  | none => simp only [keyText, Option.getD_none]; decide
  | some s => simpa [keyText] using ha.2 s rfl

theorem sepFree_cellAt (c : Col) (i : Nat) (h : ∀ x ∈ c, SepFree x) : SepFree (cellAt c i) := by
  by_cases hi : i < c.length
  · have : cellAt c i = c[i] := by simp [cellAt, List.getElem?_eq_getElem hi]
    rw [this]; exact h _ (List.getElem_mem hi)
  · rw [cellAt_of_ge c i (Nat.le_of_not_lt hi)]
    exact ⟨by simp, by simp⟩

theorem split_at_sep : ∀ (x y r r' : Str), '|' ∉ x → '|' ∉ y → x ++ '|' :: r = y ++ '|' :: r' →
    x = y ∧ r = r' := by
  intro x
  induction x with
  | nil =>
    intro y r r' _ hy h
    cases y with
    | nil => simpa using h
    | cons b y =>
      simp only [List.nil_append, List.cons_append, List.cons.injEq] at h
      exact absurd (by rw [← h.1]; simp) hy
  | cons a x ih =>
    intro y r r' hx hy h
    cases y with
    | nil =>
      simp only [List.nil_append, List.cons_append, List.cons.injEq] at h
      exact absurd (by rw [h.1]; simp) hx
    | cons b y =>
      simp only [List.cons_append, List.cons.injEq] at h
      have := ih y r r' (fun m => hx (List.mem_cons_of_mem _ m)) (fun m => hy (List.mem_cons_of_mem _ m)) h.2
      exact ⟨by rw [h.1, this.1], this.2⟩

/-- `"|".join(…)`, the older validator's key of a row -/
def joinText (xs : List Str) : Str := (xs.intersperse ['|']).flatten

theorem joinText_cons_cons (x x' : Str) (xs : List Str) :
    joinText (x :: x' :: xs) = x ++ '|' :: joinText (x' :: xs) := by
  simp [joinText, List.intersperse]

theorem joinText_inj : ∀ (xs ys : List Str), xs.length = ys.length → (∀ x ∈ xs, '|' ∉ x) →
    (∀ y ∈ ys, '|' ∉ y) → joinText xs = joinText ys → xs = ys := by
  intro xs
  induction xs with
  | nil => intro ys hl _ _ _; cases ys with
    | nil => rfl
    | cons y ys => simp at hl
  | cons x xs ih =>
    intro ys hl hx hy h
    cases ys with
    | nil => simp at hl
    | cons y ys =>
      cases xs with
      | nil =>
        cases ys with
        | nil => simpa [joinText, List.intersperse] using h
        | cons y' ys => simp at hl
      | cons x' xs =>
        cases ys with
        | nil => simp at hl
        | cons y' ys =>
          rw [joinText_cons_cons, joinText_cons_cons] at h
          have := split_at_sep x y _ _ (hx x (by simp)) (hy y (by simp)) h
          rw [this.1, ih (y' :: ys) (by simpa using hl) (fun a ha => hx a (List.mem_cons_of_mem _ ha))
            (fun a ha => hy a (List.mem_cons_of_mem _ ha)) this.2]

theorem joinKey_eq (cells : List Cell) : Legacy.joinKey cells = joinText (cells.map keyText) := rfl

/-- on data whose group cells contain no `|` and are not the text `__NULL__`, the text-key validator
decides exactly like the tuple-key validator -/
theorem legacy_validate_eq (df : Frame) (gb : List Str)
    (hsep : ∀ g ∈ gb, ∀ x ∈ getCol df g, SepFree x) :
    Legacy.validateDataSorting df gb = validateDataSorting df gb := by
  have hlev : Legacy.levelOk df gb.eraseDups = levelOk df gb.eraseDups := by
    funext i
    unfold Legacy.levelOk levelOk
    split
    · rfl
    · apply Bool.eq_iff_iff.mpr
      rw [contig_iff, contig_iff]
      apply contiguous_map_injOn
      intro a ha b hb hab
      obtain ⟨ia, _, rfl⟩ := List.mem_map.mp ha
      obtain ⟨ib, _, rfl⟩ := List.mem_map.mp hb
      -- the cells of the group columns are separator-free, so the text of a key determines its cells
      have hfree : ∀ c ∈ gb.eraseDups.take (i + 1), ∀ j, SepFree (cellAt (getCol df c) j) :=
        fun c hc j => sepFree_cellAt _ _ (hsep c (by simpa using List.mem_of_mem_take hc))
      have hns : ∀ j, ∀ x ∈ ((gb.eraseDups.take (i + 1)).map fun c => cellAt (getCol df c) j).map keyText,
          '|' ∉ x := by
        intro j x hx
        obtain ⟨_, hcl, rfl⟩ := List.mem_map.mp hx
        obtain ⟨c, hc, rfl⟩ := List.mem_map.mp hcl
        exact keyText_nosep _ (hfree c hc j)
      rw [joinKey_eq, joinKey_eq] at hab
      have := joinText_inj _ _ (by simp) (hns ia) (hns ib) hab
      rw [List.map_map, List.map_map] at this
      apply List.map_congr_left
      intro c hc
      exact keyText_inj _ _ (hfree c hc ia) (hfree c hc ib) (List.map_inj_left.mp this c hc)
  unfold Legacy.validateDataSorting validateDataSorting
  simp only [hlev]

end Proofs.GroupBy
