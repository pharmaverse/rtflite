import Model.Encode
import Model.EncodeAccepted
import Proofs.Encode
import Proofs.EncodeAttrs
/-!
Totality of the encoder model, part 1: the `Except` monad in the "succeeds" direction, the field-wise reading of the
record predicates of `Model/EncodeAccepted.lean`, `_to_nested_list` and `BroadcastValue.iloc` on accepted attributes.
-/
namespace Proofs.EncodeTotal
open Model.Encode Model.EncodeAccepted Model.Broadcast Generated
open Proofs.Encode (MemV)
open Proofs.EncodeAttrs (Field GoodV)

/-! ## `Except` -/

@[simp] theorem ok_bind {ε α β : Type} (a : α) (f : α → Except ε β) : (Except.ok a >>= f) = f a := rfl
@[simp] theorem err_bind {ε α β : Type} (e : ε) (f : α → Except ε β) : (Except.error e >>= f) = Except.error e := rfl
@[simp] theorem pure_eq_ok {ε α : Type} (a : α) : (pure a : Except ε α) = Except.ok a := rfl
@[simp] theorem map_ok_eq {ε α β : Type} (a : α) (f : α → β) : (f <$> (Except.ok a : Except ε α)) = Except.ok (f a) := rfl

/-- a bind succeeds when both parts do: `P` is what the second part needs to know of the first's value, `Q` what the
caller keeps of the result -/
theorem bind_total_of {ε α β : Type} {x : Except ε α} {f : α → Except ε β} {P : α → Prop} {Q : β → Prop}
    (hx : ∃ a, x = .ok a ∧ P a) (hf : ∀ a, P a → ∃ b, f a = .ok b ∧ Q b) : ∃ b, (x >>= f) = .ok b ∧ Q b := by
  obtain ⟨a, ha, hp⟩ := hx
  rw [ha]
  exact hf a hp

theorem bind_total' {ε α β : Type} {x : Except ε α} {f : α → Except ε β} (P : α → Prop)
    (hx : ∃ a, x = .ok a ∧ P a) (hf : ∀ a, P a → ∃ b, f a = .ok b) : ∃ b, (x >>= f) = .ok b :=
  (bind_total_of (Q := fun _ => True) hx fun a hp => (hf a hp).imp fun _ hb => ⟨hb, trivial⟩).imp fun _ hb => hb.1

theorem bind_total {ε α β : Type} {x : Except ε α} {f : α → Except ε β} (hx : ∃ a, x = .ok a)
    (hf : ∀ a, x = .ok a → ∃ b, f a = .ok b) : ∃ b, (x >>= f) = .ok b :=
  bind_total' (x = .ok ·) (hx.imp fun _ ha => ⟨ha, ha⟩) hf

/-- `let x ← if c then A else B; jp x` as `do` lays it out (`jp` is the join point) -/
theorem bind_ite_total {ε α β : Type} {c : Prop} [Decidable c] {A B : Except ε α} {jp : α → Except ε β}
    (hA : c → ∃ a, A = .ok a) (hB : ¬ c → ∃ a, B = .ok a) (h : ∀ a, ∃ b, jp a = .ok b) :
    ∃ b, (if c then A >>= jp else B >>= jp) = .ok b := by
  split
  · next hc => exact bind_total (hA hc) fun a _ => h a
  · next hc => exact bind_total (hB hc) fun a _ => h a

/-! ### "a value and `C`, or the error `e` and `N`" -/

section
variable {ε α β : Type} {r : Except ε α} {C N : Prop} {e : ε}

/-- the disjunction passes through a bind whose second part is total -/
theorem bind_total_or {f : α → Except ε β} (h : (∃ x, r = .ok x ∧ C) ∨ (r = .error e ∧ N))
    (hf : ∀ x, ∃ y, f x = .ok y) : (∃ y, (r >>= f) = .ok y ∧ C) ∨ ((r >>= f) = .error e ∧ N) := by
  rcases h with ⟨x, rfl, hc⟩ | ⟨rfl, hn⟩
  · exact Or.inl ((hf x).imp fun _ hy => ⟨hy, hc⟩)
  · exact Or.inr ⟨rfl, hn⟩

/-- the disjunction passes through a map -/
theorem map_total_or (f : α → β) (h : (∃ x, r = .ok x ∧ C) ∨ (r = .error e ∧ N)) :
    (∃ y, f <$> r = .ok y ∧ C) ∨ (f <$> r = .error e ∧ N) := by
  rcases h with ⟨x, rfl, hc⟩ | ⟨rfl, hn⟩
  · exact Or.inl ⟨_, rfl, hc⟩
  · exact Or.inr ⟨rfl, hn⟩

/-- a returned value rules out the error case -/
theorem of_ok_or_error {y : α} (h : (∃ x, r = .ok x ∧ C) ∨ (r = .error e ∧ N)) (hy : r = .ok y) : C := by
  rcases h with ⟨_, _, hc⟩ | ⟨he, _⟩
  · exact hc
  · rw [he] at hy; cases hy

/-- when `C` and `N` exclude each other, the error `e` is returned exactly under `N` -/
theorem error_iff_of_ok_or_error (h : (∃ x, r = .ok x ∧ C) ∨ (r = .error e ∧ N)) (hcn : C → ¬ N) :
    r = .error e ↔ N := by
  rcases h with ⟨x, hx, hc⟩ | ⟨he, hn⟩
  · rw [hx]
    constructor
    · intro h; cases h
    · exact fun hn => absurd hn (hcn hc)
  · exact ⟨fun _ => hn, fun _ => he⟩

/-- without `N` there is a value -/
theorem ok_of_ok_or_error (h : (∃ x, r = .ok x ∧ C) ∨ (r = .error e ∧ N)) (hn : ¬ N) : ∃ x, r = .ok x :=
  h.elim (fun ⟨x, hx, _⟩ => ⟨x, hx⟩) fun ⟨_, n⟩ => absurd n hn

/-- no error other than `e` is returned -/
theorem error_eq_of_ok_or_error {e' : ε} (h : (∃ x, r = .ok x ∧ C) ∨ (r = .error e ∧ N)) (he : r = .error e') :
    e' = e := by
  rcases h with ⟨x, hx, _⟩ | ⟨h, _⟩
  · rw [hx] at he; cases he
  · rw [h] at he; cases he; rfl

end

theorem mapM_total {ε α β : Type} {f : α → Except ε β} : ∀ (l : List α), (∀ x ∈ l, ∃ y, f x = .ok y) →
    ∃ r, l.mapM f = .ok r
  | [], _ => ⟨[], by simp⟩
  | x :: l, h => by
    obtain ⟨y, hy⟩ := h x (by simp)
    obtain ⟨r, hr⟩ := mapM_total l (fun z hz => h z (by simp [hz]))
    exact ⟨y :: r, by rw [List.mapM_cons, hy, hr]; rfl⟩

/-- `mapM` over an indexed list: the statement about positions -/
theorem mapM_zipIdx_total {ε α β : Type} {f : α × Nat → Except ε β} (l : List α) (k : Nat)
    (h : ∀ i x, l[i]? = some x → ∃ y, f (x, i + k) = .ok y) : ∃ r, (l.zipIdx k).mapM f = .ok r := by
  apply mapM_total
  intro x hx
  obtain ⟨a, i⟩ := x
  have := List.mem_zipIdx hx
  obtain ⟨h1, h2, h3⟩ := this
  have hi : l[i - k]? = some a := by
    rw [h3]; exact List.getElem?_eq_getElem _
  have := h (i - k) a hi
  rwa [show i - k + k = i by omega] at this

/-! ## records field by field -/

/-- the 14 attribute matrices of a text component -/
inductive TField
  | font | format | size | color | bg | just | indFirst | indLeft | indRight | space | spBefore | spAfter | hyph
  | convert
  deriving DecidableEq, Repr

def TField.get {α : Type} : TField → TextAttrsOf α → α
  | .font, a => a.font
  | .format, a => a.format
  | .size, a => a.size
  | .color, a => a.color
  | .bg, a => a.bg
  | .just, a => a.just
  | .indFirst, a => a.indFirst
  | .indLeft, a => a.indLeft
  | .indRight, a => a.indRight
  | .space, a => a.space
  | .spBefore, a => a.spBefore
  | .spAfter, a => a.spAfter
  | .hyph, a => a.hyph
  | .convert, a => a.convert

def TField.toField : TField → Field
  | .font => .font
  | .format => .format
  | .size => .size
  | .color => .color
  | .bg => .bg
  | .just => .just
  | .indFirst => .indFirst
  | .indLeft => .indLeft
  | .indRight => .indRight
  | .space => .space
  | .spBefore => .spBefore
  | .spAfter => .spAfter
  | .hyph => .hyph
  | .convert => .convert

theorem toField_get {α : Type} (f : TField) (A : TblAttrsOf α) : f.toField.get A = f.get A.toTextAttrsOf := by
  cases f <;> rfl

theorem text_zipAll {σ α : Type} {p : σ → α → Bool} {s : TextAttrsOf σ} {a : TextAttrsOf α}
    (h : TextAttrsOf.zipAll p s a = true) (f : TField) : p (f.get s) (f.get a) = true := by
  simp only [TextAttrsOf.zipAll, Bool.and_eq_true, and_assoc] at h
  obtain ⟨h1, h2, h3, h4, h5, h6, h7, h8, h9, h10, h11, h12, h13, h14⟩ := h
  cases f <;> assumption

theorem tbl_zipAll {σ α : Type} {p : σ → α → Bool} {s : TblAttrsOf σ} {a : TblAttrsOf α}
    (h : TblAttrsOf.zipAll p s a = true) (f : Field) : p (f.get s) (f.get a) = true := by
  simp only [TblAttrsOf.zipAll, TextAttrsOf.zipAll, Bool.and_eq_true, and_assoc] at h
  obtain ⟨h1, h2, h3, h4, h5, h6, h7, h8, h9, h10, h11, h12, h13, h14, h15, h16, h17, h18, h19, h20, h21, h22, h23, h24,
    h25, h26, h27, h28, h29, h30, h31⟩ := h
  cases f <;> assumption

/-- `mapM` of a text record succeeds when it succeeds on every field -/
theorem textMapM_total {α β : Type} {g : α → Except String β} {a : TextAttrsOf α}
    (h : ∀ f : TField, ∃ y, g (f.get a) = .ok y) : ∃ B, a.mapM g = .ok B ∧ ∀ f : TField, g (f.get a) = .ok (f.get B) := by
  obtain ⟨y1, h1⟩ := h .font
  obtain ⟨y2, h2⟩ := h .format
  obtain ⟨y3, h3⟩ := h .size
  obtain ⟨y4, h4⟩ := h .color
  obtain ⟨y5, h5⟩ := h .bg
  obtain ⟨y6, h6⟩ := h .just
  obtain ⟨y7, h7⟩ := h .indFirst
  obtain ⟨y8, h8⟩ := h .indLeft
  obtain ⟨y9, h9⟩ := h .indRight
  obtain ⟨y10, h10⟩ := h .space
  obtain ⟨y11, h11⟩ := h .spBefore
  obtain ⟨y12, h12⟩ := h .spAfter
  obtain ⟨y13, h13⟩ := h .hyph
  obtain ⟨y14, h14⟩ := h .convert
  simp only [TField.get] at h1 h2 h3 h4 h5 h6 h7 h8 h9 h10 h11 h12 h13 h14
  refine ⟨{ font := y1, format := y2, size := y3, color := y4, bg := y5, just := y6, indFirst := y7, indLeft := y8,
            indRight := y9, space := y10, spBefore := y11, spAfter := y12, hyph := y13, convert := y14 }, ?_, ?_⟩
  · simp only [TextAttrsOf.mapM, h1, h2, h3, h4, h5, h6, h7, h8, h9, h10, h11, h12, h13, h14, ok_bind, pure_eq_ok]
  · intro f; cases f <;> simp only [TField.get] <;> assumption

theorem tblMapM_total {α β : Type} {g : α → Except String β} {a : TblAttrsOf α}
    (h : ∀ f : Field, ∃ y, g (f.get a) = .ok y) : ∃ B, a.mapM g = .ok B ∧ ∀ f : Field, g (f.get a) = .ok (f.get B) := by
  obtain ⟨T, hT, _⟩ := textMapM_total (g := g) (a := a.toTextAttrsOf)
    (fun f => by rw [← toField_get]; exact h f.toField)
  obtain ⟨x1, h1⟩ := h .bLeft
  obtain ⟨x2, h2⟩ := h .bRight
  obtain ⟨x3, h3⟩ := h .bTop
  obtain ⟨x4, h4⟩ := h .bBottom
  obtain ⟨x5, h5⟩ := h .bFirst
  obtain ⟨x6, h6⟩ := h .bLast
  obtain ⟨x7, h7⟩ := h .bcLeft
  obtain ⟨x8, h8⟩ := h .bcRight
  obtain ⟨x9, h9⟩ := h .bcTop
  obtain ⟨x10, h10⟩ := h .bcBottom
  obtain ⟨x11, h11⟩ := h .bcFirst
  obtain ⟨x12, h12⟩ := h .bcLast
  obtain ⟨x13, h13⟩ := h .bWidth
  obtain ⟨x14, h14⟩ := h .cellHeight
  obtain ⟨x15, h15⟩ := h .cellJust
  obtain ⟨x16, h16⟩ := h .cellVJust
  obtain ⟨x17, h17⟩ := h .cellNrow
  simp only [Field.get] at h1 h2 h3 h4 h5 h6 h7 h8 h9 h10 h11 h12 h13 h14 h15 h16 h17
  have hB : a.mapM g = .ok
      { toTextAttrsOf := T, bLeft := x1, bRight := x2, bTop := x3, bBottom := x4, bFirst := x5,
        bLast := x6, bcLeft := x7, bcRight := x8, bcTop := x9, bcBottom := x10, bcFirst := x11, bcLast := x12,
        bWidth := x13, cellHeight := x14, cellJust := x15, cellVJust := x16, cellNrow := x17 } := by
    simp only [TblAttrsOf.mapM, hT, h1, h2, h3, h4, h5, h6, h7, h8, h9, h10, h11, h12, h13, h14, h15, h16, h17,
      ok_bind, pure_eq_ok]
  exact ⟨_, hB, fun f => Proofs.EncodeAttrs.get_mapM hB f⟩

/-! ## a matrix the encoder can read for a field -/

/-- the matrix of one field after `_to_nested_list`: `iloc` is total on it, it is present when the encoder needs a
value, and it holds admissible scalars only -/
structure FieldGood (s : Spec) (M : MatV) : Prop where
  good : GoodV M
  req : s.req = true → M ≠ none
  vals : ∀ v, MemV M v → s.ok v = true

theorem FieldGood.of_some {s : Spec} {m : Mat Val} (hg : Proofs.Broadcast.Good m)
    (hv : ∀ row ∈ m, ∀ v ∈ row, s.ok v = true) : FieldGood s (some m) :=
  ⟨fun _ hm => Option.some.inj hm ▸ hg, fun _ => Option.some_ne_none m,
    fun v ⟨_, hm, row, hrow, hvr⟩ => hv row (Option.some.inj hm ▸ hrow) v hvr⟩

def TblGood (A : TblAttrsOf MatV) : Prop := ∀ f : Field, FieldGood (f.get tblSpec) (f.get A)
def TextGood (a : TextAttrsOf MatV) : Prop := ∀ f : TField, FieldGood (f.get textSpec) (f.get a)

theorem toField_spec (f : TField) : f.toField.get tblSpec = f.get textSpec := by cases f <;> rfl

theorem TblGood.text {A : TblAttrsOf MatV} (h : TblGood A) : TextGood A.toTextAttrsOf := fun f => by
  have := h f.toField
  rwa [toField_spec, toField_get] at this

theorem shapeOk_eq (a : Attr) : Model.EncodeAccepted.shapeOk a = Proofs.EncodeAttrs.shapeOk a := by
  cases a <;> rfl

theorem ok_scalar {ok : Val → Bool} : ∀ {v : Val}, (match v with
    | .null => true
    | v => ok v) = true → v = .null ∨ ok v = true
  | .null, _ => Or.inl rfl
  | .bool _, h => Or.inr h
  | .int _, h => Or.inr h
  | .float _, h => Or.inr h
  | .str _, h => Or.inr h

/-- the okness predicates reject `None` -/
def NoNull (ok : Val → Bool) : Prop := ok .null = false

theorem valsOk_scalar {ok : Val → Bool} {v : Val} (h : valsOk ok (.scalar v) = true) : v = .null ∨ ok v = true := by
  cases v <;> simp only [valsOk] at h <;> first | exact Or.inl rfl | exact Or.inr h

/-- `_to_nested_list` on an accepted attribute of ANY shape: it only fails on a non-empty list of `None`s -/
theorem toNested_exists {s : Spec} {a : Attr} (hn : s.ok .null = false) (ha : accAttr s a = true) :
    ∃ M, a.toNested = .ok M := by
  simp only [accAttr, Bool.and_eq_true] at ha
  obtain ⟨hv, _⟩ := ha
  cases a with
  | null => exact ⟨none, rfl⟩
  | scalar w => simp only [Attr.toNested]; split <;> exact ⟨_, rfl⟩
  | list xs =>
    cases xs with
    | nil => exact ⟨_, rfl⟩
    | cons x xs =>
      -- the head is admissible, hence not `None`: the list holds a scalar
      have hx : s.ok x = true := List.all_eq_true.mp hv x List.mem_cons_self
      have hsc : x.isScalar = true := by
        cases x with
        | null => rw [hn] at hx; cases hx
        | _ => rfl
      exact ⟨some [x :: xs], by simp [Attr.toNested, hsc]⟩
  | tuple xs => exact ⟨_, rfl⟩
  | nested mm => exact ⟨_, rfl⟩

/-- `_to_nested_list` answers `None` only for an absent attribute -/
theorem isNone_of_toNested {a : Attr} (h : a.toNested = .ok none) : Attr.isNone a = true := by
  cases a with
  | null => rfl
  | scalar w => cases w <;> first | rfl | simp [Attr.toNested, Val.isScalar] at h
  | list xs =>
    simp only [Attr.toNested] at h
    split at h
    · cases h
    · split at h <;> cases h
  | tuple xs => cases h
  | nested m => cases h

/-- the scalars of a validated attribute are admissible -/
theorem valsOk_mem {ok : Val → Bool} {a : Attr} {v : Val} (h : valsOk ok a = true)
    (hv : v ∈ Model.EncodeDomain.attrVals a) : ok v = true ∨ a = .scalar .null := by
  cases a with
  | null => cases hv
  | scalar w =>
    obtain rfl := List.mem_singleton.mp hv
    exact (valsOk_scalar h).symm.imp id (congrArg _)
  | list xs => exact Or.inl (List.all_eq_true.mp h v hv)
  | tuple xs => exact Or.inl (List.all_eq_true.mp h v hv)
  | nested m =>
    obtain ⟨row, hrow, hvr⟩ := List.mem_flatten.mp hv
    exact Or.inl (List.all_eq_true.mp (List.all_eq_true.mp h row hrow) v hvr)

/-- `_to_nested_list` succeeds on an accepted attribute of a quantifier shape, and the matrix is readable -/
theorem toNested_total {s : Spec} {a : Attr} (hn : s.ok .null = false) (ha : accAttr s a = true)
    (hs : shpAttr s a = true) : ∃ M, a.toNested = .ok M ∧ FieldGood s M := by
  obtain ⟨M, hM⟩ := toNested_exists hn ha
  simp only [accAttr, shpAttr, Bool.and_eq_true] at ha hs
  obtain ⟨hshape, hreq⟩ := hs
  refine ⟨M, hM, Proofs.EncodeAttrs.toNested_goodV hM (by rw [← shapeOk_eq]; exact hshape), ?_, ?_⟩
  · rintro hr rfl
    rw [hr, isNone_of_toNested hM] at hreq
    cases hreq
  · rintro v ⟨m, rfl, row, hrow, hvr⟩
    rcases valsOk_mem ha.1 (Proofs.Encode.toNested_mem hM row hrow v hvr) with h | rfl
    · exact h
    · simp [Attr.toNested, Val.isScalar] at hM

theorem tblSpec_noNull (f : Field) : (f.get tblSpec).ok .null = false := by cases f <;> rfl
theorem textSpec_noNull (f : TField) : (f.get textSpec).ok .null = false := by cases f <;> rfl

/-- what is known of some successful result of `g x` holds of the result -/
theorem of_ok_result {ε α β : Type} {g : α → Except ε β} {x : α} {y : β} {P : β → Prop} (hy : g x = .ok y)
    (h : ∃ z, g x = .ok z ∧ P z) : P y := by
  obtain ⟨z, hz, hp⟩ := h
  rw [hy] at hz
  cases hz
  exact hp

/-- a table component's attributes: `mapM Attr.toNested` succeeds and every matrix is readable -/
theorem tblNested_total {a : TblAttrsOf Attr} (ha : TblAttrsOf.zipAll accAttr tblSpec a = true)
    (hs : TblAttrsOf.zipAll shpAttr tblSpec a = true) : ∃ A, a.mapM Attr.toNested = .ok A ∧ TblGood A := by
  have hf := fun f => toNested_total (tblSpec_noNull f) (tbl_zipAll ha f) (tbl_zipAll hs f)
  obtain ⟨A, hA, hget⟩ := tblMapM_total fun f => (hf f).imp fun _ h => h.1
  exact ⟨A, hA, fun f => of_ok_result (hget f) (hf f)⟩

theorem textNested_total {a : TextAttrsOf Attr} (ha : TextAttrsOf.zipAll accAttr textSpec a = true)
    (hs : TextAttrsOf.zipAll shpAttr textSpec a = true) : ∃ A, a.mapM Attr.toNested = .ok A ∧ TextGood A := by
  have hf := fun f => toNested_total (textSpec_noNull f) (text_zipAll ha f) (text_zipAll hs f)
  obtain ⟨A, hA, hget⟩ := textMapM_total fun f => (hf f).imp fun _ h => h.1
  exact ⟨A, hA, fun f => of_ok_result (hget f) (hf f)⟩

/-! ## `BroadcastValue.iloc` -/

/-- reading a readable matrix: a value of the field, or `None` when the (optional) attribute is absent -/
theorem ilocV_total {s : Spec} {M : MatV} (h : FieldGood s M) (r c : Nat) :
    ∃ v, ilocV M r c = .ok v ∧ ((s.ok v = true) ∨ (v = .null ∧ M = none)) := by
  cases M with
  | none => exact ⟨.null, rfl, Or.inr ⟨rfl, rfl⟩⟩
  | some m =>
    have hg := h.good m rfl
    rw [Proofs.EncodeAttrs.ilocV_good hg]
    have hsome := Proofs.Broadcast.Good.iloc_isSome hg r c
    cases hi : m.iloc r c with
    | none => rw [hi] at hsome; cases hsome
    | some v =>
      refine ⟨v, rfl, Or.inl ?_⟩
      apply h.vals
      obtain ⟨row, hrow, hv⟩ := Proofs.EncodeAux.iloc_mem m r c v hi
      exact ⟨m, rfl, row, hrow, hv⟩

/-- reading a readable matrix of a field the encoder needs (`req`): always a value of the field -/
theorem ilocV_req {s : Spec} {M : MatV} (h : FieldGood s M) (hr : s.req = true) (r c : Nat) :
    ∃ v, ilocV M r c = .ok v ∧ s.ok v = true := by
  obtain ⟨v, hv, h1 | ⟨_, h2⟩⟩ := ilocV_total h r c
  · exact ⟨v, hv, h1⟩
  · exact absurd h2 (h.req hr)

end Proofs.EncodeTotal
