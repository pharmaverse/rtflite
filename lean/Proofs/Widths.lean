import Model.Widths
/-! Lemmas about `Model.Widths` (core Lean only): `roundHalfEven` is monotone and moves a number by at most one half;
`colWidths` is the running sum scaled by `W / Σ w`, so its last entry is `W`; and for a well-formed section
(`WFSection`) every row of `sectionRowsQ` is the cumulative vector of some positive width list (`GoodQ`), which is what
the row oracle `rowViol` / `checkFrom` accepts. -/
namespace Proofs.Widths
open Model.Widths

/-- the rounded value is one of the two neighbouring integers and at most 1/2 away -/
theorem round_cases (x : Rat) :
    (roundHalfEven x = x.floor ∧ 2 * (x - x.floor) ≤ 1) ∨
    (roundHalfEven x = x.floor + 1 ∧ 1 ≤ 2 * (x - x.floor)) := by
  unfold roundHalfEven
  simp only
  by_cases h1 : 2 * (x - (x.floor : Rat)) < 1
  · left; simp [h1]; exact Rat.le_of_lt h1
  · by_cases h2 : 1 < 2 * (x - (x.floor : Rat))
    · right; simp [h1, h2]; exact Rat.le_of_lt h2
    · have heq : 2 * (x - (x.floor : Rat)) = 1 := by
        have a := Rat.not_lt.mp h1
        have b := Rat.not_lt.mp h2
        exact Rat.le_antisymm b a
      by_cases h3 : x.floor % 2 = 0
      · left; simp [h1, h2, h3]; rw [heq]; exact Rat.le_refl
      · right; simp [h1, h2, h3]; rw [heq]; exact Rat.le_refl

theorem round_near (x : Rat) :
    (roundHalfEven x : Rat) - x ≤ 1 / 2 ∧ x - (roundHalfEven x : Rat) ≤ 1 / 2 := by
  have a := Rat.floor_le x
  have b := Rat.lt_floor_add_one x
  rcases round_cases x with ⟨h, hd⟩ | ⟨h, hd⟩
  · rw [h]; constructor <;> grind
  · rw [h, Rat.intCast_add]; constructor <;> grind

theorem round_between (x : Rat) : x.floor ≤ roundHalfEven x ∧ roundHalfEven x ≤ x.floor + 1 := by
  rcases round_cases x with ⟨h, _⟩ | ⟨h, _⟩ <;> omega

theorem round_mono {x y : Rat} (h : x ≤ y) : roundHalfEven x ≤ roundHalfEven y := by
  have hf := Rat.floor_monotone h
  rcases Int.lt_or_eq_of_le hf with hlt | heq
  · have := (round_between x).2
    have := (round_between y).1
    omega
  · -- same floor: rounding `x` up and `y` down would make both exact ties, hence `x = y`
    by_cases hxy : x = y
    · rw [hxy]; exact Int.le_refl _
    · rcases round_cases x with ⟨hx, dx⟩ | ⟨hx, dx⟩ <;> rcases round_cases y with ⟨hy, dy⟩ | ⟨hy, dy⟩
      · omega
      · omega
      · rw [heq] at dx
        exact absurd (Rat.le_antisymm h (by grind)) hxy
      · omega

theorem round_nonneg {x : Rat} (h : 0 ≤ x) : 0 ≤ roundHalfEven x := by
  have h0 : (0 : Int) ≤ x.floor := Rat.le_floor_iff.mpr (by simpa using h)
  have := (round_between x).1
  omega

theorem round_pos {x : Rat} (h : 1 / 2 < x) : 0 < roundHalfEven x := by
  have := (round_near x).2
  exact Rat.intCast_lt_intCast.mp (by grind : ((0 : Int) : Rat) < roundHalfEven x)

/-! ## `_col_widths` is the running sum scaled by `W / Σ w` -/

theorem cumFrom_eq_map (tot W a : Rat) (ws : List Rat) (s : Rat) :
    cumFrom tot W (a + s * W / tot) ws = (prefFrom s ws).map (fun p => a + p * W / tot) := by
  induction ws generalizing s with
  | nil => simp [cumFrom, prefFrom]
  | cons w ws ih =>
    have e : a + s * W / tot + w * W / tot = a + (s + w) * W / tot := by
      simp only [Rat.div_def]; grind
    simp only [cumFrom, prefFrom, List.map_cons, e, ih]

theorem colWidths_eq_exact (w : List Rat) (W : Rat) : colWidths w W = exactPositions w W := by
  have h := cumFrom_eq_map (sumQ w) W 0 w 0
  have e0 : (0 : Rat) + 0 * W / sumQ w = 0 := by simp only [Rat.div_def]; grind
  rw [e0] at h
  unfold colWidths exactPositions
  rw [h]
  apply List.map_congr_left
  intro p _
  grind

theorem prefFrom_length (s : Rat) (ws : List Rat) : (prefFrom s ws).length = ws.length := by
  induction ws generalizing s with
  | nil => rfl
  | cons w ws ih => simp [prefFrom, ih]

theorem colWidths_length (w : List Rat) (W : Rat) : (colWidths w W).length = w.length := by
  rw [colWidths_eq_exact]; simp [exactPositions, prefFrom_length]

theorem prefFrom_getElem? (s : Rat) (w : List Rat) (k : Nat) (p : Rat)
    (h : (prefFrom s w)[k]? = some p) : p = s + sumQ (w.take (k + 1)) := by
  induction w generalizing s k with
  | nil => simp [prefFrom] at h
  | cons x xs ih =>
    cases k with
    | zero =>
      simp [prefFrom] at h
      simp [sumQ, Rat.add_zero, h]
    | succ k =>
      simp only [prefFrom, List.getElem?_cons_succ] at h
      have := ih (s + x) k h
      simp only [List.take_succ_cons, sumQ]
      rw [this]; grind

/-- boundary `k` sits at `W · (Σ_{i≤k} w_i) / Σ w` -/
theorem colWidths_getElem? (w : List Rat) (W : Rat) (k : Nat) (c : Rat) (h : (colWidths w W)[k]? = some c) :
    c = sumQ (w.take (k + 1)) * W / sumQ w := by
  rw [colWidths_eq_exact, exactPositions, List.getElem?_map] at h
  obtain ⟨p, hp, rfl⟩ := Option.map_eq_some_iff.mp h
  rw [prefFrom_getElem? 0 w k p hp]
  congr 2
  grind

theorem colWidths_getLast? (w : List Rat) (W : Rat) (hs : sumQ w ≠ 0) :
    (colWidths w W).getLast? = some W := by
  have hpos : 0 < w.length := List.length_pos_iff.mpr fun e => hs (e ▸ rfl)
  have hk : w.length - 1 < (colWidths w W).length := by rw [colWidths_length]; omega
  rw [List.getLast?_eq_getElem?, colWidths_length, List.getElem?_eq_getElem hk,
    colWidths_getElem? w W _ _ (List.getElem?_eq_getElem hk), Nat.sub_add_cancel hpos, List.take_length,
    Rat.mul_comm, Rat.mul_div_cancel hs]

/-! ## positivity and monotonicity -/

def AllPos (l : List Rat) : Prop := ∀ x ∈ l, 0 < x

theorem sumQ_pos (w : List Rat) (hne : w ≠ []) (hp : AllPos w) : 0 < sumQ w := by
  induction w with
  | nil => exact absurd rfl hne
  | cons x xs ih =>
    have hx : 0 < x := hp x (by simp)
    cases xs with
    | nil => simp [sumQ, Rat.add_zero]; exact hx
    | cons y ys =>
      have := ih (by simp) (fun z hz => hp z (by simp at hz ⊢; right; exact hz))
      simp only [sumQ] at this ⊢
      grind

/-- `colWidths_getLast?` for positive widths (their sum is not 0) -/
theorem colWidths_last (w : List Rat) (W : Rat) (hne : w ≠ []) (hp : AllPos w) :
    (colWidths w W).getLast? = some W :=
  colWidths_getLast? w W (by have := sumQ_pos w hne hp; grind)

theorem sumQ_nonneg (w : List Rat) (hp : AllPos w) : 0 ≤ sumQ w := by
  cases w with
  | nil => simp [sumQ]
  | cons x xs => exact Rat.le_of_lt (sumQ_pos _ (by simp) hp)

theorem cumFrom_increasing (tot W : Rat) (hW : 0 < W) (ht : 0 < tot) (ws : List Rat) (hp : AllPos ws)
    (acc : Rat) :
    (∀ c ∈ cumFrom tot W acc ws, acc < c) ∧ List.Pairwise (· < ·) (cumFrom tot W acc ws) := by
  induction ws generalizing acc with
  | nil => simp [cumFrom]
  | cons w ws ih =>
    have hw : 0 < w := hp w (by simp)
    have hinc : 0 < w * W / tot := by
      rw [Rat.div_def]
      exact Rat.mul_pos (Rat.mul_pos hw hW) (Rat.inv_pos.mpr ht)
    have ih' := ih (fun z hz => hp z (by simp; right; exact hz)) (acc + w * W / tot)
    simp only [cumFrom]
    constructor
    · intro c hc
      rcases List.mem_cons.mp hc with rfl | hc
      · grind
      · have := ih'.1 c hc; grind
    · exact List.pairwise_cons.mpr ⟨fun c hc => ih'.1 c hc, ih'.2⟩

/-- in inches: boundaries strictly increase and are strictly positive -/
theorem colWidths_increasing (w : List Rat) (W : Rat) (hW : 0 < W) (hp : AllPos w) :
    (∀ c ∈ colWidths w W, 0 < c) ∧ List.Pairwise (· < ·) (colWidths w W) := by
  cases w with
  | nil => simp [colWidths, cumFrom]
  | cons x xs =>
    exact cumFrom_increasing _ W hW (sumQ_pos _ (by simp) hp) _ hp 0

theorem twip_mono {x y : Rat} (h : x ≤ y) : twip x ≤ twip y := by
  unfold twip
  apply round_mono
  exact Rat.mul_le_mul_of_nonneg_right h (by decide)

/-- in twips: boundaries never decrease and are never negative -/
theorem twips_monotone (w : List Rat) (W : Rat) (hW : 0 < W) (hp : AllPos w) :
    (∀ t ∈ (colWidths w W).map twip, 0 ≤ t) ∧ List.Pairwise (· ≤ ·) ((colWidths w W).map twip) := by
  have ⟨hpos, hinc⟩ := colWidths_increasing w W hW hp
  constructor
  · intro t ht
    rcases List.mem_map.mp ht with ⟨c, hc, rfl⟩
    unfold twip
    apply round_nonneg
    exact Rat.mul_nonneg (Rat.le_of_lt (hpos c hc)) (by decide)
  · rw [List.pairwise_map]
    exact hinc.imp (fun h => twip_mono (Rat.le_of_lt h))

theorem slice_cons (w : Rat) (ws : List Rat) (k : Bool) (ks : List Bool) :
    slice (w :: ws) (k :: ks) = if k then w :: slice ws ks else slice ws ks := rfl

theorem nDisplayed_cons (k : Bool) (ks : List Bool) :
    nDisplayed (k :: ks) = nDisplayed ks + if k then 1 else 0 := by
  cases k <;> simp [nDisplayed]

theorem slice_length (l : List Rat) (keep : List Bool) (h : l.length = keep.length) :
    (slice l keep).length = nDisplayed keep := by
  induction l generalizing keep with
  | nil => cases keep with
    | nil => rfl
    | cons k ks => simp at h
  | cons x xs ih => cases keep with
    | nil => simp at h
    | cons k ks =>
      have := ih ks (by simpa using h)
      rw [slice_cons, nDisplayed_cons]
      cases k <;> simp [this]

theorem mem_slice {x : Rat} (l : List Rat) (keep : List Bool) (h : x ∈ slice l keep) : x ∈ l := by
  induction l generalizing keep with
  | nil => cases keep <;> simp [slice] at h
  | cons y ys ih => cases keep with
    | nil => simp [slice] at h
    | cons k ks =>
      cases k
      · exact List.mem_cons_of_mem _ (ih ks h)
      · rcases List.mem_cons.mp h with rfl | h
        · exact List.mem_cons_self
        · exact List.mem_cons_of_mem _ (ih ks h)

theorem nDisplayed_le (keep : List Bool) : nDisplayed keep ≤ keep.length := List.count_le_length

theorem nDisplayed_eq_length_iff (keep : List Bool) :
    nDisplayed keep = keep.length ↔ anyRemoved keep = false := by
  induction keep with
  | nil => simp [nDisplayed, anyRemoved]
  | cons k ks ih =>
    have hle := nDisplayed_le ks
    cases k
    · simp only [nDisplayed_cons, Bool.false_eq_true, if_false, anyRemoved, List.any_cons, List.length_cons,
        Bool.not_false, Bool.true_or, Bool.true_eq_false, iff_false]
      omega
    · simpa [nDisplayed_cons, anyRemoved] using ih

theorem nDisplayed_of_not_anyRemoved (keep : List Bool) (h : anyRemoved keep = false) :
    nDisplayed keep = keep.length :=
  (nDisplayed_eq_length_iff keep).mpr h

theorem nDisplayed_lt_of_anyRemoved (keep : List Bool) (h : anyRemoved keep = true) :
    nDisplayed keep < keep.length := by
  have hle := nDisplayed_le keep
  have hne : nDisplayed keep ≠ keep.length := fun e => by
    rw [(nDisplayed_eq_length_iff keep).mp e] at h
    exact Bool.false_ne_true h
  omega

/-- the resolved body vector before column removal: positive, one entry per column of the frame or already one per
displayed column (`bodyProcessed` slices it only in the first case) -/
def WFw (bw : List Rat) (keep : List Bool) : Prop :=
  AllPos bw ∧ (bw.length = keep.length ∨ bw.length = nDisplayed keep)

theorem bodyProcessed_wf (bw : List Rat) (keep : List Bool) (h : WFw bw keep) :
    AllPos (bodyProcessed bw keep) ∧ (bodyProcessed bw keep).length = nDisplayed keep := by
  obtain ⟨hp, hl⟩ := h
  unfold bodyProcessed
  by_cases hr : anyRemoved keep = true
  · by_cases hlen : bw.length = keep.length
    · simp only [hr, hlen, decide_true, Bool.and_self, if_true]
      exact ⟨fun x hx => hp x (mem_slice _ _ hx), slice_length _ _ hlen⟩
    · simp only [hr, hlen, decide_false, Bool.and_false, Bool.false_eq_true, if_false]
      exact ⟨hp, by omega⟩
  · have hr' : anyRemoved keep = false := by simpa using hr
    simp only [hr', Bool.false_and, Bool.false_eq_true, if_false]
    have := nDisplayed_of_not_anyRemoved keep hr'
    exact ⟨hp, by omega⟩

theorem bodyProcessed_ne_nil (bw : List Rat) (keep : List Bool) (h : WFw bw keep) (hd : 0 < nDisplayed keep) :
    bodyProcessed bw keep ≠ [] := by
  intro he
  have := (bodyProcessed_wf bw keep h).2
  rw [he] at this
  exact Nat.ne_of_gt hd this.symm

theorem rowQ_full (cum : List Rat) (n : Nat) (h : cum.length = n) : rowQ cum n = .ok cum := by
  simp [rowQ, ← h]

/-- data rows of a well-formed section are the cumulative widths of the displayed columns' widths -/
theorem dataRowQ_eq (bw : List Rat) (keep : List Bool) (W : Rat) (h : WFw bw keep)
    (hd : 0 < nDisplayed keep) :
    dataRowQ bw keep W = .ok (colWidths (bodyProcessed bw keep) W) := by
  have hne : (bodyProcessed bw keep).isEmpty = false := by
    simpa using bodyProcessed_ne_nil bw keep h hd
  unfold dataRowQ bodyCum
  simp only [hne, Bool.false_eq_true, if_false]
  exact rowQ_full _ _ (by rw [colWidths_length, (bodyProcessed_wf bw keep h).2])

/-- header with inherited widths = data rows, for ANY body vector and mask (errors included) -/
theorem headerRowQ_inherited (bw : List Rat) (keep : List Bool) (W : Rat) :
    headerRowQ (inheritHeader none bw) keep (nDisplayed keep) W = dataRowQ bw keep W := by
  unfold headerRowQ headerRowQWith headerDisplayed dataRowQ bodyCum bodyProcessed inheritHeader
  simp only [decide_true, Bool.and_true]
  split <;> split <;> rfl

/-- header with own widths (one per text cell) -/
theorem headerRowQ_own (hw : List Rat) (keep : List Bool) (n : Nat) (W : Rat)
    (hl : hw.length = n) (hn : 0 < n) :
    headerRowQ hw keep n W = .ok (colWidths hw W) := by
  have hd : headerDisplayed hw keep n = hw := by
    -- a removed column makes `nDisplayed keep < keep.length`: the vector cannot have both lengths
    rw [headerDisplayed, if_neg]
    simp only [Bool.and_eq_true, decide_eq_true_eq]
    rintro ⟨⟨hr, h1⟩, h2⟩
    have := nDisplayed_lt_of_anyRemoved keep hr
    omega
  have hne : hw.isEmpty = false := by
    cases hw with
    | nil => simp at hl; omega
    | cons _ _ => rfl
  unfold headerRowQ headerRowQWith
  simp only [hd, hne, Bool.false_eq_true, if_false]
  exact rowQ_full _ _ (by rw [colWidths_length, hl])

theorem colWidths_single (x W : Rat) (hx : x ≠ 0) : colWidths [x] W = [W] := by
  have hl := colWidths_length [x] W
  have hlast := colWidths_getLast? [x] W (by simpa [sumQ, Rat.add_zero] using hx)
  match hc : colWidths [x] W, hl, hlast with
  | [c], _, hlast => simp at hlast; simp [hlast]

/-- the one cell of a footnote / source row ends at the last boundary -/
theorem footRowQ_eq (w : List Rat) (W : Rat) (hs : sumQ w ≠ 0) : footRowQ w W = .ok [W] := by
  simp [footRowQ, rowQ, colWidths_getLast? w W hs]

theorem footRowQ_single (x W : Rat) (hx : x ≠ 0) : footRowQ [x] W = .ok [W] :=
  footRowQ_eq [x] W (by simpa [sumQ, Rat.add_zero] using hx)

/-! ## well-formed sections -/

def HeaderWF (keep : List Bool) (h : Header) : Prop :=
  match h.own with
  | none => h.ncells = nDisplayed keep
  | some l => AllPos l ∧ l.length = h.ncells ∧ 0 < h.ncells

def UserWF (uw : Option (List Rat)) (ncol ndisp : Nat) : Prop :=
  match uw with
  | none => True
  | some l => AllPos l ∧ (l.length = 1 ∨ l.length = ncol ∨ l.length = ndisp)

def FootWF (o : Option (List Rat)) : Prop := ∀ fw, o = some fw → ∃ x, fw = [x] ∧ 0 < x

/-- the domain of C08: consistent shapes, positive widths, at least one displayed column -/
structure WFSection (s : Section) : Prop where
  keepLen : s.keep.length = s.ncol
  disp : 0 < nDisplayed s.keep
  Wpos : 0 < s.W
  user : UserWF s.userW s.ncol (nDisplayed s.keep)
  headers : ∀ h ∈ s.headers, HeaderWF s.keep h
  foot : FootWF s.footW
  src : FootWF s.srcW

theorem allPos_replicate (n : Nat) (x : Rat) (hx : 0 < x) : AllPos (List.replicate n x) := by
  intro y hy
  rw [List.eq_of_mem_replicate hy]; exact hx

theorem resolveBody_wf (uw : Option (List Rat)) (ncol : Nat) (keep : List Bool)
    (hk : keep.length = ncol) (hd : 0 < nDisplayed keep) (hu : UserWF uw ncol (nDisplayed keep)) :
    WFw (resolveBody uw ncol) keep := by
  have hle := nDisplayed_le keep
  cases uw with
  | none =>
    exact ⟨allPos_replicate _ _ (by decide), Or.inl (by simp [resolveBody, hk])⟩
  | some l =>
    obtain ⟨hp, hl⟩ := hu
    match l, hp, hl with
    | [], _, hl => simp at hl; omega
    | [x], hp, _ =>
      by_cases hn : ncol > 1
      · simp only [resolveBody, hn, if_true]
        exact ⟨allPos_replicate _ _ (hp x (by simp)), Or.inl (by simp [hk])⟩
      · simp only [resolveBody, hn, if_false]
        exact ⟨hp, Or.inl (by simp; omega)⟩
    | x :: y :: r, hp, hl =>
      refine ⟨hp, ?_⟩
      simp only [resolveBody]
      rcases hl with hl | hl | hl
      · simp at hl
      · left; omega
      · right; exact hl

/-- a row in inches that is the cumulative vector of some positive width list; for data rows and
inherited headers that list is the displayed columns' widths `pw` -/
def GoodQ (W : Rat) (pw : List Rat) (r : Kind × List Rat) : Prop :=
  ∃ l, AllPos l ∧ l ≠ [] ∧ r.2 = colWidths l W ∧
    ((r.1 = Kind.data ∨ ∃ j, r.1 = Kind.header j true) → l = pw)

theorem goodQ_last {W : Rat} {pw : List Rat} {r : Kind × List Rat} (h : GoodQ W pw r) :
    r.2.getLast? = some W := by
  obtain ⟨l, hp, hne, hv, _⟩ := h
  rw [hv]
  exact colWidths_last l W hne hp

/-- a one-cell row that is neither a data row nor an inherited header: `[W]` is the cumulative vector of `[x]` -/
theorem goodQ_single (W : Rat) (pw : List Rat) (k : Kind) (hk : k = Kind.span ∨ k = Kind.foot ∨ k = Kind.source)
    (x : Rat) (hx : 0 < x) : GoodQ W pw (k, [W]) := by
  refine ⟨[x], fun y hy => List.mem_singleton.mp hy ▸ hx, by simp, (colWidths_single x W (by grind)).symm, ?_⟩
  rintro (hk' | ⟨j, hk'⟩) <;> rcases hk with rfl | rfl | rfl <;> cases hk'

/-- one header row: the data rows' vector when the widths are inherited, the cumulative vector of its own widths
otherwise -/
theorem headerRowQ_ok (bw : List Rat) (keep : List Bool) (W : Rat) (hbw : WFw bw keep) (hd : 0 < nDisplayed keep)
    (h : Header) (hwf : HeaderWF keep h) (i : Nat) :
    ∃ r, headerRowQ (inheritHeader h.own bw) keep h.ncells W = .ok r ∧
      GoodQ W (bodyProcessed bw keep) (Kind.header i h.own.isNone, r) := by
  unfold HeaderWF at hwf
  cases ho : h.own with
  | none =>
    rw [ho] at hwf
    rw [hwf, headerRowQ_inherited, dataRowQ_eq bw keep W hbw hd]
    exact ⟨_, rfl, _, (bodyProcessed_wf bw keep hbw).1, bodyProcessed_ne_nil bw keep hbw hd, rfl, fun _ => rfl⟩
  | some l =>
    rw [ho] at hwf
    obtain ⟨hlp, hll, hn⟩ := hwf
    refine ⟨_, headerRowQ_own l keep h.ncells W hll hn, l, hlp, ?_, rfl, ?_⟩
    · rintro rfl
      exact Nat.ne_of_gt hn hll.symm
    · rintro (hk | ⟨j, hk⟩) <;> simp at hk

theorem headerRowsQ_ok (bw : List Rat) (keep : List Bool) (W : Rat) (hbw : WFw bw keep)
    (hd : 0 < nDisplayed keep) (hs : List Header) (hh : ∀ h ∈ hs, HeaderWF keep h) (i : Nat) :
    ∃ rows, headerRowsQ bw keep W i hs = .ok rows ∧
      (∀ r ∈ rows, GoodQ W (bodyProcessed bw keep) r) ∧ (∀ r ∈ rows, ∃ j b, r.1 = Kind.header j b) := by
  induction hs generalizing i with
  | nil => exact ⟨[], rfl, by simp, by simp⟩
  | cons h hs ih =>
    obtain ⟨rest, hrest, hgood, hkind⟩ := ih (fun x hx => hh x (List.mem_cons_of_mem _ hx)) (i + 1)
    obtain ⟨r, hr, hg⟩ := headerRowQ_ok bw keep W hbw hd h (hh h List.mem_cons_self) i
    refine ⟨(Kind.header i h.own.isNone, r) :: rest, ?_, List.forall_mem_cons.mpr ⟨hg, hgood⟩,
      List.forall_mem_cons.mpr ⟨⟨i, _, rfl⟩, hkind⟩⟩
    simp only [headerRowsQ, hr, hrest]
    rfl

theorem optRowQ_ok (k : Kind) (hk : k = Kind.span ∨ k = Kind.foot ∨ k = Kind.source) (o : Option (List Rat)) (W : Rat)
    (pw : List Rat) (h : FootWF o) :
    ∃ rows, optRowQ k o W = .ok rows ∧ ∀ r ∈ rows, GoodQ W pw r := by
  cases o with
  | none => exact ⟨[], rfl, by simp⟩
  | some fw =>
    obtain ⟨x, rfl, hx⟩ := h fw rfl
    refine ⟨[(k, [W])], ?_, ?_⟩
    · simp only [optRowQ, footRowQ_single x W (by grind)]; rfl
    · intro r hr
      rw [List.mem_singleton.mp hr]
      exact goodQ_single W pw k hk x hx

/-! ## the oracle accepts the model's rows -/

theorem withinOne_twip (c : Rat) : withinOne (twip c) (c * 1440) = true := by
  have ⟨a, b⟩ := round_near (c * 1440)
  unfold withinOne twip
  simp only [decide_eq_true_eq]
  constructor <;> grind

theorem allWithinOne_self (l : List Rat) : allWithinOne (l.map twip) l = true := by
  induction l with
  | nil => rfl
  | cons c cs ih => simp [allWithinOne, withinOne_twip, ih]

theorem edgeOk_of_last (eps W : Rat) (cx : List Int) (h : cx.getLast? = some (twip W)) :
    edgeOk eps W cx = true := by
  simp [edgeOk, h]

theorem getLast?_map_twip (v : List Rat) (W : Rat) (h : v.getLast? = some W) :
    (v.map twip).getLast? = some (twip W) := by
  rw [List.getLast?_map, h]; rfl

theorem rowViol_good (eps W : Rat) (pw : List Rat) (r : Kind × List Rat) (h : GoodQ W pw r) :
    rowViol eps W pw (some ((colWidths pw W).map twip)) r.1 (r.2.map twip) = [] := by
  have hl := getLast?_map_twip _ _ (goodQ_last h)
  obtain ⟨l, _, _, hv, hk⟩ := h
  unfold rowViol
  rw [edgeOk_of_last _ _ _ hl]
  obtain ⟨k, v⟩ := r
  simp only at hv hk ⊢
  subst hv
  cases k with
  | data =>
    obtain rfl := hk (Or.inl rfl)
    simp [← colWidths_eq_exact, allWithinOne_self]
  | header j b =>
    cases b with
    | true =>
      obtain rfl := hk (Or.inr ⟨j, rfl⟩)
      simp
    | false => rfl
  | span => rfl
  | foot => rfl
  | source => rfl

theorem checkFrom_nil_of_all (eps W : Rat) (dispW : List Rat) (dv : Option (List Int))
    (rows : List (Kind × List Int)) (h : ∀ r ∈ rows, rowViol eps W dispW dv r.1 r.2 = []) (i : Nat) :
    checkFrom eps W dispW dv i rows = [] := by
  induction rows generalizing i with
  | nil => rfl
  | cons r rs ih =>
    obtain ⟨k, cx⟩ := r
    have h0 := h (k, cx) (by simp)
    simp only at h0
    simp only [checkFrom, h0, List.map_nil, List.nil_append]
    exact ih (fun r hr => h r (by simp [hr])) (i + 1)

/-- a section's rows in inches converted cell by cell, as `sectionRows` does -/
def twipRows (rows : List (Kind × List Rat)) : List (Kind × List Int) :=
  rows.map fun (k, r) => (k, r.map twip)

theorem sectionRows_eq (s : Section) (rows : List (Kind × List Rat)) (h : sectionRowsQ s = .ok rows) :
    sectionRows s = .ok (twipRows rows) := by
  simp [sectionRows, h, twipRows]

theorem dataVecOf_append (hs rest : List (Kind × List Int)) (h : ∀ r ∈ hs, r.1 ≠ Kind.data) :
    dataVecOf (hs ++ rest) = dataVecOf rest := by
  unfold dataVecOf
  rw [List.find?_append]
  have : hs.find? (fun r => r.1 == Kind.data) = none := by
    apply List.find?_eq_none.mpr
    intro r hr
    simpa using h r hr
  simp [this]

/-- the rows of a well-formed section, explicitly; the spanning row is the cumulative vector of `[1]` -/
theorem sectionRowsQ_ok (s : Section) (h : WFSection s) :
    ∃ hs f g, sectionRowsQ s = .ok
        (hs ++ [(Kind.span, [s.W]),
                (Kind.data, colWidths (bodyProcessed (resolveBody s.userW s.ncol) s.keep) s.W)] ++ f ++ g) ∧
      (∀ r ∈ hs ++ [(Kind.span, [s.W]),
                (Kind.data, colWidths (bodyProcessed (resolveBody s.userW s.ncol) s.keep) s.W)] ++ f ++ g,
        GoodQ s.W (bodyProcessed (resolveBody s.userW s.ncol) s.keep) r) ∧
      (∀ r ∈ hs, ∃ j b, r.1 = Kind.header j b) := by
  have hbw := resolveBody_wf s.userW s.ncol s.keep h.keepLen h.disp h.user
  have hpp := (bodyProcessed_wf _ _ hbw).1
  have hpne := bodyProcessed_ne_nil _ _ hbw h.disp
  obtain ⟨hs, ehs, ghs, khs⟩ :=
    headerRowsQ_ok (resolveBody s.userW s.ncol) s.keep s.W hbw h.disp s.headers h.headers 0
  obtain ⟨f, ef, gf⟩ := optRowQ_ok Kind.foot (Or.inr (Or.inl rfl)) s.footW s.W
    (bodyProcessed (resolveBody s.userW s.ncol) s.keep) h.foot
  obtain ⟨g, eg, gg⟩ := optRowQ_ok Kind.source (Or.inr (Or.inr rfl)) s.srcW s.W
    (bodyProcessed (resolveBody s.userW s.ncol) s.keep) h.src
  have hW0 : s.W ≠ 0 := by have := h.Wpos; grind
  refine ⟨hs, f, g, ?_, ?_, khs⟩
  · simp only [sectionRowsQ, ehs, dataRowQ_eq _ _ _ hbw h.disp, ef, eg, spanRowQ, hW0, if_false]
    rfl
  · intro r hr
    simp only [List.mem_append, List.mem_cons, List.not_mem_nil, or_false] at hr
    rcases hr with ((hr | hr | hr) | hr) | hr
    · exact ghs r hr
    · subst hr
      exact goodQ_single s.W _ Kind.span (Or.inl rfl) 1 (by decide)
    · subst hr; exact ⟨_, hpp, hpne, rfl, fun _ => rfl⟩
    · exact gf r hr
    · exact gg r hr

end Proofs.Widths
