import Model.Encode
import Model.Escape
import Model.Convert
import Model.ConvertSpec
import Proofs.Escape
import Proofs.Convert
import Proofs.ConvNodes
import Proofs.LexPrint
import Proofs.TextInput
import Proofs.Encode
import Proofs.EncodeAttrs
import Proofs.EncodeLift
import Proofs.EncodeColor
/-!
Helper lemmas for `Props/C10enc.lean` and `Props/C11enc.lean`.

Part A — every text-bearing position of the whole-encoder model: which text hole it writes (`textNodes (convText conv
t)`) and where its `convert` flag is read (`FlagAt`): table cells, column headers, spanning headings, the subline_by
heading, title / subline / page header / footer, footnote / source.

Part B — the bytes of a text hole (`holeBytes_eq`: the escaper's output on the converted text); `hasInfix`, the
substring test of the examples that look into the encoder's output string.

Part C — the reader (`Model.Escape.decode`) on the rendering of conversion events (`decode_render`).

Part D — a text without `^ _ > < \n \\` has no token to convert: its one-pass reading is the text itself.
-/
namespace Proofs.EncodeText
open Model.Encode Model.Broadcast Model.Emit Model.Rtf Proofs.Encode Proofs.EncodeAttrs Proofs.EncodeLift
open Proofs.EncodeColor Generated

/-! ## Part A: positions -/

/-- the `convert` flag `TextContent` receives at position `(r, c)` of the attribute matrix `M`:
`BroadcastValue(value=text_convert).iloc(r, c)`, coerced by the `bool` field -/
def FlagAt (M : MatV) (r c : Nat) (conv : Bool) : Prop := ∃ v, ilocV M r c = .ok v ∧ v.toBool = .ok conv

theorem flagAt_unique {M : MatV} {r c : Nat} {a b : Bool} (ha : FlagAt M r c a) (hb : FlagAt M r c b) : a = b := by
  obtain ⟨v, h1, h2⟩ := ha
  obtain ⟨w, g1, g2⟩ := hb
  rw [h1] at g1
  cases g1
  rw [h2] at g2
  exact Except.ok.inj g2

/-- C11's `iloc` on boolean matrices is `BroadcastValue.iloc` of the encoder model -/
theorem convert_iloc (m : List (List Bool)) (r c : Nat) : Model.Convert.iloc m r c = Mat.iloc m r c := by
  unfold Model.Convert.iloc Mat.iloc
  cases m with
  | nil => rfl
  | cons row0 rest =>
    simp only [List.length_cons, Nat.succ_ne_zero, if_false, Mat.ncols, List.head?_cons, Option.map_some,
      Option.getD_some]
    split
    · next h0 => cases (row0 :: rest)[r % (rest.length + 1)]? <;> simp [h0]
    · next h0 => cases (row0 :: rest)[r % (rest.length + 1)]? <;> simp [h0]

/-- one table cell: the hole is the converted, escaped text; the flag is read at the cell's own position -/
theorem encodeCell_hole {k : ColorCtx} {A : TblAttrsOf MatV} {r j : Nat} {isLast : Bool} {text : Model.Encode.Str}
    {width : Option Rat} {cf : CellFmt} (h : encodeCell k A r j isLast text width = .ok cf) :
    ∃ conv, FlagAt A.convert r j conv ∧ cf.body = textNodes (convText conv text) := by
  obtain ⟨tv, tf, conv, w, h1, h2, _, _, _, h6⟩ := encodeCell_body h
  exact ⟨conv, ⟨tv.convert, textValsAt_convert h1, (resolveText_ok h2).2.2⟩, h6⟩

/-- one table row: one cell per value, every hole the converted display text (`""` for null) of its value -/
theorem encodeRow_holes {k : ColorCtx} {A : TblAttrsOf MatV} {cw : List Rat} {r : Nat}
    {cells : List (Option Model.Encode.Str)} {e : Elem} (h : encodeRow k A cw r cells = .ok e) :
    ∃ fmt : RowFmt, e = rowElem fmt ∧ fmt.cells.length = cells.length ∧
      ∀ j c, cells[j]? = some c → ∃ cf conv, fmt.cells[j]? = some cf ∧ FlagAt A.convert r j conv ∧
        cf.body = textNodes (convText conv (c.getD [])) := by
  obtain ⟨_, fmt, rfl, hlen, hcell⟩ := encodeRow_cells h
  refine ⟨fmt, rfl, hlen, ?_⟩
  intro j c hc
  obtain ⟨cf, hcf, henc⟩ := hcell j c hc
  obtain ⟨conv, hf, hb⟩ := encodeCell_hole henc
  exact ⟨cf, conv, hcf, hf, hb⟩

/-- a rendered column header: one row, one cell per header text, flags read at row 0 of the header's own attribute -/
theorem headerInner_holes {k : ColorCtx} {d : Doc} {p : Prep} {isFirst : Bool} {idx : Nat} {hdr : Header}
    {text : List Model.Encode.Str} {es : List Elem} (h : headerInner k d p isFirst idx hdr text = .ok es) :
    ∃ A fmt, hdr.attrs.mapM Attr.toNested = .ok A ∧ es = [rowElem fmt] ∧ fmt.cells.length = text.length ∧
      ∀ j t, text[j]? = some t → ∃ cf conv, fmt.cells[j]? = some cf ∧ FlagAt A.convert 0 j conv ∧
        cf.body = textNodes (convText conv t) := by
  obtain ⟨A, t, b, e, hA, rfl, he⟩ := headerInner_row h
  obtain ⟨fmt, rfl, hlen, hcell⟩ := encodeRow_holes he
  refine ⟨A, fmt, hA, rfl, by rw [hlen, List.length_map], ?_⟩
  intro j t ht
  exact hcell j (some t) (by rw [List.getElem?_map, ht]; rfl)

/-- the column whose attributes a spanning heading of level `level` reads -/
abbrev spanCol (d : Doc) (level : Nat) : Nat := Proofs.EncodeColor.spanColumn d level

/-- a spanning group heading: one row of one cell; the flag is the body's `text_convert` at row 0 of the page_by
column, `False` (the default of `encode_spanning_row`) when the body has no `text_convert` -/
theorem spanningRow_hole {k : ColorCtx} {d : Doc} {bodyA : TblAttrsOf MatV} {level : Nat} {text : String} {e : Elem}
    (h : spanningRow k d bodyA level text = .ok e) :
    ∃ fmt cf conv, e = rowElem fmt ∧ fmt.cells = [cf] ∧ cf.body = textNodes (convText conv text.toList) ∧
      ((bodyA.convert = none ∧ conv = false) ∨ (bodyA.convert ≠ none ∧ FlagAt bodyA.convert 0 (spanCol d level) conv)) := by
  obtain ⟨tv, x, _, _, _, _, _, _, _, _, _, _, _, _, hv, hx, _, _, _, rfl⟩ := spanningRow_parts h
  have hb := (resolveText_ok hx).2.2
  refine ⟨_, _, x.2, rfl, rfl, rfl, ?_⟩
  cases hm : bodyA.convert with
  | none =>
    rw [hm] at hv
    rw [← Except.ok.inj hv] at hb
    exact Or.inl ⟨rfl, (Except.ok.inj hb).symm⟩
  | some m =>
    rw [hm] at hv
    exact Or.inr ⟨nofun, tv.convert, hv, hb⟩

/-- the subline_by heading: the escaper alone (`convert` off) on the joined group values -/
theorem sublineHeading_hole (t : String) :
    sublineHeading t =
      Node.grp [cw0 "pard", cw0 "hyphpar", cwi "fi" 0, cwi "li" 0, cwi "ri" 0, cw0 "ql", cwi "fs" 18,
        Node.grp (Node.cw "f".toList (some 0) true :: textNodes (convText false t.toList)), cw0 "par"] := rfl

/-- the lines of a text component: line `i` is the converted text of line `i`, flag read at `(i, 0)` -/
theorem resolveLines_holes {k : ColorCtx} {a : TextAttrsOf MatV} {text : List Model.Encode.Str}
    {ls : List (TextFmt × List Node)} (h : resolveLines k a text = .ok ls) :
    ls.length = text.length ∧ ∀ i t, text[i]? = some t → ∃ tf conv,
      ls[i]? = some (tf, textNodes (convText conv t)) ∧ FlagAt a.convert i 0 conv := by
  obtain ⟨hl, hi⟩ := resolveLines_refs h
  refine ⟨hl, ?_⟩
  intro i t ht
  obtain ⟨tf, conv, _, _, _, _, h1, _, _, _, _, _, _, _, vconv, h9, h10⟩ := hi i t ht
  exact ⟨tf, conv, h1, vconv, h9, h10⟩

/-- `_encode_text(method="line")` -/
theorem encodeTextLine_inv {k : ColorCtx} {a : TextAttrsOf MatV} {text : List Model.Encode.Str} {n : Node}
    (h : encodeTextLine k a text = .ok n) :
    ∃ ls last body, resolveLines k a text = .ok ls ∧ ls.getLast? = some (last, body) ∧ n = linesParagraph last ls := by
  unfold encodeTextLine at h
  peel h as ls hl
  split at h
  · exact (throw_ok h).elim
  · next last body hlast =>
    cases pure_ok h
    exact ⟨ls, last, body, hl, hlast, rfl⟩

/-- title, subline, page header and page footer have one shape: nothing without text; otherwise the component's lines as
one paragraph, wrapped by `wrap` -/
theorem compLines_inv {α : Type} {k : ColorCtx} {wrap : Node → α} {c : Option TextComp} {r : List α}
    (h : (match c with
      | none => .ok []
      | some c => match c.text with
        | none => .ok []
        | some [] => .ok []
        | some text => do
          let a ← c.attrs.mapM Attr.toNested
          return [wrap (← encodeTextLine k a text)]) = Except.ok r) :
    (r = [] ∧ hasText c = false) ∨
    ∃ c' text a ls last body, c = some c' ∧ c'.text = some text ∧ text ≠ [] ∧
      c'.attrs.mapM Attr.toNested = .ok a ∧ resolveLines k a text = .ok ls ∧ ls.getLast? = some (last, body) ∧
      r = [wrap (linesParagraph last ls)] := by
  split at h
  · cases h; exact Or.inl ⟨rfl, rfl⟩
  · next c' =>
    split at h
    · next ht => cases h; exact Or.inl ⟨rfl, by simp [hasText, ht]⟩
    · next ht => cases h; exact Or.inl ⟨rfl, by simp [hasText, ht]⟩
    · next text hne htext =>
      peel h as a ha
      peel h as n hn
      cases pure_ok h
      obtain ⟨ls, last, body, h1, h2, rfl⟩ := encodeTextLine_inv hn
      exact Or.inr ⟨c', text, a, ls, last, body, rfl, htext, hne, ha, h1, h2, rfl⟩

/-- title / subline -/
theorem textElem_inv {k : ColorCtx} {c : Option TextComp} {es : List Elem} (h : textElem k c = .ok es) :
    (es = [] ∧ hasText c = false) ∨
    ∃ c' text a ls last body, c = some c' ∧ c'.text = some text ∧ text ≠ [] ∧
      c'.attrs.mapM Attr.toNested = .ok a ∧ resolveLines k a text = .ok ls ∧ ls.getLast? = some (last, body) ∧
      es = [[BlockG.plain [linesParagraph last ls]]] :=
  compLines_inv (wrap := fun n => [BlockG.plain [n]]) h

/-- `{\header …}` / `{\footer …}` -/
theorem pageHF_inv {k : ColorCtx} {word : String} {c : Option TextComp} {ns : List Node}
    (h : pageHF k word c = .ok ns) :
    (ns = [] ∧ hasText c = false) ∨
    ∃ c' text a ls last body, c = some c' ∧ c'.text = some text ∧ text ≠ [] ∧
      c'.attrs.mapM Attr.toNested = .ok a ∧ resolveLines k a text = .ok ls ∧ ls.getLast? = some (last, body) ∧
      ns = [Node.grp [cw0 word, linesParagraph last ls]] :=
  compLines_inv (wrap := fun n => Node.grp [cw0 word, n]) h

/-- footnote / source: as paragraph, one paragraph holding the (joined) text; as table, one row of one cell; the flag
is read at `(0, 0)` of the component's `text_convert` -/
theorem renderFoot_holes {k : ColorCtx} {d : Doc} {f : Foot} {o : Option String} {es : List Elem}
    (h : renderFoot k d f o = .ok es) :
    ∃ A, f.attrs.mapM Attr.toNested = .ok A ∧
      (f.asTable = false →
        (f.text.getD [] = [] ∧ es = []) ∨
        (f.text.getD [] ≠ [] ∧ ∃ tf conv, FlagAt A.convert 0 0 conv ∧
          es = [[BlockG.plain [paragraph tf (textNodes (convText conv (f.text.getD [])))]]])) ∧
      (f.asTable = true → ∃ fmt cf conv, es = [rowElem fmt] ∧ fmt.cells = [cf] ∧ FlagAt A.convert 0 0 conv ∧
        cf.body = textNodes (convText conv (f.text.getD []))) := by
  cases hat : f.asTable with
  | false =>
    obtain ⟨A, ls, hA, hls, rfl⟩ := renderFoot_lines h hat
    refine ⟨A, hA, fun _ => ?_, nofun⟩
    obtain ⟨hlen, hi⟩ := resolveLines_holes hls
    generalize f.text.getD [] = t at hlen hi ⊢
    cases t with
    | nil => exact Or.inl ⟨rfl, by rw [List.eq_nil_of_length_eq_zero hlen]; rfl⟩
    | cons c t =>
      obtain ⟨tf, conv, h1, h2⟩ := hi 0 _ rfl
      obtain ⟨x, rfl⟩ := List.length_eq_one_iff.mp hlen
      cases h1
      exact Or.inr ⟨List.cons_ne_nil c t, tf, conv, h2, rfl⟩
  | true =>
    obtain ⟨A, w, b, e, hA, _, rfl, _, he⟩ := renderFoot_row h hat
    refine ⟨A, hA, nofun, fun _ => ?_⟩
    obtain ⟨fmt, rfl, hlen, hcell⟩ := encodeRow_holes he
    obtain ⟨cf, conv, h1, h2, h3⟩ := hcell 0 _ rfl
    obtain ⟨x, hx⟩ := List.length_eq_one_iff.mp hlen
    rw [hx] at h1
    cases h1
    exact ⟨fmt, cf, conv, rfl, hx, h2, h3⟩

/-! ## Part B: the bytes of a text hole -/

/-- `p in s` for strings as character lists -/
def hasInfix (p : List Char) : List Char → Bool
  | [] => p.isEmpty
  | c :: t => p.isPrefixOf (c :: t) || hasInfix p t

open Model.Escape Model.Convert Proofs.Escape in
/-- the bytes a text hole prints (every character the encoder writes into a hole is 7-bit, so the character codes ARE
the bytes of the UTF-8 file) -/
def holeBytes (ns : List Node) : List Nat := (printNodes ns).map Char.toNat

/-- the code points of a text -/
def cps (t : List Char) : List Nat := t.map Char.toNat

theorem map_toNat_ofNat_ascii (l : List Nat) (h : ∀ b ∈ l, b < 128) : (l.map Char.ofNat).map Char.toNat = l := by
  rw [List.map_map]
  exact (List.map_congr_left fun b hb => Proofs.Convert.toNat_ofNat_of_lt (Nat.lt_trans (h b hb) (by decide))).trans
    (List.map_id l)

/-- the bytes of the hole written for text `t` under flag `conv` are the escaper's output on the converted text -/
theorem holeBytes_eq (conv : Bool) (t : List Char) :
    holeBytes (textNodes (convText conv t)) = Model.Escape.escape (cps (Model.Convert.convertCore conv t)) := by
  unfold holeBytes textNodes
  rw [Proofs.LexPrint.print_lexNodes]
  unfold convText
  exact map_toNat_ofNat_ascii _ (Proofs.Escape.escape_ascii _)

theorem print_hole (conv : Bool) (t : List Char) : printNodes (textNodes (convText conv t)) = convText conv t :=
  Proofs.LexPrint.print_lexNodes _

/-! ## Part C: the reader on rendered conversion events -/

section Reader
open Model.Escape Model.Convert Proofs.Escape

/-- what the reader shows of one conversion event: the character itself; the comparison sign and the blank rtflite
leaves after it (D15); nothing for a switch, a line break or a page field -/
def shown : Event → List Nat
  | .plain c => [c.toNat]
  | .mapped c => [c.toNat]
  | .ge => [8805, 32]
  | .le => [8804, 32]
  | _ => []

/-- formatting control words the reader meets for one event -/
def evWords : Event → Nat
  | .sup | .sub | .br | .pageNumber | .totalPage => 1
  | _ => 0

/-- the events the reader theorem covers: characters the round trip preserves (no raw `\ { }`, CR, LF) and the five
one-word switches `\super \sub \line \chpgn \totalpage`; not a verbatim (unknown) command, not the `NUMPAGES` field
group -/
def simpleEv : Event → Bool
  | .plain c => readable c.toNat
  | .mapped c => readable c.toNat
  | .verbatim _ => false
  | .pageField => false
  | _ => true

theorem cps_append (a b : List Char) : cps (a ++ b) = cps a ++ cps b := by
  simp [cps]

/-- a one-word switch: the reader counts one formatting word and shows nothing -/
theorem run_word (st : St) (g : Good st) (w : List Nat) (hw : w ∈ [cps rSuper, cps rSub, cps rLine, cps rChpgn,
    cps rTotalPage]) : run st w = { st with words := st.words + 1 } := by
  obtain ⟨hm, hs, hh⟩ := g
  obtain ⟨mode, uc, skip, hi, out, us, words, errs, stack⟩ := st
  simp only at hm hs hh
  subst hm hs hh
  simp only [List.mem_cons, List.not_mem_nil, or_false] at hw
  rcases hw with rfl | rfl | rfl | rfl | rfl <;>
    simp [cps, rSuper, rSub, rLine, rChpgn, rTotalPage, Model.Escape.run, Model.Escape.step, Model.Escape.stepGround,
      Model.Escape.isLetter, Model.Escape.isDigit, Model.Escape.applyCW, Model.Escape.endWord]

theorem run_event (st : St) (g : Good st) (e : Event) (he : simpleEv e = true) :
    ∃ uc', run st (escape (cps (renderEventD15 e))) =
      { st with uc := uc', out := (shown e).reverse ++ st.out, us := (uTrace (shown e)).reverse ++ st.us,
                words := st.words + evWords e } := by
  have word : ∀ (r : List Char), cps r ∈ [cps rSuper, cps rSub, cps rLine, cps rChpgn, cps rTotalPage] →
      escape (cps r) = cps r → ∃ uc', run st (escape (cps r)) =
        { st with uc := uc', out := st.out, us := st.us, words := st.words + 1 } := by
    intro r hr he
    exact ⟨st.uc, by rw [he, run_word st g _ hr]⟩
  have chars : ∀ (l : List Nat), (∀ n ∈ l, readable n = true) → ∃ uc', run st (escape l) =
      { st with uc := uc', out := l.reverse ++ st.out, us := (uTrace l).reverse ++ st.us, words := st.words + 0 } := by
    intro l hl
    obtain ⟨uc', h⟩ := run_escape l st g hl
    exact ⟨uc', by rw [h]; rfl⟩
  cases e with
  | plain c =>
    exact chars [c.toNat] (by intro n hn; simp only [List.mem_singleton] at hn; subst hn; exact he)
  | mapped c =>
    exact chars [c.toNat] (by intro n hn; simp only [List.mem_singleton] at hn; subst hn; exact he)
  | ge => exact chars [8805, 32] (by decide)
  | le => exact chars [8804, 32] (by decide)
  | sup => exact word rSuper (by simp) (by decide)
  | sub => exact word rSub (by simp) (by decide)
  | br => exact word rLine (by simp) (by decide)
  | pageNumber => exact word rChpgn (by simp) (by decide)
  | totalPage => exact word rTotalPage (by simp) (by decide)
  | pageField => cases he
  | verbatim w => cases he

theorem run_events : ∀ (es : List Event) (st : St), Good st → (∀ e ∈ es, simpleEv e = true) →
    ∃ uc', run st (escape (cps (renderD15 es))) =
      { st with uc := uc', out := (es.flatMap shown).reverse ++ st.out,
                us := (uTrace (es.flatMap shown)).reverse ++ st.us,
                words := st.words + (es.map evWords).sum }
  | [], st, _, _ => ⟨st.uc, by simp [renderD15, cps, escape, uTrace, run_nil]⟩
  | e :: es, st, g, h => by
    obtain ⟨uc1, h1⟩ := run_event st g e (h e (by simp))
    have g1 : Good (Model.Escape.run st (escape (cps (renderEventD15 e)))) := by
      rw [h1]; exact ⟨g.mode, g.skip, g.hi⟩
    obtain ⟨uc2, h2⟩ := run_events es _ g1 (fun x hx => h x (by simp [hx]))
    refine ⟨uc2, ?_⟩
    rw [Proofs.Convert.renderD15_cons, cps_append, Proofs.TextInput.escape_append, run_append, h2, h1]
    simp [List.reverse_append, uTrace, Nat.add_assoc]

/-- **the reader on converted text**: for events of the covered class, the reader shows exactly the events' characters,
counts one formatting word per switch, meets nothing malformed and closes every group -/
theorem decode_render (es : List Event) (h : ∀ e ∈ es, simpleEv e = true) :
    decode (escape (cps (renderD15 es))) =
      { text := es.flatMap shown, us := uTrace (es.flatMap shown), words := (es.map evWords).sum, errs := [],
        depth := 0 } := by
  have g0 : Good ({} : St) := ⟨rfl, rfl, rfl⟩
  obtain ⟨uc', hr⟩ := run_events es {} g0 h
  unfold decode
  rw [hr, finish_good _ ⟨rfl, rfl, rfl⟩]
  simp

theorem shown_readable (es : List Event) (h : ∀ e ∈ es, simpleEv e = true) :
    ∀ n ∈ es.flatMap shown, readable n = true := by
  intro n hn
  obtain ⟨e, he, hne⟩ := List.mem_flatMap.mp hn
  have hs := h e he
  cases e <;> simp only [shown, List.mem_cons, List.not_mem_nil, or_false] at hne
  · subst hne; exact hs
  · subst hne; exact hs
  · rcases hne with rfl | rfl <;> decide
  · rcases hne with rfl | rfl <;> decide

/-- the decidable oracle accepts a reading that shows readable characters with their own `\u` trace -/
theorem intact_of_readable (l : List Nat) (w : Nat) (h : ∀ n ∈ l, readable n = true) :
    intact l { text := l, us := uTrace l, words := w, errs := [], depth := 0 } = true := by
  have := uTrace_ok l (fun n hn => readable_lt n (h n hn))
  simp [intact, List.all_eq_true]
  intro e he
  exact (this e he).1

end Reader

/-! ## Part D: texts without conversion-triggering characters -/

section Inert
open Model.Convert

/-- a character that starts no documented token and no command: not `^ _ > < \n \\` -/
def inertC (c : Char) : Bool := c != '^' && c != '_' && c != '>' && c != '<' && c != '\n' && c != '\\'

theorem findTok_inert (c : Char) (t : List Char) (h : inertC c = true) : findTok (c :: t) = none := by
  simp only [inertC, Bool.and_eq_true, bne_iff_ne, ne_eq] at h
  obtain ⟨⟨⟨⟨⟨h1, h2⟩, h3⟩, h4⟩, h5⟩, h6⟩ := h
  have e1 : ('^' == c) = false := by simpa using Ne.symm h1
  have e2 : ('_' == c) = false := by simpa using Ne.symm h2
  have e3 : ('>' == c) = false := by simpa using Ne.symm h3
  have e4 : ('<' == c) = false := by simpa using Ne.symm h4
  have e5 : ('\n' == c) = false := by simpa using Ne.symm h5
  have e6 : ('\\' == c) = false := by simpa using Ne.symm h6
  simp [findTok, docTokens, List.find?, List.isPrefixOf, patPageNumber, patTotalPage, patPageField,
    e1, e2, e3, e4, e5, e6]

theorem inertC_ne_backslash {c : Char} (h : inertC c = true) : c ≠ '\\' := by
  simp only [inertC, Bool.and_eq_true, bne_iff_ne, ne_eq] at h
  exact h.2

theorem specGo_inert (tbl : List (List Char × Nat)) : ∀ (t : List Char), t.all inertC = true →
    specGo tbl 0 t = t.map Event.plain
  | [], _ => rfl
  | c :: t, h => by
    simp only [List.all_cons, Bool.and_eq_true] at h
    rw [specGo, findTok_inert c t h.1]
    simp only [inertC_ne_backslash h.1, if_false, List.map_cons]
    rw [specGo_inert tbl t h.2]

theorem regularGo_inert : ∀ (t : List Char), t.all inertC = true → regularGo 0 t = true
  | [], _ => rfl
  | c :: t, h => by
    simp only [List.all_cons, Bool.and_eq_true] at h
    rw [regularGo, findTok_inert c t h.1]
    simp only [inertC_ne_backslash h.1, if_false]
    exact regularGo_inert t h.2

theorem renderD15_plain (t : List Char) : renderD15 (t.map Event.plain) = t := by
  induction t with
  | nil => rfl
  | cons c t ih =>
    rw [List.map_cons, Proofs.Convert.renderD15_cons, ih]
    rfl

end Inert

end Proofs.EncodeText
