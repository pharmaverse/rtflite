import Model.Escape
/-!
Helper lemmas for C10: the reader `decode` run over the writer's output `escape t`.

Plan: `run` is a left fold, so it splits over `++` (`run_append`); the output of the escaper for one
code point is a constant prefix, the decimal digits of a signed 16-bit number and `*`; the digits are
handled by `run_num` / `run_intRepr` (with `digitsVal (natDigits n) = n`), the rest by evaluation.
-/
namespace Proofs.Escape
open Model.Escape

def digitsVal (acc : Nat) (ds : List Nat) : Nat := ds.foldl (fun a d => a * 10 + d) acc

theorem digitsVal_nil (acc : Nat) : digitsVal acc [] = acc := rfl

theorem digitsVal_cons (acc d : Nat) (ds : List Nat) : digitsVal acc (d :: ds) = digitsVal (acc * 10 + d) ds := rfl

theorem digitsVal_aux (fuel : Nat) : ∀ n acc, n < fuel →
    digitsVal 0 (natDigitsAux fuel n acc) = digitsVal n acc := by
  induction fuel with
  | zero => intro n acc h; omega
  | succ f ih =>
    intro n acc h
    unfold natDigitsAux
    split
    · rw [digitsVal_cons, Nat.zero_mul, Nat.zero_add]
    · rw [ih (n / 10) _ (by omega), digitsVal_cons, Nat.div_add_mod' n 10]

theorem digitsVal_natDigits (n : Nat) : digitsVal 0 (natDigits n) = n := by
  unfold natDigits
  rw [digitsVal_aux _ _ _ (by omega), digitsVal_nil]

theorem natDigitsAux_lt (fuel : Nat) : ∀ n acc, n < fuel → (∀ d ∈ acc, d < 10) →
    ∀ d ∈ natDigitsAux fuel n acc, d < 10 := by
  induction fuel with
  | zero => intro n acc h; omega
  | succ f ih =>
    intro n acc h hacc
    unfold natDigitsAux
    split
    · exact List.forall_mem_cons.mpr ⟨by assumption, hacc⟩
    · exact ih _ _ (by omega) (List.forall_mem_cons.mpr ⟨by omega, hacc⟩)

theorem natDigits_lt (n : Nat) : ∀ d ∈ natDigits n, d < 10 :=
  natDigitsAux_lt _ _ _ (by omega) (by simp)

theorem natDigits_ne_nil (n : Nat) : natDigits n ≠ [] := by
  intro h
  have := digitsVal_natDigits n
  rw [h, digitsVal_nil] at this
  subst this
  simp [natDigits, natDigitsAux] at h

theorem run_append (st : St) (a b : List Nat) : run st (a ++ b) = run (run st a) b :=
  List.foldl_append

theorem run_cons (st : St) (a : Nat) (b : List Nat) : run st (a :: b) = run (step st a) b := rfl

theorem run_nil (st : St) : run st [] = st := rfl

theorem isDigit_add (d : Nat) (h : d < 10) : isDigit (d + 48) = true := by
  simp [isDigit]; omega

/-- digits continue a numeric parameter -/
theorem run_num (ds : List Nat) : ∀ (st : St) (nm : List Nat) (neg : Bool) (acc : Nat),
    (∀ d ∈ ds, d < 10) →
    run { st with mode := .num nm neg acc } (ds.map (· + 48)) =
      { st with mode := .num nm neg (digitsVal acc ds) } := by
  induction ds with
  | nil => intros; rfl
  | cons d ds ih =>
    intro st nm neg acc h
    have hd : d < 10 := h d (by simp)
    simp only [List.map_cons, run_cons]
    have : step { st with mode := .num nm neg acc } (d + 48) = { st with mode := .num nm neg (acc * 10 + d) } := by
      simp [step, isDigit_add d hd]
    rw [this, ih _ _ _ _ (fun x hx => h x (by simp [hx])), digitsVal_cons]

/-- the decimal number after a control word's letters -/
theorem run_intRepr (st : St) (nm : List Nat) (i : Int) :
    run { st with mode := .word nm } (intRepr i) =
      { st with mode := .num nm (decide (i < 0)) i.natAbs } := by
  have hlt := natDigits_lt i.natAbs
  have hval := digitsVal_natDigits i.natAbs
  unfold intRepr
  cases hds : natDigits i.natAbs with
  | nil => exact absurd hds (natDigits_ne_nil _)
  | cons d ds =>
    rw [hds] at hlt hval
    have hd : d < 10 := hlt d List.mem_cons_self
    -- once the first digit is read the sign is in the state, and the other digits are accumulated
    have rest : ∀ neg, run { st with mode := .num nm neg d } (ds.map (· + 48)) =
        { st with mode := .num nm neg i.natAbs } := fun neg => by
      rw [run_num ds _ _ _ _ (fun x hx => hlt x (List.mem_cons_of_mem _ hx)), ← hval, digitsVal_cons, Nat.zero_mul,
        Nat.zero_add]
    split
    · next hneg =>
      -- `45` is `-`
      have h1 : step { st with mode := .word nm } 45 = { st with mode := .minus nm } := by
        simp [step, isLetter, isDigit]
      have h2 : step { st with mode := .minus nm } (d + 48) = { st with mode := .num nm true d } := by
        simp [step, isDigit_add d hd]
      rw [List.map_cons, run_cons, h1, run_cons, h2, rest, decide_eq_true hneg]
    · next hneg =>
      have h2 : step { st with mode := .word nm } (d + 48) = { st with mode := .num nm false d } := by
        have : isLetter (d + 48) = false := by simp [isLetter]; omega
        simp [step, isDigit_add d hd, this]
      rw [List.map_cons, run_cons, h2, rest, decide_eq_false hneg]

/-- reader state right after `\uc1\uN*` (`42` is `*`, the fallback character) -/
def stU (st : St) (N : Int) : St := stepGround (applyU { st with uc := 1 } (some N)) 42

theorem run_escUnit (st : St) (hm : st.mode = .ground) (hs : st.skip = 0) (u : Nat) :
    run st (escUnit u) = stU st (signed16 u) := by
  unfold escUnit
  rw [run_append, run_append]
  -- the bytes of `\uc1\u`; `117` is `u`
  have h1 : run st [92, 117, 99, 49, 92, 117] = { st with mode := .word [117], uc := 1 } := by
    simp [run, step, stepGround, isLetter, isDigit, applyCW, endWord, hm, hs]
  have h2 := run_intRepr { st with uc := 1 } [117] (signed16 u)
  simp only at h2
  rw [h1, h2]
  simp only [run_cons, run_nil, step, isDigit, stU, endWord, applyCW]
  have : (if signed16 u < 0 then -((signed16 u).natAbs : Int) else ((signed16 u).natAbs : Int))
      = signed16 u := by
    split <;> omega
  simp [this, hm]

theorem signed16_mod (u : Nat) (h : u < 65536) : (signed16 u % 65536).toNat = u := by
  unfold signed16; split <;> omega

theorem signed16_range (u : Nat) (h : u < 65536) : -32768 ≤ signed16 u ∧ signed16 u ≤ 32767 := by
  unfold signed16; split <;> omega

theorem signed16_not_out (u : Nat) (h : u < 65536) : ¬ (signed16 u < -32768 ∨ signed16 u > 32767) := by
  have := signed16_range u h
  omega

theorem stU_bmp (st : St) (hs : st.skip = 0) (hh : st.hi = none) (u : Nat)
    (h : u < 0xD800 ∨ (0xE000 ≤ u ∧ u < 0x10000)) :
    stU st (signed16 u) =
      { st with uc := 1, out := u :: st.out, us := { arg := signed16 u, uc := 1, skipped := 1 } :: st.us } := by
  have hu : u < 65536 := by omega
  have h2 : ¬ (0xD800 ≤ u ∧ u < 0xDC00) := by omega
  have h3 : ¬ (0xDC00 ≤ u ∧ u < 0xE000) := by omega
  simp [stU, applyU, hs, hh, signed16_not_out u hu, signed16_mod u hu, h2, h3, stepGround, emitChar, bump]

theorem stU_high (st : St) (hs : st.skip = 0) (hh : st.hi = none) (u : Nat)
    (h : 0xD800 ≤ u ∧ u < 0xDC00) :
    stU st (signed16 u) =
      { st with uc := 1, hi := some u, us := { arg := signed16 u, uc := 1, skipped := 1 } :: st.us } := by
  have hu : u < 65536 := by omega
  simp [stU, applyU, hs, hh, signed16_not_out u hu, signed16_mod u hu, h, stepGround, emitChar, bump]

theorem stU_low (st : St) (hs : st.skip = 0) (hv : Nat) (hh : st.hi = some hv) (u : Nat)
    (h : 0xDC00 ≤ u ∧ u < 0xE000) :
    stU st (signed16 u) =
      { st with uc := 1, hi := none, out := (0x10000 + (hv - 0xD800) * 1024 + (u - 0xDC00)) :: st.out,
                us := { arg := signed16 u, uc := 1, skipped := 1 } :: st.us } := by
  have hu : u < 65536 := by omega
  have h2 : ¬ (0xD800 ≤ u ∧ u < 0xDC00) := by omega
  simp [stU, applyU, hs, hh, signed16_not_out u hu, signed16_mod u hu, h, h2, stepGround, emitChar, bump]

/-- the reader is between characters: no control sequence open, no fallback due, no surrogate pending -/
structure Good (st : St) : Prop where
  mode : st.mode = .ground
  skip : st.skip = 0
  hi : st.hi = none

theorem readable_iff (n : Nat) : readable n = true ↔
    ((n < 0xD800 ∨ (0xE000 ≤ n ∧ n < 0x110000)) ∧ n ≠ 92 ∧ n ≠ 123 ∧ n ≠ 125 ∧ n ≠ 10 ∧ n ≠ 13) := by
  simp [readable, isScalar]
  omega

theorem run_escapeCp (st : St) (g : Good st) (n : Nat) (hn : readable n = true) :
    ∃ uc', run st (escapeCp n) =
      { st with uc := uc', out := n :: st.out, us := (uTraceCp n).reverse ++ st.us } := by
  obtain ⟨hm, hs, hh⟩ := g
  rw [readable_iff] at hn
  unfold escapeCp uTraceCp
  by_cases h128 : n < 128
  · refine ⟨st.uc, ?_⟩
    have h1 : n ≠ 92 := hn.2.1
    have h2 : n ≠ 123 := hn.2.2.1
    have h3 : n ≠ 125 := hn.2.2.2.1
    have h4 : ¬ (n = 10 ∨ n = 13) := by omega
    have h5 : ansi n = n := by simp [ansi]; omega
    simp [h128, run_cons, run_nil, step, stepGround, hm, hs, hh, h1, h2, h3, h4, h5, emitChar]
  · refine ⟨1, ?_⟩
    simp only [h128, if_false]
    unfold codeUnits
    by_cases hb : n < 0x10000
    · simp only [hb, if_true, List.flatMap_cons, List.flatMap_nil, List.append_nil, List.map_cons, List.map_nil,
        List.reverse_cons, List.reverse_nil, List.nil_append, List.singleton_append]
      rw [run_escUnit st hm hs, stU_bmp st hs hh n (by omega)]
    · simp only [hb, if_false, List.flatMap_cons, List.flatMap_nil, List.append_nil, List.map_cons, List.map_nil,
        List.reverse_cons, List.reverse_nil, List.nil_append]
      rw [run_append, run_escUnit st hm hs, stU_high st hs hh _ (by omega)]
      rw [run_escUnit _ (by simpa using hm) (by simpa using hs),
          stU_low _ (by simpa using hs) (0xD800 + (n - 0x10000) / 1024) (by simp) _ (by omega)]
      -- what is left: no surrogate was pending before, and the pair recombines to `n`
      simp
      exact ⟨hh.symm, by omega⟩

theorem uTrace_cons (n : Nat) (t : List Nat) : uTrace (n :: t) = uTraceCp n ++ uTrace t := by
  simp [uTrace]

theorem escape_cons (n : Nat) (t : List Nat) : escape (n :: t) = escapeCp n ++ escape t := by
  simp [escape]

theorem run_escape (t : List Nat) : ∀ (st : St), Good st → (∀ n ∈ t, readable n = true) →
    ∃ uc', run st (escape t) =
      { st with uc := uc', out := t.reverse ++ st.out, us := (uTrace t).reverse ++ st.us } := by
  induction t with
  | nil => intro st _ _; exact ⟨st.uc, by simp [escape, uTrace, run_nil]⟩
  | cons n t ih =>
    intro st g h
    obtain ⟨uc1, h1⟩ := run_escapeCp st g n (h n (by simp))
    have g1 : Good { st with uc := uc1, out := n :: st.out, us := (uTraceCp n).reverse ++ st.us } :=
      ⟨g.mode, g.skip, g.hi⟩
    obtain ⟨uc2, h2⟩ := ih _ g1 (fun x hx => h x (by simp [hx]))
    refine ⟨uc2, ?_⟩
    rw [escape_cons, run_append, h1, h2, uTrace_cons]
    simp [List.reverse_append]

theorem finish_good (st : St) (g : Good st) : finish st = st := by
  obtain ⟨hm, _, hh⟩ := g
  simp [finish, hm, hh]

/-- what the reader shows for an escaped text: the text itself -/
theorem decode_escape (t : List Nat) (h : ∀ n ∈ t, readable n = true) :
    decode (escape t) = { text := t, us := uTrace t, words := 0, errs := [], depth := 0 } := by
  have g0 : Good ({} : St) := ⟨rfl, rfl, rfl⟩
  obtain ⟨uc', hr⟩ := run_escape t {} g0 h
  unfold decode
  rw [hr, finish_good _ ⟨rfl, rfl, rfl⟩]
  simp

theorem codeUnits_lt (n : Nat) (h : n < 0x110000) : ∀ u ∈ codeUnits n, u < 65536 := by
  unfold codeUnits
  split
  · intro u hu; simp at hu; omega
  · intro u hu; simp at hu; omega

theorem uTraceCp_ok (n : Nat) (h : n < 0x110000) : ∀ e ∈ uTraceCp n, uOk e = true ∧ e.uc = 1 := by
  unfold uTraceCp
  split
  · simp
  · intro e he
    simp only [List.mem_map] at he
    obtain ⟨u, hu, rfl⟩ := he
    have := signed16_range u (codeUnits_lt n h u hu)
    simp [uOk, this]

theorem uTrace_ok (t : List Nat) (h : ∀ n ∈ t, n < 0x110000) : ∀ e ∈ uTrace t, uOk e = true ∧ e.uc = 1 := by
  intro e he
  simp only [uTrace, List.mem_flatMap] at he
  obtain ⟨n, hn, he⟩ := he
  exact uTraceCp_ok n (h n hn) e he

theorem readable_lt (n : Nat) (h : readable n = true) : n < 0x110000 := by
  rw [readable_iff] at h; omega

theorem intact_escape (t : List Nat) (h : ∀ n ∈ t, readable n = true) :
    intact t (decode (escape t)) = true := by
  rw [decode_escape t h]
  have := uTrace_ok t (fun n hn => readable_lt n (h n hn))
  simp [intact, List.all_eq_true]
  intro e he
  exact (this e he).1

theorem natDigits_ascii (n : Nat) : ∀ b ∈ (natDigits n).map (· + 48), b < 128 :=
  List.forall_mem_map.mpr fun d hd => by
    have := natDigits_lt n d hd
    omega

theorem intRepr_ascii (i : Int) : ∀ b ∈ intRepr i, b < 128 := by
  unfold intRepr
  split
  · exact List.forall_mem_cons.mpr ⟨by decide, natDigits_ascii _⟩
  · exact natDigits_ascii _

theorem escUnit_ascii (u : Nat) : ∀ b ∈ escUnit u, b < 128 :=
  List.forall_mem_append.mpr ⟨List.forall_mem_append.mpr ⟨by decide, intRepr_ascii _⟩, by decide⟩

/-- the escaper emits 7-bit characters only — for every input whatsoever -/
theorem escape_ascii (t : List Nat) : ∀ b ∈ escape t, b < 128 := by
  intro b hb
  simp only [escape, List.mem_flatMap] at hb
  obtain ⟨n, _, hb⟩ := hb
  unfold escapeCp at hb
  split at hb
  · simp at hb; omega
  · simp only [List.mem_flatMap] at hb
    obtain ⟨u, _, hb⟩ := hb
    exact escUnit_ascii u b hb

theorem utf8_ascii (l : List Nat) (h : ∀ b ∈ l, b < 128) : utf8 l = some l := by
  induction l with
  | nil => rfl
  | cons a l ih =>
    have ha : a < 128 := h a (by simp)
    have := ih (fun b hb => h b (by simp [hb]))
    have h1 : a < 0x80 := by omega
    simp [utf8, utf8Cp, this, h1]

/-- 7-bit text is its own UTF-8 encoding: the bytes `write_text` puts on disk are the escaper's output -/
theorem utf8_escape (t : List Nat) : utf8 (escape t) = some (escape t) :=
  utf8_ascii _ (escape_ascii t)

theorem joinComma_readable (parts : List (List Nat)) (h : ∀ p ∈ parts, ∀ n ∈ p, readable n = true) :
    ∀ n ∈ joinComma parts, readable n = true := by
  induction parts with
  | nil => simp [joinComma]
  | cons a r ih =>
    cases r with
    | nil => simpa [joinComma] using h
    | cons b r =>
      intro n hn
      simp only [joinComma, List.mem_append, List.mem_cons, List.mem_nil_iff, or_false] at hn
      rcases hn with (hn | hn) | hn
      · exact h a (by simp) n hn
      · rcases hn with rfl | rfl <;> decide
      · exact ih (fun p hp => h p (by simp [hp])) n hn

theorem run_sublinePrefix :
    run {} sublinePrefix = { mode := .ground, uc := 1, words := 8, stack := [1, 1] } := by
  decide

/-- the reader shows the subline_by heading paragraph as the joined group values -/
theorem decode_sublineHeader (vals : List (Option (List Nat)))
    (h : ∀ s, some s ∈ vals → ∀ n ∈ s, readable n = true) (hne : formatGroupHeader vals ≠ []) :
    decode (sublineHeader vals) =
      { text := formatGroupHeader vals, us := uTrace (formatGroupHeader vals), words := 9, errs := [], depth := 0 } := by
  have hr : ∀ n ∈ formatGroupHeader vals, readable n = true := by
    apply joinComma_readable
    intro p hp
    simp only [List.mem_filterMap, id] at hp
    obtain ⟨v, hv, rfl⟩ := hp
    exact h p hv
  unfold sublineHeader
  simp only [hne, if_false]
  unfold decode
  rw [run_append, run_append, run_sublinePrefix]
  obtain ⟨uc', he⟩ := run_escape (formatGroupHeader vals) { mode := .ground, uc := 1, words := 8, stack := [1, 1] }
    ⟨rfl, rfl, rfl⟩ hr
  rw [he]
  simp [sublineSuffix, run, step, stepGround, isLetter, isDigit, applyCW, endWord, finish]

/-! ### from code points to `Char` -/

theorem char_range (c : Char) : c.toNat < 0xD800 ∨ (0xE000 ≤ c.toNat ∧ c.toNat < 0x110000) := by
  have h := c.valid
  rw [UInt32.isValidChar, Char.toNat_val, Nat.isValidChar] at h
  omega

/-- a `Char` is a Unicode scalar value -/
theorem char_scalar (c : Char) : isScalar c.toNat = true := by
  have h := char_range c
  simp [isScalar]
  omega

/-- the property's domain lies inside what the round trip needs -/
theorem inDomain_readable (n : Nat) (h : inDomain n = true) : readable n = true := by
  simp only [inDomain, isControl, readable, Bool.and_eq_true, Bool.not_eq_true', Bool.or_eq_false_iff,
    bne_iff_ne, ne_eq, decide_eq_false_iff_not, Bool.and_eq_false_imp, decide_eq_true_eq] at *
  obtain ⟨⟨⟨⟨hs, hc⟩, h1⟩, h2⟩, h3⟩ := h
  refine ⟨⟨⟨⟨⟨hs, h1⟩, h2⟩, h3⟩, ?_⟩, ?_⟩ <;> omega

/-- for a `Char`, being readable is just "not one of `\ { }` CR LF" -/
theorem char_readable (c : Char) (h : c ≠ '\\' ∧ c ≠ '{' ∧ c ≠ '}' ∧ c ≠ '\n' ∧ c ≠ '\r') :
    readable c.toNat = true := by
  obtain ⟨h1, h2, h3, h4, h5⟩ := h
  have e : ∀ d : Char, c ≠ d → c.toNat ≠ d.toNat := fun d hd hn => hd (Char.toNat_inj.mp hn)
  exact (readable_iff _).mpr ⟨char_range c, e '\\' h1, e '{' h2, e '}' h3, e '\n' h4, e '\r' h5⟩

end Proofs.Escape
