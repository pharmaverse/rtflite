import Model.ValidateHist
import Proofs.Validate
/-! Helper lemmas for `Props/C19hist.lean` (histories of constructor calls over a changing file system). -/
namespace Proofs.ValidateHist
open Model.Validate Model.ValidateSpec Model.ValidateHist Proofs.Validate

/-! ## the path loop -/

/-- the path loop stops at the first path that is not an image: all are images, or a missing file raised
`FileNotFoundError`, or an unsupported one `ValidationError` -/
theorem checkPaths_spec (l : List PathSt) :
    (checkPaths l = .ok () ∧ ∀ s ∈ l, s = .image) ∨
    (checkPaths l = .error .fileNotFound ∧ .missing ∈ l) ∨
    (checkPaths l = .error .validationError ∧ .other ∈ l) := by
  induction l with
  | nil => simp [checkPaths]
  | cons s r ih =>
    cases s with
    | image => simpa [checkPaths] using ih
    | _ => simp [checkPaths]

/-! ## one call -/

/-- the statuses, at the call, of the paths a call names -/
def statuses (fs : Fs) (c : FigCall) : List PathSt := (c.paths.getD []).map fs.status

theorem constructFigureAt_eq (fs : Fs) (c : FigCall) :
    constructFigureAt fs c =
      if !figFieldsOk (c.toArgs fs) then .error .validationError else checkPaths (statuses fs c) := by
  unfold constructFigureAt statuses
  cases c.paths <;> rfl

theorem anyMissing_iff (fs : Fs) (c : FigCall) : anyMissing fs c = true ↔ .missing ∈ statuses fs c := by
  unfold anyMissing statuses
  cases c.paths <;> simp

theorem anyOther_iff (fs : Fs) (c : FigCall) : anyOther fs c = true ↔ .other ∈ statuses fs c := by
  unfold anyOther statuses
  cases c.paths <;> simp

theorem toArgs_figMissing (fs : Fs) (c : FigCall) : figMissing (c.toArgs fs) = anyMissing fs c := by
  unfold figMissing anyMissing FigCall.toArgs
  cases c.paths with
  | none => rfl
  | some ps =>
    simp only [Option.map_some]
    induction ps with
    | nil => rfl
    | cons p r ih =>
      simp only [List.map_cons, List.all_cons, List.any_cons, id, Bool.not_and, ih]
      cases fs.status p <;> rfl

theorem anyMissing_mem (fs : Fs) (c : FigCall) (ps : List PathRef) (hp : c.paths = some ps)
    (p : PathRef) (hmem : p ∈ ps) (hs : fs.status p = .missing) : anyMissing fs c = true := by
  simp only [anyMissing, hp]
  exact List.any_eq_true.mpr ⟨p, hmem, by simp [hs]⟩

/-! ## the state after an event -/

theorem has_after_delete (fs : Fs) (d : Nat) (n : String) : (step fs (.delete d n)).has d n = false := by
  simp [step, Fs.has]

theorem has_after_rename_source (fs : Fs) (d : Nat) (n : String) (d' : Nat) (n' : String)
    (hne : (d, n) ≠ (d', n')) (hex : fs.has d n = true) : (step fs (.rename d n d' n')).has d n = false := by
  have hne' : ¬(d = d' ∧ n = n') := fun h => hne (by rw [h.1, h.2])
  simp only [step, hex, if_true]
  simp [Fs.has, hne']

theorem has_after_rename_target (fs : Fs) (d : Nat) (n : String) (d' : Nat) (n' : String)
    (hex : fs.has d n = true) : (step fs (.rename d n d' n')).has d' n' = true := by
  simp only [step, hex, if_true]
  simp [Fs.has]

theorem has_after_create (fs : Fs) (d : Nat) (n : String) : (step fs (.create d n)).has d n = true := by
  by_cases h : fs.has d n = true
  · simp [step, h]
  · simp only [step, h]
    simp [Fs.has]

theorem status_of_has_false (fs : Fs) (p : PathRef) (h : fs.has (fs.resolve p).1 (fs.resolve p).2 = false) :
    fs.status p = .missing := by
  simp [Fs.status, h]

end Proofs.ValidateHist
