import Model.World
import Proofs.InsertionSort
/-! Helper lemmas for C14 (process state). Core Lean only. -/
namespace Proofs.World
open Model.World Proofs.InsertionSort

/-! ## association lists -/

theorem aget_aset {α β} [DecidableEq α] (k' k : α) (v : β) (l : List (α × β)) :
    aget k' (aset k v l) = if k = k' then some v else aget k' l := by
  induction l with
  | nil => simp [aset, aget]
  | cons p r ih =>
    by_cases hk : k = k'
    · subst hk
      by_cases h : p.1 = k <;> simp [aset, aget, h, ih]
    · by_cases h : p.1 = k <;> simp [aset, aget, h, hk, ih]

theorem aset_of_aget {α β} [DecidableEq α] {k : α} {v : β} {l : List (α × β)} (h : aget k l = some v) :
    aset k v l = l := by
  induction l with
  | nil => simp [aget] at h
  | cons p r ih =>
    obtain ⟨k', v'⟩ := p
    by_cases hk : k' = k
    · simp [aget, hk] at h
      simp [aset, hk, h]
    · simp [aget, hk] at h
      simp [aset, hk, ih h]

theorem aget_filter {α β} [DecidableEq α] (k n : α) (l : List (α × β)) :
    aget k (l.filter (fun e => e.1 != n)) = if n = k then none else aget k l := by
  induction l with
  | nil => simp [aget]
  | cons p r ih =>
    by_cases hk : n = k
    · subst hk
      by_cases h : p.1 = n <;> simp [aget, h, ih]
    · by_cases h : p.1 = n <;> simp [aget, h, hk, ih]

/-! ## the registry -/

theorem nPageBy_ne_nDefault : nPageBy ≠ nDefault := by decide
theorem nSubline_ne_nDefault : nSubline ≠ nDefault := by decide
theorem nSubline_ne_nPageBy : nSubline ≠ nPageBy := by decide

theorem registerAll_default (r : Registry) : aget nDefault (registerAll r) = some .default := by
  rw [registerAll, aget_aset, if_neg nSubline_ne_nDefault, aget_aset, if_neg nPageBy_ne_nDefault, aget_aset,
    if_pos rfl]

theorem registerAll_pageBy (r : Registry) : aget nPageBy (registerAll r) = some .pageBy := by
  rw [registerAll, aget_aset, if_neg nSubline_ne_nPageBy, aget_aset, if_pos rfl]

theorem registerAll_subline (r : Registry) : aget nSubline (registerAll r) = some .subline := by
  rw [registerAll, aget_aset, if_pos rfl]

/-- registering again changes nothing: the registry is constant after the first encoder -/
theorem registerAll_idem (r : Registry) : registerAll (registerAll r) = registerAll r := by
  show aset nSubline .subline (aset nPageBy .pageBy (aset nDefault .default (registerAll r))) = registerAll r
  rw [aset_of_aget (registerAll_default r), aset_of_aget (registerAll_pageBy r),
    aset_of_aget (registerAll_subline r)]

theorem strategyName_cases (o : Obj) :
    strategyName o = nDefault ∨ strategyName o = nPageBy ∨ strategyName o = nSubline := by
  unfold strategyName
  split
  · exact Or.inr (Or.inr rfl)
  · split
    · exact Or.inr (Or.inl rfl)
    · exact Or.inl rfl

/-- after the three registrations the strategy of a body does not depend on what was registered before -/
theorem registerAll_lookup (r r' : Registry) (o : Obj) :
    aget (strategyName o) (registerAll r) = aget (strategyName o) (registerAll r') := by
  rcases strategyName_cases o with h | h | h <;> rw [h]
  · rw [registerAll_default, registerAll_default]
  · rw [registerAll_pageBy, registerAll_pageBy]
  · rw [registerAll_subline, registerAll_subline]

theorem encodeDoc_world (T : Table) (w : World) (d : Doc) :
    (encodeDoc T w d).1 = { w with registry := registerAll w.registry, ctx := none } := rfl

/-- what `rtf_encode()` returns is what `_encode_with_context` returns in the world with the three strategies
registered and the document's colours as context -/
theorem encodeDoc_snd (T : Table) (w : World) (d : Doc) :
    (encodeDoc T w d).2 = encodeWithContext T
      { w with registry := registerAll w.registry, ctx := some (collect w.seed w.heap d) } d := by
  simp only [encodeDoc]

/-! ## what no operation writes -/

/-- an operation leaves the hash seed, the caller's objects and the caller's frames as they are -/
theorem step_fixed (T : Table) (w : World) (op : Op) :
    (step T w op).1.seed = w.seed ∧ (step T w op).1.heap = w.heap ∧ (step T w op).1.frames = w.frames := by
  fun_cases step T w op
  all_goals exact ⟨rfl, rfl, rfl⟩

theorem run_fixed (T : Table) (w : World) (ops : List Op) :
    (run T w ops).1.seed = w.seed ∧ (run T w ops).1.heap = w.heap ∧ (run T w ops).1.frames = w.frames := by
  induction ops generalizing w with
  | nil => exact ⟨rfl, rfl, rfl⟩
  | cons op ops ih =>
    obtain ⟨hs, hh, hf⟩ := ih (step T w op).1
    obtain ⟨hs', hh', hf'⟩ := step_fixed T w op
    exact ⟨hs.trans hs', hh.trans hh', hf.trans hf'⟩

/-! ## colours: the enumeration order of the context is irrelevant -/

theorem aget_mem {α β} [DecidableEq α] {k : α} {v : β} : ∀ {l : List (α × β)}, aget k l = some v → (k, v) ∈ l
  | (k', v') :: r, h => by
    rw [aget] at h
    split at h
    · next hk =>
        cases h
        exact hk ▸ List.mem_cons_self
    · exact List.mem_cons_of_mem _ (aget_mem h)

theorem master_inj_of_nodup (T : Table) (h : (T.map (·.2)).Nodup) :
    ∀ a b n, master T a = some n → master T b = some n → a = b :=
  fun _ _ _ ha hb => congrArg Prod.fst (inj_of_nodup_map h _ (aget_mem ha) _ (aget_mem hb) rfl)

/-- the entry `keyed` makes of a colour the master table knows (`keyed_eq`) -/
def keyOf (T : Table) (c : Color) : Color × Nat := (c, (master T c).getD 0)

theorem keyed_eq (T : Table) (l : List Color) :
    keyed T l = if l.all (fun c => (master T c).isSome) then some (l.map (keyOf T)) else none := by
  induction l with
  | nil => rfl
  | cons c cs ih =>
    simp only [keyed, ih, List.all_cons, List.map_cons]
    cases hm : master T c with
    | none => simp
    | some n =>
      by_cases hall : (cs.all fun c => (master T c).isSome) = true
      · simp [hall, keyOf, hm]
      · simp [hall]

theorem leIdx_trans (a b c : Color × Nat) : leIdx a b = true → leIdx b c = true → leIdx a c = true := by
  simp only [leIdx, decide_eq_true_eq]
  omega

theorem leIdx_total (a b : Color × Nat) : leIdx a b = false → leIdx b a = true := by
  simp only [leIdx, decide_eq_false_iff_not, decide_eq_true_eq]
  omega

theorem insertIdx_eq (a : Color × Nat) : ∀ l, insertIdx a l = insertBy leIdx a l
  | [] => rfl
  | b :: r => by rw [insertIdx, insertBy, insertIdx_eq a r]

theorem sortByIndex_eq : ∀ l, sortByIndex l = sortBy leIdx l
  | [] => rfl
  | x :: xs => by rw [sortByIndex, sortBy, sortByIndex_eq xs, insertIdx_eq]

theorem sortByIndex_perm (l : List (Color × Nat)) : (sortByIndex l).Perm l :=
  sortByIndex_eq l ▸ sortBy_perm leIdx l

theorem sortByIndex_perm_eq (T : Table) (l l' : List Color)
    (hinj : ∀ a b n, master T a = some n → master T b = some n → a = b)
    (hsome : ∀ c ∈ l, (master T c).isSome) (hperm : l.Perm l') :
    sortByIndex (l.map (keyOf T)) = sortByIndex (l'.map (keyOf T)) := by
  rw [sortByIndex_eq, sortByIndex_eq]
  refine sortBy_eq_of_perm leIdx leIdx_total leIdx_trans (hperm.map _) ?_
  -- two colours of `l` with the same master index are the same colour
  intro a ha b hb hab hba
  obtain ⟨x, hx, rfl⟩ := List.mem_map.mp ha
  obtain ⟨y, hy, rfl⟩ := List.mem_map.mp hb
  obtain ⟨n, hn⟩ := Option.isSome_iff_exists.mp (hsome x hx)
  obtain ⟨m, hm⟩ := Option.isSome_iff_exists.mp (hsome y hy)
  simp only [leIdx, keyOf, hn, hm, Option.getD_some, decide_eq_true_eq] at hab hba
  have e : n = m := Nat.le_antisymm hab hba
  subst e
  rw [hinj x y n hn hm]

/-- the validated, sorted palette depends on the set of colours only -/
theorem keyed_sorted_perm (T : Table) (l l' : List Color)
    (hinj : ∀ a b n, master T a = some n → master T b = some n → a = b) (hperm : l.Perm l') :
    (keyed T l).map sortByIndex = (keyed T l').map sortByIndex := by
  rw [keyed_eq, keyed_eq, hperm.all_eq]
  split
  · rename_i hall
    simp only [Option.map_some, Option.some.injEq]
    exact sortByIndex_perm_eq T l l' hinj (fun c hc => List.all_eq_true.mp hall c (hperm.mem_iff.mp hc)) hperm
  · rfl

theorem significant_perm {l l' : List Color} (h : l.Perm l') : (significant l).Perm (significant l') :=
  h.filter _

/-- both users of a palette see it validated and sorted only -/
theorem rtfColorIndex_some (T : Table) (used : List Color) (c : Color) :
    rtfColorIndex T (some used) c =
      if isDefault c then .idx 0 else if (significant used).isEmpty then .idx 0 else
      match (keyed T (significant used)).map sortByIndex with
      | none => .invalid
      | some ks =>
        match position c ks with
        | some i => .idx (i + 1)
        | none => .idx 0 := by
  simp only [rtfColorIndex]
  cases keyed T (significant used) <;> rfl

theorem colorTable_eq (T : Table) (used : List Color) :
    colorTable T used = ((keyed T (significant used)).map sortByIndex).map (List.map (·.1)) := by
  unfold colorTable
  cases keyed T (significant used) <;> rfl

theorem rtfColorIndex_perm (T : Table) (used used' : List Color) (c : Color)
    (hinj : ∀ a b n, master T a = some n → master T b = some n → a = b) (hperm : used.Perm used') :
    rtfColorIndex T (some used) c = rtfColorIndex T (some used') c := by
  rw [rtfColorIndex_some, rtfColorIndex_some, (significant_perm hperm).isEmpty_eq,
    keyed_sorted_perm T _ _ hinj (significant_perm hperm)]

theorem colorTable_perm (T : Table) (used used' : List Color)
    (hinj : ∀ a b n, master T a = some n → master T b = some n → a = b) (hperm : used.Perm used') :
    colorTable T used = colorTable T used' := by
  rw [colorTable_eq, colorTable_eq, keyed_sorted_perm T _ _ hinj (significant_perm hperm)]

/-! ## locality: a constructor call and the encode of its document read only the objects it names -/

/-- the caller's object a component reads through the heap, if any -/
def refs : Comp → List ObjId
  | .ref i => [i]
  | .own _ => []

theorem get_congr {h h' : Heap} {c : Comp} (hag : ∀ i ∈ refs c, aget i h = aget i h') :
    c.get h = c.get h' := by
  cases c with
  | ref i => exact hag i (by simp [refs])
  | own o => rfl

theorem mapE_congr {α β} {f g : α → Except Err β} {l : List α} (h : ∀ x ∈ l, f x = g x) :
    mapE f l = mapE g l := by
  induction l with
  | nil => rfl
  | cons x xs ih =>
    simp only [mapE]
    rw [h x (List.mem_cons_self ..), ih (fun y hy => h y (List.mem_cons_of_mem _ hy))]

theorem mapE_ok_mem {α β} {f : α → Except Err β} {l : List α} {r : List β} (h : mapE f l = .ok r) :
    ∀ y ∈ r, ∃ x ∈ l, f x = .ok y := by
  fun_induction mapE f l generalizing r with
  | case1 =>
    cases h
    intro y hy
    cases hy
  | case2 => cases h
  | case3 => cases h
  | case4 x xs y0 hy0 ys hys ih =>
    cases h
    intro y hy
    rcases List.mem_cons.mp hy with rfl | hy
    · exact ⟨x, List.mem_cons_self, hy0⟩
    · obtain ⟨x', hx', hf⟩ := ih hys y hy
      exact ⟨x', List.mem_cons_of_mem _ hx', hf⟩

theorem resolveBody_cases (o : Obj) (i : ObjId) (ncol : Nat) :
    resolveBody o i ncol = .ref i ∨ ∃ o', resolveBody o i ncol = .own o' := by
  unfold resolveBody
  split
  · exact .inr ⟨_, rfl⟩
  · split
    · exact .inr ⟨_, rfl⟩
    · exact .inl rfl
  · exact .inl rfl

theorem resolveBody_refs (o : Obj) (i : ObjId) (n : Nat) : ∀ j ∈ refs (resolveBody o i n), j = i := by
  intro j hj
  rcases resolveBody_cases o i n with h | ⟨o', h⟩
  · rwa [h, refs, List.mem_singleton] at hj
  · rw [h] at hj
    cases hj

theorem resolveSec_shape {h : Heap} {fs : Frames} {s : FrameId × ObjId} {s' : FrameId × Comp}
    (hr : resolveSec h fs s = .ok s') : s'.1 = s.1 ∧ ∀ j ∈ refs s'.2, j = s.2 := by
  revert hr
  fun_cases resolveSec h fs s
  · rintro ⟨⟩
    exact ⟨rfl, resolveBody_refs _ _ _⟩
  · exact fun hr => nomatch hr

/-- the resolved sections keep their frames and refer, if at all, to their own bodies -/
theorem resolveSecs_shape {h : Heap} {fs : Frames} {secs : List (FrameId × ObjId)} {rs : List (FrameId × Comp)}
    (hm : mapE (resolveSec h fs) secs = .ok rs) :
    ∀ s' ∈ rs, s'.1 ∈ secs.map (·.1) ∧ ∀ j ∈ refs s'.2, j ∈ secs.map (·.2) := by
  intro s' hs'
  obtain ⟨s, hs, hf⟩ := mapE_ok_mem hm s' hs'
  obtain ⟨h1, h2⟩ := resolveSec_shape hf
  exact ⟨h1 ▸ List.mem_map_of_mem hs, fun j hj => h2 j hj ▸ List.mem_map_of_mem hs⟩

theorem inheritHeader_refs (o : Obj) (c : Comp) (bw : List Width) :
    ∀ j ∈ refs (inheritHeader o c bw), j ∈ refs c := by
  unfold inheritHeader
  intro j hj
  split at hj
  · simp [refs] at hj
  · exact hj

theorem inheritRef_refs {h : Heap} {bw : List Width} {i : ObjId} {c : Comp}
    (hr : inheritRef h bw i = .ok c) : ∀ j ∈ refs c, j = i := by
  revert hr
  fun_cases inheritRef h bw i
  · rintro ⟨⟩ j hj
    exact List.mem_singleton.mp (inheritHeader_refs _ _ _ j hj)
  · exact fun hr => nomatch hr

theorem inheritOpt_refs {h : Heap} {bw : List Width} {oi : Option ObjId} {oc : Option Comp}
    (hr : inheritOpt h bw oi = .ok oc) : ∀ c, oc = some c → ∀ j ∈ refs c, oi = some j := by
  revert hr
  fun_cases inheritOpt h bw oi
  · rintro ⟨⟩ c hc
    cases hc
  · next i c0 hc0 =>
    rintro ⟨⟩ c ⟨⟩ j hj
    rw [inheritRef_refs hc0 j hj]
  · exact fun hr => nomatch hr

def headerIds : HeaderArg → List ObjId
  | .default => []
  | .flat hs => hs
  | .nested hss => hss.flatten.filterMap id

theorem inheritNested_refs {h : Heap} {hss : List (List (Option ObjId))} {secs : List (FrameId × Comp)} :
    ∀ {hv : List (List (Option Comp))}, inheritNested h hss secs = .ok hv →
      ∀ c ∈ hv.flatten.filterMap id, ∀ j ∈ refs c, j ∈ hss.flatten.filterMap id := by
  fun_induction inheritNested h hss secs with
  | case1 =>
    rintro hv ⟨⟩ c hc
    cases hc
  | case5 hs hss s ss bw hbw r hrr rs hrs ih =>
    rintro hv ⟨⟩ c hc j hj
    simp only [List.flatten_cons, List.filterMap_append, List.mem_append] at hc ⊢
    rcases hc with hc | hc
    · obtain ⟨oc, hoc, hid⟩ := List.mem_filterMap.mp hc
      obtain ⟨oi, hoi, hf⟩ := mapE_ok_mem hrr oc hoc
      exact Or.inl (List.mem_filterMap.mpr ⟨oi, hoi, inheritOpt_refs hf c hid j hj⟩)
    · exact Or.inr (ih hrs c hc j hj)
  | _ => exact fun hr => nomatch hr

theorem constructHeaders_refs {h : Heap} {k : Kind} {secs : List (FrameId × Comp)} {bw : List Width}
    {ha : HeaderArg} {hv : HeaderVal} (hr : constructHeaders h k secs bw ha = .ok hv) :
    ∀ c ∈ headerComps hv, ∀ j ∈ refs c, j ∈ headerIds ha := by
  revert hr
  fun_cases constructHeaders h k secs bw ha
  case case1 =>
    rintro ⟨⟩ c hc j hj
    rw [headerComps, List.mem_singleton] at hc
    exact absurd (inheritHeader_refs _ _ _ j (hc ▸ hj)) List.not_mem_nil
  case case3 hs hvl hm =>
    rintro ⟨⟩ c hc j hj
    obtain ⟨i, hi, hf⟩ := mapE_ok_mem hm c hc
    exact inheritRef_refs hf j hj ▸ hi
  case case5 hss hvl hm =>
    rintro ⟨⟩
    exact inheritNested_refs hm
  all_goals exact fun hr => nomatch hr

def allComps (d : Doc) : List Comp := d.secs.map (·.2) ++ d.others.map .ref ++ headerComps d.headers

/-- Every reference held by a constructed document is one the constructor call named, and its
frames are the call's frames. -/
theorem construct_refs {h : Heap} {fs : Frames} {c : Ctor} {d : Doc} (hc : construct h fs c = .ok d) :
    (∀ comp ∈ allComps d, ∀ j ∈ refs comp, j ∈ c.secs.map (·.2) ++ c.others ++ headerIds c.headers)
    ∧ (∀ s ∈ d.secs, s.1 ∈ c.secs.map (·.1)) := by
  have hoth : ∀ i ∈ c.others, ∀ j ∈ refs (.ref i), j ∈ c.secs.map (·.2) ++ c.others ++ headerIds c.headers := by
    intro i hi j hj
    rw [refs, List.mem_singleton] at hj
    exact List.mem_append_left _ (List.mem_append_right _ (hj ▸ hi))
  revert hc
  fun_cases construct h fs c
  case case1 =>
    rintro ⟨⟩
    refine ⟨fun comp hcomp j hj => ?_, fun s hs => nomatch hs⟩
    simp only [allComps, List.map_nil, List.nil_append, headerComps, List.mem_append, List.mem_map,
      List.mem_singleton] at hcomp
    rcases hcomp with ⟨i, hi, rfl⟩ | rfl
    · exact hoth i hi j hj
    · cases hj
  case case6 s0 ss hm bw _ hv _ hh =>
    rintro ⟨⟩
    have hsec := resolveSecs_shape hm
    refine ⟨fun comp hcomp j hj => ?_, fun s hs => (hsec s hs).1⟩
    simp only [allComps, List.mem_append, List.mem_map] at hcomp
    rcases hcomp with (⟨s', hs', rfl⟩ | ⟨i, hi, rfl⟩) | hcomp
    · exact List.mem_append_left _ (List.mem_append_left _ ((hsec s' hs').2 j hj))
    · exact hoth i hi j hj
    · exact List.mem_append_right _ (constructHeaders_refs hh comp hcomp j hj)
  all_goals exact fun hr => nomatch hr

/-! ### congruence of construction -/

theorem widthsOf_congr {h h' : Heap} {c : Comp} (hg : c.get h = c.get h') : widthsOf h c = widthsOf h' c := by
  unfold widthsOf
  rw [hg]

theorem inheritRef_congr {h h' : Heap} (bw : List Width) {i : ObjId} (hg : aget i h = aget i h') :
    inheritRef h bw i = inheritRef h' bw i := by
  unfold inheritRef
  rw [hg]

theorem inheritOpt_congr {h h' : Heap} (bw : List Width) {oi : Option ObjId}
    (hg : ∀ i, oi = some i → aget i h = aget i h') : inheritOpt h bw oi = inheritOpt h' bw oi := by
  cases oi with
  | none => rfl
  | some i =>
    simp only [inheritOpt]
    rw [inheritRef_congr bw (hg i rfl)]

theorem inheritNested_congr {h h' : Heap} :
    ∀ (hss : List (List (Option ObjId))) (secs : List (FrameId × Comp)),
      (∀ s ∈ secs, s.2.get h = s.2.get h') →
      (∀ i ∈ hss.flatten.filterMap id, aget i h = aget i h') →
      inheritNested h hss secs = inheritNested h' hss secs := by
  intro hss
  induction hss with
  | nil => intro secs _ _; cases secs <;> rfl
  | cons hs hss ih =>
    intro secs hsec hid
    cases secs with
    | nil => rfl
    | cons s ss =>
      have hmem : ∀ i, i ∈ hs.filterMap id ∨ i ∈ hss.flatten.filterMap id →
          i ∈ (hs :: hss).flatten.filterMap id := by
        intro i hi
        simpa only [List.flatten_cons, List.filterMap_append, List.mem_append] using hi
      have hm : ∀ bw, mapE (inheritOpt h bw) hs = mapE (inheritOpt h' bw) hs := fun bw =>
        mapE_congr fun oi hoi => inheritOpt_congr bw fun i hi =>
          hid i (hmem i (Or.inl (List.mem_filterMap.mpr ⟨oi, hoi, hi⟩)))
      simp only [inheritNested]
      rw [widthsOf_congr (hsec s (List.mem_cons_self ..)),
        ih ss (fun s' hs' => hsec s' (List.mem_cons_of_mem _ hs')) (fun i hi => hid i (hmem i (Or.inr hi)))]
      split
      · rfl
      · rename_i bw _
        rw [hm bw]

theorem constructHeaders_congr {h h' : Heap} (k : Kind) (secs : List (FrameId × Comp)) (bw : List Width)
    (ha : HeaderArg) (hsec : ∀ s ∈ secs, s.2.get h = s.2.get h')
    (hid : ∀ i ∈ headerIds ha, aget i h = aget i h') :
    constructHeaders h k secs bw ha = constructHeaders h' k secs bw ha := by
  cases ha with
  | default => rfl
  | flat hs =>
    simp only [constructHeaders]
    have : mapE (inheritRef h bw) hs = mapE (inheritRef h' bw) hs :=
      mapE_congr (fun i hi => inheritRef_congr bw (hid i hi))
    rw [this]
  | nested hss =>
    simp only [constructHeaders]
    rw [inheritNested_congr hss secs hsec hid]

theorem construct_congr {h h' : Heap} {fs fs' : Frames} (c : Ctor)
    (hobj : ∀ i ∈ c.secs.map (·.2) ++ c.others ++ headerIds c.headers, aget i h = aget i h')
    (hfr : ∀ i ∈ c.secs.map (·.1), aget i fs = aget i fs') :
    construct h fs c = construct h' fs' c := by
  have hbody : ∀ i ∈ c.secs.map (·.2), aget i h = aget i h' :=
    fun i hi => hobj i (List.mem_append_left _ (List.mem_append_left _ hi))
  have hhdr : ∀ i ∈ headerIds c.headers, aget i h = aget i h' := fun i hi => hobj i (List.mem_append_right _ hi)
  have hm : mapE (resolveSec h fs) c.secs = mapE (resolveSec h' fs') c.secs := by
    apply mapE_congr
    intro s hs
    unfold resolveSec
    rw [hfr s.1 (List.mem_map.mpr ⟨s, hs, rfl⟩), hbody s.2 (List.mem_map.mpr ⟨s, hs, rfl⟩)]
  unfold construct
  rw [hm]
  split
  · rfl
  · split
    · rfl
    · rfl
    · rename_i s0 ss hms
      have hsec : ∀ s' ∈ s0 :: ss, s'.2.get h = s'.2.get h' := fun s' hs' =>
        get_congr fun j hj => hbody j ((resolveSecs_shape hms s' hs').2 j hj)
      rw [widthsOf_congr (hsec s0 (List.mem_cons_self ..))]
      split
      · rfl
      · rename_i bw _
        rw [constructHeaders_congr _ _ bw c.headers hsec hhdr]

/-! ### congruence of encoding -/

theorem getAll_congr {h h' : Heap} {cs : List Comp} (hg : ∀ c ∈ cs, c.get h = c.get h') :
    getAll h cs = getAll h' cs := by
  induction cs with
  | nil => rfl
  | cons c cs ih =>
    simp only [getAll, List.filterMap_cons] at ih ⊢
    rw [hg c (List.mem_cons_self ..), ih (fun c' hc' => hg c' (List.mem_cons_of_mem _ hc'))]

theorem docObjs_congr {h h' : Heap} (d : Doc) (hg : ∀ c ∈ allComps d, c.get h = c.get h') :
    docObjs h d = docObjs h' d := by
  unfold docObjs
  rw [getAll_congr (fun c hc => hg c (List.mem_append_left _ (List.mem_append_left _ hc))),
      getAll_congr (fun c hc => hg c (List.mem_append_left _ (List.mem_append_right _ hc))),
      getAll_congr (fun c hc => hg c (List.mem_append_right _ hc))]

theorem secHeaders_sub (d : Doc) (i : Nat) : ∀ c ∈ secHeaders d i, c ∈ headerComps d.headers := by
  fun_cases secHeaders d i
  · next hs heq _ => exact fun c hc => by rwa [heq]
  · exact fun c hc => nomatch hc
  · next hss heq =>
    intro c hc
    obtain ⟨oc, hoc, hid⟩ := List.mem_filterMap.mp hc
    rw [heq]
    refine List.mem_filterMap.mpr ⟨oc, List.mem_flatten.mpr ⟨hss.getD i [], ?_, hoc⟩, hid⟩
    rw [List.getD_eq_getElem?_getD] at hoc ⊢
    cases hget : hss[i]? with
    | none =>
      rw [hget] at hoc
      cases hoc
    | some l => exact List.mem_of_getElem? hget

theorem encodeSec_local {w w' : World} (d : Doc) (i : Nat) (s : FrameId × Comp)
    (hr : ∀ o, aget (strategyName o) w.registry = aget (strategyName o) w'.registry)
    (hs : s.2.get w.heap = s.2.get w'.heap) (hf : aget s.1 w.frames = aget s.1 w'.frames)
    (hh : ∀ c ∈ headerComps d.headers, c.get w.heap = c.get w'.heap) :
    encodeSec w d i s = encodeSec w' d i s := by
  have hhw : (secHeaders d i).map (fun c => (c.get w.heap).bind (·.widths))
      = (secHeaders d i).map (fun c => (c.get w'.heap).bind (·.widths)) := by
    apply List.map_congr_left
    intro c hc
    rw [hh c (secHeaders_sub d i c hc)]
  unfold encodeSec
  rw [hs, hf, hhw]
  split
  · rename_i f o _ _
    rw [hr o]
  · rfl

theorem encodeSecs_local {w w' : World} (d : Doc)
    (hr : ∀ o, aget (strategyName o) w.registry = aget (strategyName o) w'.registry)
    (hh : ∀ c ∈ headerComps d.headers, c.get w.heap = c.get w'.heap) :
    ∀ (ss : List (FrameId × Comp)) (i : Nat),
      (∀ s ∈ ss, s.2.get w.heap = s.2.get w'.heap ∧ aget s.1 w.frames = aget s.1 w'.frames) →
      encodeSecs w d i ss = encodeSecs w' d i ss := by
  intro ss
  induction ss with
  | nil =>
    intro i _
    rfl
  | cons s ss ih =>
    intro i hs
    simp only [encodeSecs]
    have h0 := hs s (List.mem_cons_self ..)
    rw [encodeSec_local d i s hr h0.1 h0.2 hh, ih (i + 1) (fun s' hs' => hs s' (List.mem_cons_of_mem _ hs'))]

/-- `_encode_with_context` reads the world through the sections' strategies, the document's own components and
frames, the colour table of the collected set and the colour indices under the context -/
theorem encodeWithContext_local (T : Table) {w w' : World} (d : Doc)
    (htbl : colorTable T (collect w.seed w.heap d) = colorTable T (collect w'.seed w'.heap d))
    (hidx : ∀ c, getColorIndex T w.ctx c = getColorIndex T w'.ctx c)
    (hr : ∀ o, aget (strategyName o) w.registry = aget (strategyName o) w'.registry)
    (hc : ∀ comp ∈ allComps d, comp.get w.heap = comp.get w'.heap)
    (hf : ∀ s ∈ d.secs, aget s.1 w.frames = aget s.1 w'.frames) :
    encodeWithContext T w d = encodeWithContext T w' d := by
  have hsecs : ∀ s ∈ d.secs, s.2.get w.heap = s.2.get w'.heap ∧ aget s.1 w.frames = aget s.1 w'.frames :=
    fun s hs => ⟨hc s.2 (List.mem_append_left _ (List.mem_append_left _ (List.mem_map.mpr ⟨s, hs, rfl⟩))), hf s hs⟩
  have hh : ∀ c ∈ headerComps d.headers, c.get w.heap = c.get w'.heap :=
    fun c hcm => hc c (List.mem_append_right _ hcm)
  unfold encodeWithContext
  rw [encodeSecs_local d hr hh d.secs 0 hsecs, htbl, docObjs_congr d hc]
  simp only [hidx]

/-! ## the hash seed: every enumeration of a set is a permutation of its members -/

theorem enumSet_perm (s : Nat) (xs : List Str) : (enumSet s xs).Perm (dedup xs) := by
  have h := (sortByIndex_perm ((dedup xs).map (fun c => (c, strHash s c)))).map (·.1)
  simpa [enumSet, List.map_map, Function.comp_def] using h

theorem getColorIndex_perm (T : Table) (used used' : List Color) (c : Color)
    (hinj : ∀ a b n, master T a = some n → master T b = some n → a = b) (hperm : used.Perm used') :
    getColorIndex T (some used) c = getColorIndex T (some used') c := by
  unfold getColorIndex
  rw [rtfColorIndex_perm T used used' c hinj hperm]

/-- Two hash seeds that an encode cannot tell apart: whichever of them enumerates a set of colours, the colour
table and every colour index come out the same. -/
def SameEnum (T : Table) (s s' : Nat) : Prop :=
  ∀ xs, colorTable T (enumSet s xs) = colorTable T (enumSet s' xs) ∧
    ∀ c, getColorIndex T (some (enumSet s xs)) c = getColorIndex T (some (enumSet s' xs)) c

theorem sameEnum_of_eq {T : Table} {s s' : Nat} (h : s = s') : SameEnum T s s' :=
  h ▸ fun _ => ⟨rfl, fun _ => rfl⟩

/-- Where the master index is injective, any two seeds are of that kind. -/
theorem sameEnum_of_inj (T : Table) (hinj : ∀ a b n, master T a = some n → master T b = some n → a = b)
    (s s' : Nat) : SameEnum T s s' := fun xs =>
  have hp := (enumSet_perm s xs).trans (enumSet_perm s' xs).symm
  ⟨colorTable_perm T _ _ hinj hp, fun c => getColorIndex_perm T _ _ c hinj hp⟩

/-! ## the outcome of an encode depends on the world through the objects and frames it names, up to the seed -/

theorem encodeDoc_local (T : Table) (w w' : World) (d : Doc)
    (hseed : SameEnum T w.seed w'.seed)
    (hc : ∀ comp ∈ allComps d, comp.get w.heap = comp.get w'.heap)
    (hf : ∀ s ∈ d.secs, aget s.1 w.frames = aget s.1 w'.frames) :
    (encodeDoc T w d).2 = (encodeDoc T w' d).2 := by
  have hcol : collect w.seed w.heap d = enumSet w.seed ((docObjs w'.heap d).flatMap (·.colors)) := by
    rw [collect, docObjs_congr d hc]
  obtain ⟨htbl, hidx⟩ := hseed ((docObjs w'.heap d).flatMap (·.colors))
  rw [encodeDoc_snd, encodeDoc_snd]
  exact encodeWithContext_local T d (by rw [hcol]; exact htbl) (fun c => by rw [hcol]; exact hidx c)
    (fun o => registerAll_lookup _ _ o) hc hf

/-- the outcome of `rtf_encode()` is a function of the document, the objects and the frames only (within one
process: one hash seed; across seeds `sameEnum_of_inj`) -/
theorem encodeDoc_outcome (T : Table) {w w' : World} (d : Doc)
    (hs : w.seed = w'.seed) (hh : w.heap = w'.heap) (hf : w.frames = w'.frames) :
    (encodeDoc T w d).2 = (encodeDoc T w' d).2 :=
  encodeDoc_local T w w' d (sameEnum_of_eq hs) (fun _ _ => by rw [hh]) (fun _ _ => by rw [hf])

theorem encodeCtor_local (T : Table) (w w' : World) (c : Ctor)
    (hseed : SameEnum T w.seed w'.seed)
    (hobj : ∀ i ∈ c.secs.map (·.2) ++ c.others ++ headerIds c.headers, aget i w.heap = aget i w'.heap)
    (hfr : ∀ i ∈ c.secs.map (·.1), aget i w.frames = aget i w'.frames) :
    (encodeCtor T w c).2 = (encodeCtor T w' c).2 := by
  unfold encodeCtor
  rw [← construct_congr c hobj hfr]
  split
  · rename_i d hd
    obtain ⟨h1, h2⟩ := construct_refs hd
    exact encodeDoc_local T w w' d hseed (fun comp hcomp => get_congr fun j hj => hobj j (h1 comp hcomp j hj))
      (fun s hs => hfr s.1 (h2 s hs))
  · rfl

/-- After any history, from any world whatsoever, a constructor call + encode gives the outcome it gives before
the history: no operation writes anything the outcome depends on. -/
theorem encodeCtor_run (T : Table) (w : World) (ops : List Op) (c : Ctor) :
    (encodeCtor T (run T w ops).1 c).2 = (encodeCtor T w c).2 :=
  have ⟨hs, hh, hf⟩ := run_fixed T w ops
  encodeCtor_local T _ w c (sameEnum_of_eq hs) (fun _ _ => by rw [hh]) (fun _ _ => by rw [hf])

end Proofs.World
