import Model.Color
import Proofs.Nodup
/-!
The colour names of the generated table are pairwise distinct (so the three dictionaries built from it have one key per
row and `len(name_to_type) = len(color_table)`).  Decided by the kernel: the names are mapped to numbers (any function
will do — equal names have equal codes) and the numbers are compared class by class (`Proofs/Nodup.lean`).
-/
namespace Proofs.ColorTable
open Generated Model.Color Proofs.Nodup

def nameCode (s : String) : Nat := (bytesOf s).foldl (fun n b => n * 256 + b) 1

theorem nameCodes_distinct :
    nodupBuckets 7 (nodupBuckets 9 nodupB) (colorTable.map fun row => nameCode row.name) = true := by
  decide +kernel

theorem names_nodup : (colorTable.map (·.name)).Nodup := by
  have h := nodupBuckets_sound (by decide) (nodupBuckets_sound (by decide) nodupB_sound) nameCodes_distinct
  have h' : ((colorTable.map (·.name)).map nameCode).Nodup := by rw [List.map_map]; exact h
  exact List.Pairwise.of_map nameCode (fun a b hab hEq => hab (by rw [hEq])) h'

end Proofs.ColorTable
