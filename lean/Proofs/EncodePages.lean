import Model.Encode
import Model.Layout
import Proofs.Encode
import Proofs.EncodeLift
import Proofs.Layout
import Proofs.Paginate
import Proofs.PaginateGroups
import Proofs.BroadcastAttr
import Proofs.EncodeAttrs
/-!
# The pagination input of the whole-encoder model, in terms of the document

Helper lemmas for `Props/C04enc.lean`.  `Model.Encode.mkLDoc` computes, for every frame row, the line estimate
(`dataLines`), the `str()` keys of the page_by / subline_by cells and — for rows that start a group — the rows of the
group heading (`Model.Encode.headingRows`); `Model.Layout.LDoc.meta` turns them into the `RowMeta` list that
`assignPages` consumes.  This file

* states the row-by-row inversion of `mkLDoc` with the change flags of the document's `str()` keys (`mkLDoc_rows`);
* names the row input of `mkMeta` (`rowIn`, `rowIns`, `meta_eq`) and states it on the document (`rowIns_facts`,
  `rowIns_keys`, `keyChange`);
* prefix stability: `toList` / `expandSlice` / `processedAttrs` read at a row `< rows' ≤ rows` do not depend on the
  number of rows (`ilocV_processed_prefix`), `dataLines` only depends on the values read (`dataLines_congr`), hence the
  role-level rows of a document whose frame is cut after `m` rows are the first `m` role-level rows (`ldRows_take`),
  and `mkMeta` commutes with `take` (`mkMeta_take`).
-/
namespace Proofs.EncodePages
open Model.Encode Model.Layout Model.Paginate Model.Broadcast Proofs.Encode Proofs.EncodeLift Proofs.Paginate
open Proofs.EncodeOwnWidth (dataLines_ge)

/-! ## `str()` keys -/

/-- the list of `str(value)` of the named columns of one frame row: the key `calculate_row_metadata` compares -/
def strKey (d : Doc) (names : List Str) (row : List (Option Str)) : List String :=
  (pick d.cols row names).map fun v => strOf (optString v)

theorem strOf_optString (v : Option Str) : strOf (optString v) = String.ofList (strOfCell v) := by
  cases v <;> rfl

theorem strKey_eq (d : Doc) (names : List Str) (row : List (Option Str)) :
    strKey d names row = ((pick d.cols row names).map strOfCell).map String.ofList := by
  unfold strKey
  rw [List.map_map]
  apply List.map_congr_left
  intro v _
  exact strOf_optString v

theorem isDivider_optString (c : Option Str) : isDivider (optString c) = (strOfCell c == "-----".toList) := by
  unfold isDivider
  rw [strOf_optString, Bool.eq_iff_iff]
  simp only [beq_iff_eq]
  constructor
  · intro h
    apply String.ofList_injective
    rw [h]
    decide
  · intro h
    rw [h]
    decide

/-- all values dividers: the heading text is empty -/
theorem headingText_all_dividers (names : List Str) (vals : List (Option Str))
    (h : (vals.map optString).all isDivider = true) : headingText names vals = [] := by
  unfold headingText
  have : ((names.zip vals).filterMap fun (x : Str × Option Str) =>
      if strOfCell x.2 == "-----".toList then none else some (x.1 ++ ": ".toList ++ strOfCell x.2)) = [] := by
    rw [List.filterMap_eq_nil_iff]
    intro x hx
    have hv : x.2 ∈ vals := (List.of_mem_zip hx).2
    have := List.all_eq_true.mp h (optString x.2) (List.mem_map.mpr ⟨x.2, hv, rfl⟩)
    rw [isDivider_optString] at this
    rw [if_pos this]
  dsimp only
  rw [this]
  rfl

theorem headingRows_all_dividers (measure : Measure) (total : Rat) (names : List Str) (vals : List (Option Str))
    (h : (vals.map optString).all isDivider = true) :
    Model.Encode.headingRows measure total names vals = .ok (0, false) := by
  unfold Model.Encode.headingRows
  rw [headingText_all_dividers names vals h]
  rfl

/-! ## `changes` -/

theorem changesFrom_map {α β : Type} [DecidableEq α] [DecidableEq β] (f : α → β)
    (hf : ∀ x y, f x = f y → x = y) : ∀ (prev : α) (ks : List α),
    changesFrom (f prev) (ks.map f) = changesFrom prev ks
  | _, [] => rfl
  | prev, k :: ks => by
    simp only [List.map_cons, changesFrom, changesFrom_map f hf k ks, List.cons.injEq, and_true]
    rw [decide_eq_decide]
    exact ⟨fun h e => h (congrArg f e), fun h e => h (hf _ _ e)⟩

/-- group changes are the same for keys compared through an injective map -/
theorem changes_map {α β : Type} [DecidableEq α] [DecidableEq β] (f : α → β)
    (hf : ∀ x y, f x = f y → x = y) (ks : List α) : changes (ks.map f) = changes ks := by
  cases ks with
  | nil => rfl
  | cons k ks => simp only [List.map_cons, changes, changesFrom_map f hf]

theorem changesFrom_getElem?_zero {α : Type} [DecidableEq α] (prev k : α) (ks : List α) :
    (changesFrom prev (k :: ks))[0]? = some (decide (k ≠ prev)) := rfl

/-! ## `mkMeta` on a prefix -/

open Proofs.PaginateGroups (mkRow mkMeta_getElem?)

/-- the metadata of the first rows does not depend on later rows -/
theorem mkMeta_take {κ : Type} [DecidableEq κ] (hp hs : Bool) (rows : List (RowIn κ)) (m : Nat) :
    mkMeta hp hs (rows.take m) = (mkMeta hp hs rows).take m := by
  simp only [mkMeta, List.zip, List.map_take, changes_take, ← List.take_zipWith]

/-! ## the row input of `mkMeta` -/

/-- what `LDoc.meta` hands to `mkMeta` for one role-level row -/
def rowIn (r : LRow) : RowIn (List String) :=
  { dataRows := r.lines, pagebyRows := Model.Layout.headingRows r.pkey r.pbRows,
    sublineRows := Model.Layout.headingRows r.skey r.sbRows,
    pkey := r.pkey.map strOf, skey := r.skey.map strOf }

/-- the row metadata input of the encoder's pagination, one entry per frame row -/
def rowIns (ld : LDoc) : List (RowIn (List String)) := ld.rows.map rowIn

theorem meta_eq (ld : LDoc) : ld.meta = mkMeta ld.hasPageBy ld.hasSubline (rowIns ld) := rfl

theorem rowIns_length (ld : LDoc) : (rowIns ld).length = ld.rows.length :=
  List.length_map _

/-- row `i > 0` starts a group of the named columns: its `str()` key differs from row `i - 1`'s; row 0 always does -/
def keyChange (d : Doc) (names : List Str) : Nat → Bool
  | 0 => true
  | i + 1 =>
    match d.rows[i]?, d.rows[i + 1]? with
    | some a, some b => decide (strKey d names b ≠ strKey d names a)
    | _, _ => false

theorem map_ofList_inj (x y : List Str) (h : x.map String.ofList = y.map String.ofList) : x = y :=
  (List.map_inj_right (fun _ _ e => String.ofList_injective e)).mp h

/-- the change flags `mkLDoc` computes (on character lists) are the change flags of the `str()` keys -/
theorem changes_cellKeys (d : Doc) (names : List Str) :
    changes ((d.rows.map fun r => pick d.cols r names).map fun k => k.map strOfCell) =
      changes (d.rows.map (strKey d names)) := by
  have : d.rows.map (strKey d names) =
      (((d.rows.map fun r => pick d.cols r names).map fun k => k.map strOfCell).map fun k => k.map String.ofList) := by
    simp only [List.map_map]
    apply List.map_congr_left
    intro r _
    simp only [Function.comp_def]
    rw [strKey_eq, List.map_map]
  rw [this, changes_map _ map_ofList_inj]

theorem changes_strKey_getElem? (d : Doc) (names : List Str) (i : Nat) (hi : i < d.rows.length) :
    (changes (d.rows.map (strKey d names)))[i]? = some (keyChange d names i) := by
  cases i with
  | zero =>
    cases hd : d.rows with
    | nil => rw [hd] at hi; cases hi
    | cons r rs => rfl
  | succ i =>
    obtain ⟨a, ha⟩ : ∃ a, d.rows[i]? = some a := ⟨_, List.getElem?_eq_getElem (Nat.lt_of_succ_lt hi)⟩
    obtain ⟨b, hb⟩ : ∃ b, d.rows[i + 1]? = some b := ⟨_, List.getElem?_eq_getElem hi⟩
    rw [changes_getElem?_succ _ i (strKey d names a) (strKey d names b) (by rw [List.getElem?_map, ha]; rfl)
      (by rw [List.getElem?_map, hb]; rfl), keyChange, ha, hb]

/-! ## inversion of `mkLDoc` for one row -/

/-- `mkLDoc` row by row, with the change flags stated on the `str()` keys of the document -/
theorem mkLDoc_rows {measure : Measure} {d : Doc} {p : Prep} {ld : LDoc} {near : Nat}
    (h : mkLDoc measure d p = .ok (ld, near)) :
    ∀ i r, ld.rows[i]? = some r → ∃ row cells n, d.rows[i]? = some row ∧ p.dispRows[i]? = some cells ∧
      mkLRow measure d p.attrs p.cum i row cells (keyChange d d.body.pageByL i) (keyChange d d.body.sublineByL i) =
        .ok (r, n) := by
  intro i r hr
  obtain ⟨row, cells, pc, sc, n, hrow, hc, hpc, hsc, hld⟩ := mkLDoc_row h i r hr
  have hi : i < d.rows.length := (List.getElem?_eq_some_iff.mp hrow).1
  rw [changes_cellKeys, changes_strKey_getElem? d _ i hi] at hpc hsc
  cases hpc
  cases hsc
  exact ⟨row, cells, n, hrow, hc, hld⟩

/-- what the encoder computes for frame row `i` (`row`, of which `cells` are displayed) before it paginates -/
structure RowInFacts (measure : Measure) (d : Doc) (p : Prep) (i : Nat) (row cells : List (Option Str))
    (ri : RowIn (List String)) : Prop where
  /-- the data lines are the encoder's line estimate of the displayed cells of row `i` -/
  dataRows : ∃ nr, dataLines measure p.attrs i cells p.cum 0 0 (1, false) = .ok (ri.dataRows, nr)
  dataRows_pos : 1 ≤ ri.dataRows
  pkey : ri.pkey = strKey d d.body.pageByL row
  skey : ri.skey = strKey d d.body.sublineByL row
  /-- a row that starts a page_by group: the rows of its heading, measured against the table width -/
  pagebyRows : (!d.body.pageByL.isEmpty && keyChange d d.body.pageByL i) = true →
    ∃ nr, Model.Encode.headingRows measure (p.cum.getLast?.getD 0) d.body.pageByL
      (pick d.cols row d.body.pageByL) = .ok (ri.pagebyRows, nr)
  sublineRows : (!d.body.sublineByL.isEmpty && keyChange d d.body.sublineByL i) = true →
    ∃ nr, Model.Encode.headingRows measure (p.cum.getLast?.getD 0) d.body.sublineByL
      (pick d.cols row d.body.sublineByL) = .ok (ri.sublineRows, nr)

/-- `Model.Layout.headingRows` drops the measured rows of an all-divider heading; the encoder measured 0 rows for it -/
theorem layoutHeadingRows_of_ok (measure : Measure) (total : Rat) (names : List Str) (vals : List (Option Str))
    (pr : Nat × Bool) (h : Model.Encode.headingRows measure total names vals = .ok pr) :
    Model.Layout.headingRows (vals.map optString) pr.1 = pr.1 := by
  unfold Model.Layout.headingRows
  split
  · next hd =>
    rw [headingRows_all_dividers measure total names vals hd] at h
    cases h
    rfl
  · rfl

theorem rowIns_facts {measure : Measure} {d : Doc} {p : Prep} {ld : LDoc} {near : Nat}
    (h : mkLDoc measure d p = .ok (ld, near)) (i : Nat) (ri : RowIn (List String))
    (hri : (rowIns ld)[i]? = some ri) :
    ∃ row cells, d.rows[i]? = some row ∧ p.dispRows[i]? = some cells ∧ RowInFacts measure d p i row cells ri := by
  unfold rowIns at hri
  rw [List.getElem?_map, Option.map_eq_some_iff] at hri
  obtain ⟨r, hr, rfl⟩ := hri
  obtain ⟨row, cells, n, hrow, hcells, hld⟩ := mkLDoc_rows h i r hr
  obtain ⟨dl, pr, sr, hdl, hpr, hsr, rfl⟩ := mkLRow_ok hld
  refine ⟨row, cells, hrow, hcells, ⟨dl.2, hdl⟩, dataLines_ge _ _ _ _ _ _ hdl, ?_, ?_, ?_, ?_⟩
  · simp only [rowIn, strKey, List.map_map]; rfl
  · simp only [rowIn, strKey, List.map_map]; rfl
  · intro hb
    rw [if_pos hb] at hpr
    exact ⟨pr.2, by rw [hpr]; simp only [rowIn]; rw [layoutHeadingRows_of_ok _ _ _ _ _ hpr]⟩
  · intro hb
    rw [if_pos hb] at hsr
    exact ⟨sr.2, by rw [hsr]; simp only [rowIn]; rw [layoutHeadingRows_of_ok _ _ _ _ _ hsr]⟩

/-- the keys of the row inputs are the `str()` keys of the frame rows -/
theorem rowIns_keys {measure : Measure} {d : Doc} {p : Prep} {ld : LDoc} {near : Nat}
    (hdisp : p.dispRows.length = d.rows.length) (h : mkLDoc measure d p = .ok (ld, near)) :
    (rowIns ld).map (·.pkey) = d.rows.map (strKey d d.body.pageByL) ∧
    (rowIns ld).map (·.skey) = d.rows.map (strKey d d.body.sublineByL) := by
  have hlen := (rowIns_length ld).trans (mkLDoc_facts hdisp h).length
  constructor <;>
  · apply List.ext_getElem?
    intro i
    rw [List.getElem?_map, List.getElem?_map]
    cases hri : (rowIns ld)[i]? with
    | none => rw [List.getElem?_eq_none (by rw [← hlen]; exact List.getElem?_eq_none_iff.mp hri)]; rfl
    | some ri =>
      obtain ⟨row, _, hrow, _, hf⟩ := rowIns_facts h i ri hri
      simp only [hrow, Option.map_some, hf.pkey, hf.skey]

/-! ## prefix stability of the attribute reads -/

/-- `to_list()` for fewer rows is the prefix of `to_list()` for more rows -/
theorem toList_take {α : Type} (m : Mat α) (rows rows' cols : Nat) (h : rows' ≤ rows) :
    m.toList rows' cols = (m.toList rows cols).take rows' := by
  by_cases hne : m = []
  · subst hne
    simp [Mat.toList, Proofs.EncodeAttrs.repeatList_nil]
  · apply List.ext_getElem?
    intro r
    rw [List.getElem?_take]
    by_cases hr : r < rows'
    · rw [if_pos hr]
      obtain ⟨row0, hrow, _⟩ := Proofs.BroadcastAttr.row_exists m hne r
      rw [Proofs.BroadcastAttr.toList_getElem? m rows' cols r hne hr row0 hrow,
        Proofs.BroadcastAttr.toList_getElem? m rows cols r hne (by omega) row0 hrow]
    · rw [if_neg hr, List.getElem?_eq_none]
      rw [Proofs.BroadcastAttr.toList_length m rows' cols hne]
      omega

theorem expandSlice_take {α : Type} (m : Mat α) (rows rows' cols : Nat) (removed : List Nat) (h : rows' ≤ rows) :
    m.expandSlice rows' cols removed = (m.expandSlice rows cols removed).take rows' := by
  unfold Mat.expandSlice
  rw [toList_take m rows rows' cols h, List.map_take]

theorem ncols_take {α : Type} (X : Mat α) (n : Nat) (hn : 0 < n) : Mat.ncols (X.take n) = X.ncols := by
  unfold Mat.ncols
  rw [List.head?_take, if_neg (by omega)]

theorem iloc_take {α : Type} (X : Mat α) (n r c : Nat) (hr : r < n) (hn : n ≤ X.length) :
    Mat.iloc (X.take n) r c = X.iloc r c := by
  unfold Mat.iloc
  have hl : (X.take n).length = n := by rw [List.length_take]; omega
  rw [hl, ncols_take X n (by omega), Nat.mod_eq_of_lt hr, Nat.mod_eq_of_lt (show r < X.length by omega),
    List.getElem?_take, if_pos hr, if_neg (by omega), if_neg (by omega)]

theorem ilocV_take (X : Mat Val) (n r c : Nat) (hr : r < n) (hn : n ≤ X.length) :
    ilocV (some (X.take n)) r c = ilocV (some X) r c := by
  unfold ilocV
  have hl : (X.take n).length = n := by rw [List.length_take]; omega
  simp only [hl, ncols_take X n (by omega), iloc_take X n r c hr hn]
  have h1 : (n = 0) = False := eq_false (by omega)
  have h2 : (X.length = 0) = False := eq_false (by omega)
  simp only [h1, h2]

theorem ilocV_expandSlice_prefix (m : Mat Val) (rows rows' cols : Nat) (removed : List Nat) (r c : Nat)
    (hr : r < rows') (h : rows' ≤ rows) :
    ilocV (some (m.expandSlice rows' cols removed)) r c = ilocV (some (m.expandSlice rows cols removed)) r c := by
  rw [expandSlice_take m rows rows' cols removed h]
  by_cases hne : m = []
  · subst hne
    rw [Proofs.EncodeAttrs.expandSlice_nil, List.take_nil]
  · exact ilocV_take _ rows' r c hr
      (by rw [Proofs.BroadcastAttr.expandSlice_length m rows cols removed hne]; exact h)

open Proofs.EncodeAttrs (Field processed_get) in
/-- what `_encode` / `calculate_row_metadata` read of the processed attributes at a row of the prefix does not depend on
the number of frame rows -/
theorem ilocV_processed_prefix (A : TblAttrsOf MatV) (rows rows' ncols : Nat) (removed : List Nat) (f : Field)
    (r c : Nat) (hr : r < rows') (h : rows' ≤ rows) :
    ilocV (f.get (processedAttrs A rows' ncols removed)) r c =
      ilocV (f.get (processedAttrs A rows ncols removed)) r c := by
  rw [processed_get, processed_get]
  split
  · rfl
  · cases f.get A with
    | none => rfl
    | some m => exact ilocV_expandSlice_prefix m rows rows' ncols removed r c hr h

/-- the line estimate of a row depends on the attribute record only through the font sizes and fonts read at that row -/
theorem dataLines_congr (measure : Measure) (A A' : TblAttrsOf MatV) (r : Nat)
    (h1 : ∀ k, ilocV A.size r k = ilocV A'.size r k) (h2 : ∀ k, ilocV A.font r k = ilocV A'.font r k) :
    ∀ (cells : List (Option Str)) (cum : List Rat) (k : Nat) (prev : Rat) (acc : Nat × Bool),
      dataLines measure A r cells cum k prev acc = dataLines measure A' r cells cum k prev acc
  | [], _, _, _, _ => by simp only [dataLines]
  | _ :: _, [], _, _, _ => by simp only [dataLines]
  | cell :: cells, c :: cum, k, prev, acc => by
    rw [dataLines, dataLines, h1 k, h2 k]
    simp only [dataLines_congr measure A A' r h1 h2 cells cum]

/-! ## a document cut after `m` frame rows -/

/-- the document with the same components whose frame is cut after `m` rows -/
def takeRows (d : Doc) (m : Nat) : Doc := { d with rows := d.rows.take m }

theorem keyChange_takeRows (d : Doc) (names : List Str) {i m : Nat} (h : i < m) :
    keyChange (takeRows d m) names i = keyChange d names i := by
  cases i with
  | zero => rfl
  | succ i =>
    simp only [keyChange, takeRows, List.getElem?_take, if_pos h, if_pos (Nat.lt_of_succ_lt h)]
    rfl

/-- the role-level rows of the cut document are the first role-level rows of the document: line estimates, keys and
heading rows of a row do not depend on later rows -/
theorem ldRows_take {measure : Measure} {d : Doc} {m : Nat} {p p' : Prep} {ld ld' : LDoc} {near near' : Nat}
    (hp : prepare d = .ok p) (hp' : prepare (takeRows d m) = .ok p')
    (h : mkLDoc measure d p = .ok (ld, near)) (h' : mkLDoc measure (takeRows d m) p' = .ok (ld', near')) :
    ld'.rows = ld.rows.take m := by
  have hlen := (mkLDoc_facts (prepare_dispRows_length hp) h).length
  have hlen' : ld'.rows.length = (d.rows.take m).length := (mkLDoc_facts (prepare_dispRows_length hp') h').length
  obtain ⟨removed, A, ⟨hrem, _, _⟩, hA, hattrs, hcum, hdisp, _⟩ := prepare_facts hp
  obtain ⟨removed', A', ⟨hrem', _, _⟩, hA', hattrs', hcum', hdisp', _⟩ := prepare_facts hp'
  cases hA.symm.trans hA'
  cases hrem.symm.trans hrem'
  have ecum : p'.cum = p.cum := hcum'.trans hcum.symm
  apply List.ext_getElem?
  intro i
  rw [List.getElem?_take]
  cases hr' : ld'.rows[i]? with
  | none =>
    have hi := List.getElem?_eq_none_iff.mp hr'
    rw [hlen', List.length_take] at hi
    split
    · rw [List.getElem?_eq_none (by omega)]
    · rfl
  | some r' =>
    have hi := (List.getElem?_eq_some_iff.mp hr').1
    rw [hlen', List.length_take] at hi
    have him : i < m := by omega
    obtain ⟨r, hr⟩ : ∃ r, ld.rows[i]? = some r := ⟨_, List.getElem?_eq_getElem (by omega)⟩
    obtain ⟨row', cells', n', a1, a2, a3⟩ := mkLDoc_rows h' i r' hr'
    obtain ⟨row, cells, n, b1, b2, b3⟩ := mkLDoc_rows h i r hr
    have hrows' : (takeRows d m).rows = d.rows.take m := rfl
    rw [hrows', List.getElem?_take, if_pos him, b1] at a1
    cases a1
    rw [hdisp', hrows', List.map_take, List.getElem?_take, if_pos him, ← hdisp, b2] at a2
    cases a2
    -- only the line estimate reads the attributes, and it reads them at row `i`
    have hdl : dataLines measure p'.attrs i cells' p'.cum 0 0 (1, false) =
        dataLines measure p.attrs i cells' p.cum 0 0 (1, false) := by
      rw [ecum, hattrs, hattrs']
      apply dataLines_congr
      · intro k
        exact ilocV_processed_prefix A _ _ _ removed .size i k (by rw [hrows', List.length_take]; omega)
          (by rw [hrows']; exact List.length_take_le' _ _)
      · intro k
        exact ilocV_processed_prefix A _ _ _ removed .font i k (by rw [hrows', List.length_take]; omega)
          (by rw [hrows']; exact List.length_take_le' _ _)
    rw [keyChange_takeRows d _ him, keyChange_takeRows d _ him] at a3
    unfold mkLRow at a3 b3
    rw [hdl, ecum] at a3
    rw [if_pos him, hr]
    exact congrArg (fun x => some x.1) (Except.ok.inj (a3.symm.trans b3))

end Proofs.EncodePages
