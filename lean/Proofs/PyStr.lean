import Generated.PyPrelude
import Model.Rtf
import Proofs.EscNodes
/-!
Strings of the translated emitters (`Generated/Py*.lean`: lists of code points) against the characters the syntax
trees print: the helpers shared by the bridge files `Props/C01py*.lean`.  Kept apart from those files so that a
bridge file imports the generated definition of ITS function only — when another function leaves the translated
subset, only the bridge files of that function stop being obligations (`harness/common.py` `build_all`).
The declarations stand in the namespaces of the bridge files that open them (`Props.C01py`, `Props.C01pyc`).
-/
namespace Props.C01py
open Model.Rtf Generated.Py

/-- code points of a list of characters -/
def cps (l : List Char) : List Nat := l.map Char.toNat

/-- the text a `*_CODES` table holds for an entry whose control word is `w` (`""` for the entry `""`) -/
def codeText (w : List Char) : List Nat := if w.isEmpty then [] else cps ('\\' :: w)

theorem strOfInt_digits (k : Int) : strOfInt k = cps (intDigits k) := by
  simp [strOfInt, cps, Proofs.EscNodes.intDigits_agree]

end Props.C01py

namespace Props.C01pyc
open Model.Rtf Generated.Py Props.C01py

theorem cps_append (a b : List Char) : cps (a ++ b) = cps a ++ cps b := by simp [cps]

theorem cps_printNodes_nil : cps (printNodes []) = [] := rfl

theorem cps_printNodes_cons (n : Node) (ns : List Node) :
    cps (printNodes (n :: ns)) = cps (printNode n) ++ cps (printNodes ns) := by
  rw [printNodes, cps_append]

/-- a control word without delimiter blank, as code points -/
theorem cps_cw (w : List Char) (p : Option Int) :
    cps (printNode (Node.cw w p false)) = 92 :: cps w ++ (match p with | some k => strOfInt k | none => []) := by
  cases p <;> simp [printNode, cps, strOfInt_digits]

/-- an optional control word (`[]` for the entry `""`) prints as the text of its code-table entry -/
theorem cps_optCw (w : List Char) :
    cps (printNodes (if w.isEmpty then [] else [Node.cw w none false])) = codeText w := by
  unfold codeText
  split
  · rfl
  · rw [cps_printNodes_cons, cps_cw, cps_printNodes_nil, List.append_nil, List.append_nil]
    rfl

/-- control words that come from a code table (vertical alignment, text format), printed -/
theorem print_valign (ws : List (List Char)) :
    cps (printNodes (ws.map fun w => Node.cw w none false)) = ws.flatMap fun w => cps ('\\' :: w) := by
  induction ws with
  | nil => rfl
  | cons w ws ih =>
    simp only [List.map_cons, cps_printNodes_cons, cps_cw, ih, List.flatMap_cons, List.append_nil]
    rfl

theorem pyJoin_nil (l : List (List Nat)) : pyJoin [] l = l.flatten := by
  induction l with
  | nil => rfl
  | cons x xs ih =>
    cases xs with
    | nil => simp [pyJoin]
    | cons y ys => simp only [pyJoin, List.append_nil, ih, List.flatten_cons]

end Props.C01pyc
