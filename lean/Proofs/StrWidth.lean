import Model.StrWidth
/-! Helper lemmas for C20 (core Lean only).  L1 and L2 are the two layers of `Model/StrWidth.lean`: L1 the fold `px64`
over additive advances and pair values with the tables as parameters, L2 the tables computed from a font file by
FreeType/HarfBuzz fixed-point scaling.  Here: the fold is monotone, linear and bounded in its tables; the scaled tables
keep the two table hypotheses at every size and stay within a stated error of exact scaling; unit conversion and the
unfolding of `getStringWidth`; the table hypotheses relativised to a finite alphabet. -/
namespace Proofs.StrWidth
open Model.StrWidth Generated

/-! ## the fold -/

theorem run_nil (m : Metrics) (e : Env) (st : St) : run m e st [] = st := rfl

theorem run_cons (m : Metrics) (e : Env) (st : St) (c : Char) (t : List Char) :
    run m e st (c :: t) = run m e (step m e st c) t := rfl

theorem run_append (m : Metrics) (e : Env) (st : St) (t u : List Char) :
    run m e st (t ++ u) = run m e (run m e st t) u :=
  List.foldl_append

theorem run_snoc (m : Metrics) (e : Env) (st : St) (t : List Char) (c : Char) :
    run m e st (t ++ [c]) = step m e (run m e st t) c := by
  simp [run_append, run_cons, run_nil]

/-- the table hypotheses of the C20 theorems -/
def TableOK (m : Metrics) : Prop := (∀ g, 0 ≤ m.adv g) ∧ (∀ a b, 0 ≤ m.adv b + m.kern a b)

/-- an increment is the advance alone, or the advance plus the pair value with the previous character -/
theorem increment_cases (m : Metrics) (prev : Option (Char × Option Nat)) (cur : Option Nat) (c : Char) :
    increment m prev cur c = m.adv c ∨ ∃ p, increment m prev cur c = m.adv c + m.kern p c := by
  unfold increment
  match prev with
  | none => exact .inl rfl
  | some (p, ps) =>
    by_cases hj : joined ps cur = true
    · exact .inr ⟨p, by simp [hj]⟩
    · exact .inl (by simp [hj])

theorem increment_nonneg {m : Metrics} (h : TableOK m) (prev : Option (Char × Option Nat))
    (cur : Option Nat) (c : Char) : 0 ≤ increment m prev cur c := by
  rcases increment_cases m prev cur c with hi | ⟨p, hi⟩
  · exact hi ▸ h.1 c
  · exact hi ▸ h.2 p c

theorem step_acc (m : Metrics) (e : Env) (st : St) (c : Char) :
    (step m e st c).acc = st.acc + increment m st.prev (resolve e st.last st.stack c).1 c := rfl

theorem run_acc_le {m : Metrics} (h : TableOK m) (e : Env) (t : List Char) :
    ∀ st : St, st.acc ≤ (run m e st t).acc := by
  induction t with
  | nil =>
    intro st
    exact Int.le_refl _
  | cons c t ih =>
    intro st
    have ht := ih (step m e st c)
    have hc := increment_nonneg h st.prev (resolve e st.last st.stack c).1 c
    rw [step_acc] at ht
    rw [run_cons]
    omega

theorem px64_nil (m : Metrics) (e : Env) : px64 m e [] = 0 := rfl

theorem px64_nonneg {m : Metrics} (h : TableOK m) (e : Env) (t : List Char) : 0 ≤ px64 m e t :=
  run_acc_le h e t St.init

theorem px64_append_le {m : Metrics} (h : TableOK m) (e : Env) (t u : List Char) :
    px64 m e t ≤ px64 m e (t ++ u) := by
  unfold px64
  rw [run_append]
  exact run_acc_le h e u _

/-- the exact increment: appending one character adds its advance, plus the pair adjustment when it is
shaped together with its predecessor — and nothing else changes -/
theorem px64_snoc (m : Metrics) (e : Env) (t : List Char) (c : Char) :
    px64 m e (t ++ [c]) = px64 m e t +
      increment m (run m e St.init t).prev
        (resolve e (run m e St.init t).last (run m e St.init t).stack c).1 c := by
  unfold px64
  rw [run_snoc, step_acc]

/-- if every increment along `t` lies in `[lo, hi]`, the width added by `t` lies in `|t|·[lo, hi]` -/
theorem run_acc_bounds (m : Metrics) (e : Env) (lo hi : Int) (t : List Char)
    (h : ∀ c ∈ t, ∀ prev cur, lo ≤ increment m prev cur c ∧ increment m prev cur c ≤ hi) :
    ∀ st : St, st.acc + t.length * lo ≤ (run m e st t).acc ∧
      (run m e st t).acc ≤ st.acc + t.length * hi := by
  induction t with
  | nil =>
    intro st
    simp [run_nil]
  | cons c t ih =>
    intro st
    have ht := ih (fun x hx => h x (List.mem_cons_of_mem _ hx)) (step m e st c)
    have hc := h c (List.mem_cons_self ..) st.prev (resolve e st.last st.stack c).1
    rw [step_acc] at ht
    rw [run_cons, List.length_cons, Int.natCast_succ, Int.add_mul, Int.add_mul]
    omega

/-! ### monospace -/

theorem px64_mono (m : Metrics) (e : Env) (a : Int) (hk : ∀ x y, m.kern x y = 0) (t : List Char)
    (ha : ∀ c ∈ t, m.adv c = a) : px64 m e t = t.length * a := by
  have hinc : ∀ c ∈ t, ∀ prev cur, a ≤ increment m prev cur c ∧ increment m prev cur c ≤ a := by
    intro c hc prev cur
    rcases increment_cases m prev cur c with hi | ⟨p, hi⟩ <;> rw [hi, ha c hc]
    · omega
    · rw [hk]
      omega
  have := run_acc_bounds m e a a t hinc St.init
  unfold px64
  simp only [St.init] at this ⊢
  omega

/-! ### linearity and boundedness in the tables (for the size-scaling bound) -/

/-- the non-accumulator part of the state does not depend on the tables -/
theorem run_shape (m u : Metrics) (e : Env) (t : List Char) :
    ∀ s1 s2 : St, s1.prev = s2.prev → s1.last = s2.last → s1.stack = s2.stack →
      (run m e s1 t).prev = (run u e s2 t).prev ∧ (run m e s1 t).last = (run u e s2 t).last ∧
      (run m e s1 t).stack = (run u e s2 t).stack := by
  induction t with
  | nil =>
    intro s1 s2 h1 h2 h3
    exact ⟨h1, h2, h3⟩
  | cons c t ih =>
    intro s1 s2 h1 h2 h3
    rw [run_cons, run_cons]
    apply ih <;> simp [step, h2, h3]

/-- metrics `α·m − β·u` -/
def lin (α β : Int) (m u : Metrics) : Metrics where
  adv c := α * m.adv c - β * u.adv c
  kern a b := α * m.kern a b - β * u.kern a b

theorem increment_lin (α β : Int) (m u : Metrics) (prev : Option (Char × Option Nat)) (cur : Option Nat)
    (c : Char) :
    increment (lin α β m u) prev cur c = α * increment m prev cur c - β * increment u prev cur c := by
  unfold increment
  match prev with
  | none => rfl
  | some (p, ps) =>
    simp only [lin]
    split
    · rw [Int.mul_add, Int.mul_add]
      omega
    · simp

theorem run_lin (α β : Int) (m u : Metrics) (e : Env) (t : List Char) :
    ∀ s s1 s2 : St, s.prev = s1.prev → s.last = s1.last → s.stack = s1.stack →
      s.prev = s2.prev → s.last = s2.last → s.stack = s2.stack →
      s.acc = α * s1.acc - β * s2.acc →
      (run (lin α β m u) e s t).acc = α * (run m e s1 t).acc - β * (run u e s2 t).acc := by
  induction t with
  | nil =>
    intro s s1 s2 _ _ _ _ _ _ h
    exact h
  | cons c t ih =>
    intro s s1 s2 p1 l1 k1 p2 l2 k2 h
    rw [run_cons, run_cons, run_cons]
    refine ih _ _ _ ?_ ?_ ?_ ?_ ?_ ?_ ?_
    iterate 3 simp [step, l1, k1]
    iterate 3 simp [step, l2, k2]
    · rw [step_acc, step_acc, step_acc, increment_lin, h, ← p1, ← p2, ← l1, ← l2, ← k1, ← k2,
        Int.mul_add, Int.mul_add]
      omega

theorem px64_lin (α β : Int) (m u : Metrics) (e : Env) (t : List Char) :
    px64 (lin α β m u) e t = α * px64 m e t - β * px64 u e t := by
  unfold px64
  apply run_lin <;> simp [St.init]

/-- if every advance is within `EA` and every pair value within `EK` of zero, the width of `t` is within
`|t|·(EA + EK)` of zero -/
theorem px64_bound (d : Metrics) (e : Env) (EA EK : Int) (hEK : 0 ≤ EK)
    (hA : ∀ c, -EA ≤ d.adv c ∧ d.adv c ≤ EA) (hK : ∀ a b, -EK ≤ d.kern a b ∧ d.kern a b ≤ EK)
    (t : List Char) :
    -(t.length * (EA + EK)) ≤ px64 d e t ∧ px64 d e t ≤ t.length * (EA + EK) := by
  have hinc : ∀ c ∈ t, ∀ prev cur, -(EA + EK) ≤ increment d prev cur c ∧ increment d prev cur c ≤ EA + EK := by
    intro c _ prev cur
    have a := hA c
    rcases increment_cases d prev cur c with hi | ⟨p, hi⟩ <;> rw [hi]
    · omega
    · have k := hK p c
      omega
  have := run_acc_bounds d e (-(EA + EK)) (EA + EK) t hinc St.init
  unfold px64
  simp only [St.init, Int.mul_neg] at this ⊢
  omega

/-! ## fixed point: FreeType / HarfBuzz scaling -/

theorem asr10 (x : Int) : asr x 10 = x / 1024 := rfl
theorem asr16 (x : Int) : asr x 16 = x / 65536 := rfl

theorem sgn2_nonneg {a b : Int} (ha : 0 ≤ a) (hb : 0 ≤ b) : sgn2 a b = 1 := by
  have h1 : ¬ a < 0 := by omega
  have h2 : ¬ b < 0 := by omega
  simp [sgn2, h1, h2]

theorem xScale_eq (n upem : Nat) (hu : 0 < upem) :
    xScale n upem = (((n * 65536 + upem / 2) / upem : Nat) : Int) := by
  have h0 : upem ≠ 0 := by omega
  simp [xScale, ftDivFix, h0, sgn2_nonneg]

theorem ftMulDiv64 (h s : Nat) : ftMulDiv h s 64 = (((h * s + 32) / 64 : Nat) : Int) := by
  have : sgn2 ((h : Int) * (s : Int)) 64 = 1 := sgn2_nonneg (Int.mul_nonneg (by omega) (by omega)) (by omega)
  simp [ftMulDiv, this]

theorem hbAdvance_eq (h s : Nat) : hbAdvance h s = (((h * s + 0x8020) / 65536 : Nat) : Int) := by
  rw [hbAdvance, ftMulDiv64, asr10]
  generalize h * s = p
  omega

/-- `xScale n upem` (`xScale_eq`) and `hbXMult n upem` (`hbXMult_eq`) as natural numbers -/
def scaleN (n upem : Nat) : Nat := (n * 65536 + upem / 2) / upem
def multN (n upem : Nat) : Nat := n * 65536 / upem

theorem div_mul_bounds (a : Nat) {d : Nat} (hd : 0 < d) : a / d * d ≤ a ∧ a < a / d * d + d :=
  ⟨Nat.div_mul_le_self a d, Nat.lt_div_mul_add hd⟩

theorem multN_le_scaleN (n upem : Nat) : multN n upem ≤ scaleN n upem :=
  Nat.div_le_div_right (by omega)

theorem hbXScale_eq (n upem : Nat) (hu : 0 < upem) (hu2 : upem < 65536) : hbXScale n upem = n := by
  rw [hbXScale, xScale_eq n upem hu, asr16]
  have := div_mul_bounds (n * 65536 + upem / 2) hu
  generalize (n * 65536 + upem / 2) / upem = q at *
  have hc : ((q : Int) * (upem : Int)) = ((q * upem : Nat) : Int) := by simp
  rw [hc]
  generalize q * upem = p at *
  omega

theorem hbXMult_eq (n upem : Nat) (hu : 0 < upem) (hu2 : upem < 65536) :
    hbXMult n upem = (multN n upem : Int) := by
  rw [hbXMult, hbXScale_eq n upem hu hu2, multN]
  have : ((n : Int) * 65536) = ((n * 65536 : Nat) : Int) := by simp
  rw [this, Int.tdiv_eq_ediv_of_nonneg (by omega)]
  simp

theorem hbEmMult_eq (k x : Int) : hbEmMult k x = (k * x + 32768) / 65536 := rfl

/-- the arithmetic heart of the L2 hypotheses: if the advance of the right glyph plus the pair value is
non-negative in font units, it is non-negative after FreeType/HarfBuzz scaling at every size -/
theorem scaled_pair_nonneg (h : Nat) (k : Int) (s x : Nat) (hx : x ≤ s) (hk : 0 ≤ (h : Int) + k) :
    0 ≤ hbAdvance h s + hbEmMult k x := by
  rw [hbAdvance_eq, hbEmMult_eq]
  -- `k·x ≥ k·s` when `k < 0`, and `(h + k)·s ≥ 0`
  have hP : 0 ≤ ((h * s : Nat) : Int) + k * x := by
    have h2 : 0 ≤ ((h : Int) + k) * (s : Int) := Int.mul_nonneg hk (by omega)
    by_cases hk0 : 0 ≤ k
    · have := Int.mul_nonneg hk0 (by omega : (0 : Int) ≤ x)
      grind
    · have h1 : k * (s : Int) ≤ k * (x : Int) := Int.mul_le_mul_of_nonpos_left (by omega) (by omega)
      grind
  omega

/-! ## error of the scaled tables against exact scaling -/

/-- scaled advance vs exact scaling, cross-multiplied.  34848 = 32800 + 4096 / 2: the rounding constant `0x8020` of
`hbAdvance`, and `h / 2 ≤ 2048` from the half unit by which the scale `xScale n U` is rounded. -/
theorem adv_err (h n U : Nat) (hU : 64 ≤ U) (hh : h ≤ 4096) :
    -(34848 * (U : Int)) ≤ 65536 * (U : Int) * hbAdvance h (xScale n U) - 65536 * (n : Int) * h ∧
    65536 * (U : Int) * hbAdvance h (xScale n U) - 65536 * (n : Int) * h ≤ 34848 * (U : Int) := by
  rw [xScale_eq n U (by omega), hbAdvance_eq]
  have hb := div_mul_bounds (n * 65536 + U / 2) (show 0 < U by omega)
  generalize (n * 65536 + U / 2) / U = S at *
  have e1 : 65536 * ((h * S + 0x8020) / 65536) ≤ h * S + 32800 := by omega
  have e2 : h * S + 32800 + 1 ≤ 65536 * ((h * S + 0x8020) / 65536) + 65536 := by omega
  generalize (h * S + 0x8020) / 65536 = a at *
  have e1U := Nat.mul_le_mul_right U e1
  have e2U := Nat.mul_le_mul_right U e2
  have s1 := Nat.mul_le_mul_left h hb.1
  have s2 := Nat.mul_le_mul_left h (Nat.le_of_lt hb.2)
  have u1 : h * (U / 2) ≤ 4096 * (U / 2) := Nat.mul_le_mul_right _ hh
  have u2 : h * U ≤ h * (2 * (U / 2) + 1) := Nat.mul_le_mul_left h (by omega)
  grind

/-- scaled pair value vs exact scaling, cross-multiplied.  33792 = 32768 + 1024: the rounding constant of `hbEmMult`,
and `|k| ≤ 1024` times the less-than-one unit by which `hbXMult n U` is truncated. -/
theorem kern_err (k : Int) (n U : Nat) (hU : 0 < U) (hU2 : U < 65536) (hk : -1024 ≤ k ∧ k ≤ 1024) :
    -(33792 * (U : Int)) ≤ 65536 * (U : Int) * hbEmMult k (hbXMult n U) - 65536 * (n : Int) * k ∧
    65536 * (U : Int) * hbEmMult k (hbXMult n U) - 65536 * (n : Int) * k ≤ 33792 * (U : Int) := by
  rw [hbXMult_eq n U hU hU2, hbEmMult_eq, multN]
  have hb := div_mul_bounds (n * 65536) hU
  generalize n * 65536 / U = X at *
  have e1 : 65536 * ((k * (X : Int) + 32768) / 65536) ≤ k * X + 32768 := by omega
  have e2 : k * (X : Int) + 32768 ≤ 65536 * ((k * (X : Int) + 32768) / 65536) + 65535 := by omega
  generalize (k * (X : Int) + 32768) / 65536 = K at *
  have hU0 : (0 : Int) ≤ U := by omega
  have e1U := Int.mul_le_mul_of_nonneg_right e1 hU0
  have e2U := Int.mul_le_mul_of_nonneg_right e2 hU0
  -- the remainder of the division that defines `X`
  have r0 : (0 : Int) ≤ n * 65536 - X * U := by omega
  have k1 := Int.mul_le_mul_of_nonneg_right hk.2 r0
  have k2 := Int.mul_le_mul_of_nonneg_right hk.1 r0
  grind

/-! ## font-unit facts (decidable; discharged per generated font by `decide +kernel`) -/

/-- the smallest pair value of a kern table (0 if none is negative) -/
def minKern : List (Nat × Nat × Int) → Int
  | [] => 0
  | e :: k => min e.2.2 (minKern k)

theorem minKern_le {k : List (Nat × Nat × Int)} {e : Nat × Nat × Int} (he : e ∈ k) : minKern k ≤ e.2.2 := by
  induction k with
  | nil => cases he
  | cons x k ih =>
    simp only [minKern]
    rcases List.mem_cons.mp he with rfl | h
    · exact Int.min_le_left ..
    · exact Int.le_trans (Int.min_le_right ..) (ih h)

/-- for every legacy kern pair, the advance of the right glyph plus the pair value is non-negative.
Decided glyph by glyph against the smallest pair value, and pair by pair only for a glyph narrower than
that: one comparison per glyph instead of one per (glyph, kern entry). -/
def kernFact (f : FontData) : Bool :=
  f.glyphs.all fun g => decide (0 ≤ (g.2.2 : Int) + minKern f.kern) ||
    f.kern.all fun e => g.2.1 != e.2.1 || decide (0 ≤ (g.2.2 : Int) + e.2.2)

/-- magnitude bounds used by the size-scaling estimate -/
def unitBounds (f : FontData) : Bool :=
  decide (64 ≤ f.upem) && decide (f.upem < 65536) && decide (f.notdef ≤ 4096) &&
  f.glyphs.all (fun g => decide (g.2.2 ≤ 4096)) &&
  f.kern.all (fun e => decide (-1024 ≤ e.2.2) && decide (e.2.2 ≤ 1024))

theorem lookup_mem {α β : Type} [BEq α] [LawfulBEq α] {k : α} {l : List (α × β)} {v : β}
    (h : l.lookup k = some v) : (k, v) ∈ l := by
  obtain ⟨l₁, l₂, rfl, _⟩ := List.lookup_eq_some_iff.mp h
  simp

theorem unitsAdv_cases (f : FontData) (c : Char) :
    unitsAdv f c = f.notdef ∨ ∃ g, (c.toNat, g, unitsAdv f c) ∈ f.glyphs := by
  unfold unitsAdv
  split
  · rename_i g a h
    exact .inr ⟨g, lookup_mem h⟩
  · exact .inl rfl

/-- a pair value in font units is 0 or the value of a kern entry whose right glyph is the glyph of `b` -/
theorem unitsKern_cases (f : FontData) (a b : Char) :
    unitsKern f a b = 0 ∨
    ∃ g, (b.toNat, g, unitsAdv f b) ∈ f.glyphs ∧ ∃ e ∈ f.kern, e.2.1 = g ∧ unitsKern f a b = e.2.2 := by
  unfold unitsKern
  split
  · rename_i ga _ gb advb _ hb
    unfold kernLookup
    split
    · rename_i e he
      have hadv : unitsAdv f b = advb := by simp [unitsAdv, hb]
      have hr := List.find?_some he
      simp only [Bool.and_eq_true, beq_iff_eq] at hr
      exact .inr ⟨gb, hadv ▸ lookup_mem hb, e, List.mem_of_find?_eq_some he, hr.2, rfl⟩
    · exact .inl rfl
  · exact .inl rfl

theorem unitsPair_nonneg (f : FontData) (hf : kernFact f = true) (a b : Char) :
    0 ≤ (unitsAdv f b : Int) + unitsKern f a b := by
  rcases unitsKern_cases f a b with h0 | ⟨g, hm, e, he, hg, hk⟩
  · omega
  · rw [hk]
    have := List.all_eq_true.mp hf _ hm
    simp only [Bool.or_eq_true, decide_eq_true_eq, List.all_eq_true, bne_iff_ne, ne_eq] at this
    rcases this with h | h
    · have := minKern_le he
      omega
    · rcases h e he with h | h
      · exact absurd hg.symm h
      · exact h

theorem lib_tableOK (f : FontData) (hf : kernFact f = true) (hu : 0 < f.upem) (hu2 : f.upem < 65536)
    (n : Nat) : TableOK (libMetrics f n) := by
  constructor
  · intro g
    simp only [libMetrics]
    rw [xScale_eq n f.upem hu, hbAdvance_eq]
    omega
  · intro a b
    simp only [libMetrics]
    rw [xScale_eq n f.upem hu, hbXMult_eq n f.upem hu hu2]
    exact scaled_pair_nonneg _ _ _ _ (multN_le_scaleN n f.upem) (unitsPair_nonneg f hf a b)

/-! ## size scaling -/

/-- the unscaled tables of a font, as `Metrics` in font units -/
def unitMetrics (f : FontData) : Metrics := ⟨fun c => unitsAdv f c, unitsKern f⟩

theorem unitsRun_eq (f : FontData) (e : Env) (t : List Char) : unitsRun f e t = px64 (unitMetrics f) e t := rfl

theorem unitBounds_iff (f : FontData) : unitBounds f = true ↔
    (64 ≤ f.upem ∧ f.upem < 65536) ∧ (f.notdef ≤ 4096 ∧ ∀ g ∈ f.glyphs, g.2.2 ≤ 4096) ∧
      ∀ e ∈ f.kern, -1024 ≤ e.2.2 ∧ e.2.2 ≤ 1024 := by
  simp only [unitBounds, Bool.and_eq_true, decide_eq_true_eq, List.all_eq_true, and_assoc]

theorem unitsAdv_le (f : FontData) (hb : unitBounds f = true) (c : Char) : unitsAdv f c ≤ 4096 := by
  obtain ⟨_, hadv, _⟩ := (unitBounds_iff f).mp hb
  rcases unitsAdv_cases f c with h | ⟨g, hm⟩
  · exact h ▸ hadv.1
  · exact hadv.2 _ hm

theorem unitsKern_bounds (f : FontData) (hb : unitBounds f = true) (a b : Char) :
    -1024 ≤ unitsKern f a b ∧ unitsKern f a b ≤ 1024 := by
  rcases unitsKern_cases f a b with h0 | ⟨_, _, e, he, _, hk⟩
  · omega
  · exact hk ▸ ((unitBounds_iff f).mp hb).2.2 e he

/-- **size scaling, exact form**: the width at 26.6 size `n` differs from exact linear scaling of the
font-unit width by at most 68640/65536 ≈ 1.05 (in 1/64 px) per character; 68640 = 34848 + 33792, one advance
(`adv_err`) and one pair value (`kern_err`) per character -/
theorem lib_scaling_bound (f : FontData) (hb : unitBounds f = true) (e : Env) (n : Nat) (t : List Char) :
    -(68640 * (f.upem : Int) * t.length) ≤
        65536 * (f.upem : Int) * px64 (libMetrics f n) e t - 65536 * (n : Int) * unitsRun f e t ∧
      65536 * (f.upem : Int) * px64 (libMetrics f n) e t - 65536 * (n : Int) * unitsRun f e t ≤
        68640 * (f.upem : Int) * t.length := by
  obtain ⟨⟨hU, hU2⟩, _⟩ := (unitBounds_iff f).mp hb
  rw [unitsRun_eq, ← px64_lin]
  have key := px64_bound (lin (65536 * (f.upem : Int)) (65536 * (n : Int)) (libMetrics f n) (unitMetrics f)) e
    (34848 * (f.upem : Int)) (33792 * (f.upem : Int)) (by omega)
    (fun c => adv_err (unitsAdv f c) n f.upem hU (unitsAdv_le f hb c))
    (fun a b => kern_err (unitsKern f a b) n f.upem (by omega) hU2 (unitsKern_bounds f hb a b)) t
  grind

/-- **the one-percent relation from two exact-form bounds** (pure arithmetic).
`212·upem·|t| ≤ n·R` says: the mean advance at size `n` is at least 212/64 = 3.3125 px.  With ε = 68640/65536 the two
bounds give `U·|W1·n2 − W2·n1| ≤ ε·U·L·(n1 + n2)` and `U·W1·n2 ≥ n1·n2·R − ε·U·L·n2`; the two hypotheses give
`n1·n2·R ≥ 106·U·L·(n1 + n2)`, and 106 ≥ 101·ε ≈ 105.8 is what one percent needs: 212 = 2·106. -/
theorem one_percent (U L n1 n2 : Nat) (W1 W2 R : Int) (hU : 0 < U)
    (b1 : -(68640 * (U : Int) * L) ≤ 65536 * (U : Int) * W1 - 65536 * (n1 : Int) * R ∧
          65536 * (U : Int) * W1 - 65536 * (n1 : Int) * R ≤ 68640 * (U : Int) * L)
    (b2 : -(68640 * (U : Int) * L) ≤ 65536 * (U : Int) * W2 - 65536 * (n2 : Int) * R ∧
          65536 * (U : Int) * W2 - 65536 * (n2 : Int) * R ≤ 68640 * (U : Int) * L)
    (h1 : 212 * (U : Int) * L ≤ n1 * R) (h2 : 212 * (U : Int) * L ≤ n2 * R) :
    scaleOK64 n1 W1 n2 W2 = true := by
  have n1' : (0 : Int) ≤ n1 := by omega
  have n2' : (0 : Int) ≤ n2 := by omega
  -- multiply the bounds at either size by the other size
  have a1 := Int.mul_le_mul_of_nonneg_left b1.1 n2'
  have a2 := Int.mul_le_mul_of_nonneg_left b1.2 n2'
  have a3 := Int.mul_le_mul_of_nonneg_left b2.1 n1'
  have a4 := Int.mul_le_mul_of_nonneg_left b2.2 n1'
  have g1 := Int.mul_le_mul_of_nonneg_left h1 n2'
  have g2 := Int.mul_le_mul_of_nonneg_left h2 n1'
  have t1 : (0 : Int) ≤ (U : Int) * L * n1 := Int.mul_nonneg (Int.mul_nonneg (by omega) (by omega)) n1'
  have t2 : (0 : Int) ≤ (U : Int) * L * n2 := Int.mul_nonneg (Int.mul_nonneg (by omega) (by omega)) n2'
  -- the relation holds after multiplication by `U`
  have hx : (U : Int) * (100 * (W1 * n2 - W2 * n1)) ≤ (U : Int) * (W1 * n2) ∧
      (U : Int) * -(100 * (W1 * n2 - W2 * n1)) ≤ (U : Int) * (W1 * n2) := by
    grind
  have hUpos : (0 : Int) < U := by omega
  have c1 := Int.le_of_mul_le_mul_left hx.1 hUpos
  have c2 := Int.le_of_mul_le_mul_left hx.2 hUpos
  unfold scaleOK64
  rw [decide_eq_true_eq]
  omega

/-! ## rationals: unit conversion -/

theorem rat_div64_nonneg (a : Int) (h : 0 ≤ a) : (0 : Rat) ≤ (a : Rat) / 64 := by
  rw [Rat.div_def]
  exact Rat.mul_nonneg (Rat.intCast_nonneg.mpr h) (by decide +kernel)

theorem rat_div64_le (a b : Int) (h : a ≤ b) : (a : Rat) / 64 ≤ (b : Rat) / 64 := by
  rw [Rat.div_def, Rat.div_def]
  exact Rat.mul_le_mul_of_nonneg_right (Rat.intCast_le_intCast.mpr h) (by decide +kernel)

theorem measureL1_mono {m : Metrics} (h : TableOK m) (e : Env) (t u : List Char) :
    0 ≤ measureL1 m e t ∧ measureL1 m e t ≤ measureL1 m e (t ++ u) :=
  ⟨rat_div64_nonneg _ (px64_nonneg h e t), rat_div64_le _ _ (px64_append_le h e t u)⟩

/-- a successful conversion multiplies by a non-negative factor that depends on unit and dpi only -/
theorem convert_linear {unit : String} {dpi x a : Rat} (hd : 0 < dpi) (hx : convert unit dpi x = .ok a) :
    ∃ c, 0 ≤ c ∧ ∀ y, convert unit dpi y = .ok (y * c) := by
  have hd0 : dpi ≠ 0 := fun h0 => absurd (h0 ▸ hd) (by decide +kernel)
  have hi : (0 : Rat) ≤ dpi⁻¹ := Rat.le_of_lt (Rat.inv_pos.mpr hd)
  unfold convert at hx ⊢
  split at hx
  · exact ⟨1, by decide +kernel, fun y => by simp [*, Rat.mul_one]⟩
  · split at hx
    · exact ⟨dpi⁻¹, hi, fun y => by simp [*, Rat.div_def]⟩
    · split at hx
      · exact ⟨dpi⁻¹ * (127 / 5), Rat.mul_nonneg hi (by decide +kernel),
          fun y => by simp [*, Rat.div_def, Rat.mul_assoc]⟩
      · cases hx

theorem convert_zero {unit : String} {dpi : Rat} (hd : dpi ≠ 0)
    (hu : unit = "px" ∨ unit = "in" ∨ unit = "mm") : convert unit dpi 0 = .ok 0 := by
  unfold convert
  rcases hu with h | h | h <;> subst h <;> simp [hd, Rat.div_def, Rat.zero_mul]

theorem convert_bad_unit {unit : String} (dpi x : Rat)
    (hu : ¬ (unit = "px" ∨ unit = "in" ∨ unit = "mm")) : convert unit dpi x = .error .valueError := by
  simp only [not_or] at hu
  simp [convert, hu]

/-! ## unfolding `getStringWidth` -/

theorem gsw_ok {measure : String → Rat → List Char → Rat} {text : List Char} {font : FontArg}
    {size dpi w : Rat} {unit : String}
    (h : getStringWidth measure text font size unit dpi = .ok w) :
    ∃ p, fontPath font = .ok p ∧ 0 < size ∧ convert unit dpi (measure p size text) = .ok w := by
  unfold getStringWidth at h
  cases hp : fontPath font with
  | error e => simp [hp, bind, Except.bind] at h
  | ok p =>
    simp only [hp, bind, Except.bind] at h
    split at h
    · simp at h
    · rename_i hs
      exact ⟨p, rfl, Rat.not_le.mp hs, h⟩

theorem gsw_of_path {measure : String → Rat → List Char → Rat} {text : List Char} {font : FontArg}
    {size dpi : Rat} {unit p : String} (hp : fontPath font = .ok p) (hs : 0 < size) :
    getStringWidth measure text font size unit dpi = convert unit dpi (measure p size text) := by
  unfold getStringWidth
  have : ¬ size ≤ 0 := Rat.not_le.mpr hs
  simp [hp, bind, Except.bind, this]

/-- resolving the font fails with `ValueError` only -/
theorem fontPath_error {font : FontArg} {e : Err} (h : fontPath font = .error e) : e = .valueError := by
  have hn : ∀ e', fontName font = .error e' → e' = .valueError := by
    intro e' hn
    simp only [fontName] at hn
    repeat' split at hn
    all_goals simp_all
  unfold fontPath at h
  cases hf : fontName font with
  | error e' =>
    rw [hf] at h
    exact (Except.error.inj h) ▸ hn e' hf
  | ok nm =>
    simp only [hf, bind, Except.bind] at h
    split at h <;> simp_all

/-- two successful calls that differ in the text only: the widths compare as the measured widths do -/
theorem gsw_nonneg_le {measure : String → Rat → List Char → Rat} {t t' : List Char} {font : FontArg}
    {size dpi w w' : Rat} {unit : String} (hd : 0 < dpi)
    (h : getStringWidth measure t font size unit dpi = .ok w)
    (h' : getStringWidth measure t' font size unit dpi = .ok w')
    (hm : ∀ p, 0 ≤ measure p size t ∧ measure p size t ≤ measure p size t') : 0 ≤ w ∧ w ≤ w' := by
  obtain ⟨p, hp, hs, hc⟩ := gsw_ok h
  rw [gsw_of_path hp hs] at h'
  obtain ⟨c, hc0, hlin⟩ := convert_linear hd hc
  rw [hlin] at hc h'
  cases hc
  cases h'
  exact ⟨Rat.mul_nonneg (hm p).1 hc0, Rat.mul_le_mul_of_nonneg_right (hm p).2 hc0⟩

/-- every number of the RTF font table lies in 1..10 (table sweep) -/
theorem fontNumbers_range :
    (fontNumberToName.all fun r => decide (1 ≤ r.1) && decide (r.1 ≤ 10)) = true := by
  decide +kernel

theorem fontName_unsupported {i : Int} (h : i < 1 ∨ 10 < i) : fontName (.num i) = .error .valueError := by
  simp only [fontName]
  split
  · rfl
  · cases hl : fontNumberToName.lookup i.toNat with
    | none => rfl
    | some v =>
      have := List.all_eq_true.mp fontNumbers_range _ (lookup_mem hl)
      simp only [Bool.and_eq_true, decide_eq_true_eq] at this
      omega

/-! ## `FT_MulFix` (used by FreeType's own kerning / the BASIC layout engine): oddness, monotonicity, and its
relation to the HarfBuzz rounding of L2 -/

theorem ftMulFix_nonneg_eq (a b : Nat) : ftMulFix a b = (((a * b + 0x8000) / 65536 : Nat) : Int) := by
  simp [ftMulFix, sgn2_nonneg]

-- the four sign cases below share one `simp` call, each using some of its arguments only
set_option linter.unusedSimpArgs false in
theorem ftMulFix_neg_left (a b : Int) : ftMulFix (-a) b = -ftMulFix a b := by
  unfold ftMulFix
  by_cases ha : a = 0
  · subst ha
    simp
  · have hs : sgn2 (-a) b = -sgn2 a b := by
      unfold sgn2
      by_cases h1 : a < 0 <;> by_cases h2 : b < 0 <;>
        simp [h1, h2, show ¬ (a < 0) → (-a < 0) from fun _ => by omega,
              show (a < 0) → ¬ (-a < 0) from fun _ => by omega] <;> omega
    rw [hs, Int.natAbs_neg, Int.neg_mul]

theorem ftMulFix_mono (a a' b : Nat) (h : a ≤ a') : ftMulFix a b ≤ ftMulFix a' b := by
  rw [ftMulFix_nonneg_eq, ftMulFix_nonneg_eq]
  apply Int.ofNat_le.mpr
  apply Nat.div_le_div_right
  have := Nat.mul_le_mul_right b h
  omega

/-- HarfBuzz's two-step rounding of an advance is `FT_MulFix` or one more -/
theorem hbAdvance_vs_ftMulFix (h s : Nat) :
    hbAdvance h s = ftMulFix h s ∨ hbAdvance h s = ftMulFix h s + 1 := by
  rw [hbAdvance_eq, ftMulFix_nonneg_eq]
  generalize h * s = p
  omega

/-! ## relativisation to an alphabet: hypotheses checked on a finite alphabet carry to all strings over it -/

/-- the table hypotheses, required only for characters of `S` -/
def TableOKOn (S : Char → Bool) (m : Metrics) : Prop :=
  (∀ g, S g = true → 0 ≤ m.adv g) ∧ (∀ a b, S a = true → S b = true → 0 ≤ m.adv b + m.kern a b)

def restrict (S : Char → Bool) (m : Metrics) : Metrics where
  adv c := if S c then m.adv c else 0
  kern a b := if S a && S b then m.kern a b else 0

theorem tableOK_restrict {S : Char → Bool} {m : Metrics} (h : TableOKOn S m) : TableOK (restrict S m) := by
  constructor
  · intro g
    simp only [restrict]
    split
    · exact h.1 g ‹_›
    · omega
  · intro a b
    simp only [restrict]
    by_cases hb : S b = true
    · by_cases ha : S a = true
      · simp only [ha, hb, Bool.and_self, if_true]
        exact h.2 a b ha hb
      · have := h.1 b hb
        simp [ha, hb]
        exact this
    · simp [hb]

theorem run_restrict (S : Char → Bool) (m : Metrics) (e : Env) (t : List Char) :
    ∀ st : St, (∀ p ps, st.prev = some (p, ps) → S p = true) → (∀ c ∈ t, S c = true) →
      run (restrict S m) e st t = run m e st t := by
  induction t with
  | nil =>
    intro st _ _
    rfl
  | cons c t ih =>
    intro st hp ht
    have hc : S c = true := ht c (List.mem_cons_self ..)
    have hinc : ∀ cur, increment (restrict S m) st.prev cur c = increment m st.prev cur c := by
      intro cur
      unfold increment
      cases hprev : st.prev with
      | none => simp [restrict, hc]
      | some x => simp [restrict, hc, hp x.1 x.2 hprev]
    have hstep : step (restrict S m) e st c = step m e st c := by simp only [step, hinc]
    rw [run_cons, run_cons, hstep]
    -- the new previous character is `c`
    exact ih _ (fun p ps h => by cases h; exact hc) (fun x hx => ht x (List.mem_cons_of_mem _ hx))

theorem px64_restrict (S : Char → Bool) (m : Metrics) (e : Env) (t : List Char) (ht : ∀ c ∈ t, S c = true) :
    px64 (restrict S m) e t = px64 m e t := by
  unfold px64
  rw [run_restrict S m e t St.init (by intro p ps h; simp [St.init] at h) ht]

theorem measureL1_mono_on {S : Char → Bool} {m : Metrics} (h : TableOKOn S m) (e : Env) (t u : List Char)
    (ht : ∀ c ∈ t ++ u, S c = true) :
    0 ≤ measureL1 m e t ∧ measureL1 m e t ≤ measureL1 m e (t ++ u) := by
  unfold measureL1
  rw [← px64_restrict S m e (t ++ u) ht,
    ← px64_restrict S m e t (fun c hc => ht c (List.mem_append_left _ hc))]
  exact measureL1_mono (tableOK_restrict h) e t u

/-- the driver's finite check establishes the hypotheses on the alphabet it was run with -/
theorem tableOKOn_of_no_violations (m : Metrics) (alpha : List Char) (h : tableViolations m alpha = []) :
    TableOKOn (fun c => alpha.contains c) m := by
  unfold tableViolations at h
  simp only [List.append_eq_nil_iff, List.map_eq_nil_iff, List.filter_eq_nil_iff, List.flatMap_eq_nil_iff,
    decide_eq_true_eq, Int.not_lt] at h
  exact ⟨fun g hg => h.1 g (by simpa using hg),
    fun a b ha hb => h.2 a (by simpa using ha) b (by simpa using hb)⟩

end Proofs.StrWidth
