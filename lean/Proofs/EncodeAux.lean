import Model.GroupBy
import Model.Broadcast
import Model.Encode
/-!
Membership facts: the values that come out of the group_by post-processing and of the broadcast
primitives are values that went in (or null).
-/
namespace Proofs.EncodeAux
open Model.Broadcast

/-! ## Broadcast -/

theorem iloc_mem {α} (m : Mat α) (r c : Nat) (v : α) (h : m.iloc r c = some v) :
    ∃ row ∈ m, v ∈ row := by
  unfold Mat.iloc at h
  split at h
  · cases h
  · split at h
    · cases h
    · rename_i row hrow
      split at h
      · cases h
      · exact ⟨row, List.mem_of_getElem? hrow, List.mem_of_getElem? h⟩

theorem pageRows_mem {α} (m : Mat α) (start height : Nat) (row : List α)
    (h : row ∈ m.pageRows start height) : row ∈ m := by
  unfold Mat.pageRows at h
  split at h
  · rw [List.mem_filterMap] at h
    obtain ⟨i, _, hi⟩ := h
    exact List.mem_of_getElem? hi
  · exact h

theorem repeatList_mem {α} (l : List α) (n : Nat) (v : α) (h : v ∈ repeatList l n) : v ∈ l := by
  induction n with
  | zero => simp [repeatList] at h
  | succ n ih =>
    simp only [repeatList, List.mem_append] at h
    cases h with
    | inl h => exact h
    | inr h => exact ih h

theorem dropCols_mem {α} (row : List α) (removed : List Nat) (v : α)
    (h : v ∈ Model.Broadcast.dropCols row removed) : v ∈ row := by
  unfold dropCols at h
  rw [List.mem_map] at h
  obtain ⟨x, hx, rfl⟩ := h
  have hx' := (List.mem_filter.mp hx).1
  obtain ⟨a, i⟩ := x
  exact List.fst_mem_of_mem_zipIdx hx'

theorem toList_mem {α} (m : Mat α) (rows cols : Nat) (row : List α)
    (h : row ∈ m.toList rows cols) (v : α) (hv : v ∈ row) : ∃ row' ∈ m, v ∈ row' := by
  unfold Mat.toList at h
  simp only [List.mem_map] at h
  obtain ⟨r1, hr1, rfl⟩ := h
  have h1 := repeatList_mem _ _ _ (List.mem_of_mem_take hr1)
  rw [List.mem_map] at h1
  obtain ⟨r2, hr2, rfl⟩ := h1
  exact ⟨r2, hr2, repeatList_mem _ _ _ (List.mem_of_mem_take hv)⟩

theorem expandSlice_mem {α} (m : Mat α) (rows cols : Nat) (removed : List Nat) (row : List α)
    (h : row ∈ m.expandSlice rows cols removed) (v : α) (hv : v ∈ row) : ∃ row' ∈ m, v ∈ row' := by
  unfold Mat.expandSlice at h
  rw [List.mem_map] at h
  obtain ⟨r0, hr0, rfl⟩ := h
  exact toList_mem m rows cols r0 hr0 v (dropCols_mem _ _ _ hv)

/-! ## GroupBy -/
section GroupBy
open Model.GroupBy

def ColAll (P : Cell → Prop) (c : Col) : Prop := ∀ x ∈ c, P x
def FrameAll (P : Cell → Prop) (f : Frame) : Prop := ∀ p ∈ f, ∀ c ∈ p.2, P c

variable {P : Cell → Prop}

theorem colAll_nil : ColAll P [] := by intro x hx; cases hx

theorem getCol_all (f : Frame) (name : Str) (hf : FrameAll P f) : ColAll P (getCol f name) := by
  induction f with
  | nil => simp [getCol, List.lookup]; exact colAll_nil
  | cons p f ih =>
    obtain ⟨n, c⟩ := p
    have ih' := ih (fun q hq => hf q (List.mem_cons_of_mem _ hq))
    unfold getCol at ih' ⊢
    simp only [List.lookup]
    split
    · exact hf (n, c) (List.mem_cons_self ..)
    · exact ih'

theorem setCol_all (f : Frame) (name : Str) (v : Col) (hf : FrameAll P f) (hv : ColAll P v) :
    FrameAll P (setCol f name v) := by
  unfold setCol
  split
  · intro p hp
    rw [List.mem_map] at hp
    obtain ⟨q, hq, rfl⟩ := hp
    split
    · exact hv
    · exact hf q hq
  · intro p hp
    rw [List.mem_append] at hp
    cases hp with
    | inl h => exact hf p h
    | inr h =>
      rw [List.mem_singleton] at h
      subst h
      exact hv

theorem whenThen_all (hnone : P none) (m : List Bool) (c : Col) (hc : ColAll P c) :
    ColAll P (whenThen m c) := by
  induction m generalizing c with
  | nil => simp [whenThen]; exact colAll_nil
  | cons b m ih =>
    cases c with
    | nil => simp [whenThen]; exact colAll_nil
    | cons x c =>
      intro y hy
      simp only [whenThen, List.zipWith_cons_cons, List.mem_cons] at hy
      cases hy with
      | inl h =>
        subst h
        split
        · exact hc x (List.mem_cons_self ..)
        · exact hnone
      | inr h => exact ih c (fun z hz => hc z (List.mem_cons_of_mem _ hz)) y h

theorem set_all (c : Col) (i : Nat) (v : Cell) (hc : ColAll P c) (hv : P v) : ColAll P (c.set i v) := by
  intro x hx
  cases List.mem_or_eq_of_mem_set hx with
  | inl h => exact hc x h
  | inr h => exact h ▸ hv

theorem cellAt_all (hnone : P none) (c : Col) (i : Nat) (hc : ColAll P c) : P (cellAt c i) := by
  unfold cellAt
  cases h : c[i]? with
  | none => exact hnone
  | some x => exact hc x (List.mem_of_getElem? h)

theorem suppressSingle_all (hnone : P none) (df : Frame) (column : Str) (hdf : FrameAll P df) :
    FrameAll P (suppressSingle df column) := by
  unfold suppressSingle
  exact setCol_all _ _ _ hdf (whenThen_all hnone _ _ (getCol_all _ _ hdf))

theorem levelValues_all (hnone : P none) (df : Frame) (gb : List Str) (i : Nat) (column : Str)
    (hdf : FrameAll P df) : ColAll P (levelValues df gb i column) := by
  unfold levelValues
  exact whenThen_all hnone _ _ (getCol_all _ _ hdf)

theorem foldl_inv {α β} (I : β → Prop) (f : β → α → β) (l : List α) (b : β) (hb : I b)
    (step : ∀ b a, I b → I (f b a)) : I (l.foldl f b) := by
  induction l generalizing b with
  | nil => exact hb
  | cons a l ih => exact ih (f b a) (step b a hb)

theorem suppressHier_all (hnone : P none) (df : Frame) (gb : List Str) (hdf : FrameAll P df) :
    FrameAll P (suppressHier df gb) := by
  unfold suppressHier
  exact foldl_inv (FrameAll P) _ _ _ hdf
    (fun res p hres => setCol_all _ _ _ hres (levelValues_all hnone df gb p.2 p.1 hdf))

theorem enhanceGroupBy_all (hnone : P none) (df : Frame) (gb : List Str) (s : Frame)
    (h : enhanceGroupBy df gb = .ok s) (hdf : FrameAll P df) : FrameAll P s := by
  unfold enhanceGroupBy at h
  split at h
  · cases h; exact hdf
  · split at h
    · cases h
    · split at h
      · cases h
      · split at h
        · cases h; exact suppressSingle_all hnone _ _ hdf
        · cases h; exact suppressHier_all hnone _ _ hdf

theorem restoreOne_all (hnone : P none) (orig : Frame) (gb : List Str) (res : Frame) (idx : Nat)
    (horig : FrameAll P orig) (hres : FrameAll P res) : FrameAll P (restoreOne orig gb res idx) := by
  unfold restoreOne
  split
  · exact foldl_inv (FrameAll P) _ _ _ hres
      (fun r col hr => setCol_all _ _ _ hr
        (set_all _ _ _ (getCol_all _ _ hr) (cellAt_all hnone _ _ (getCol_all _ _ horig))))
  · exact hres

theorem restorePageContext_all (hnone : P none) (sup orig : Frame) (gb : List Str) (starts : List Nat)
    (hsup : FrameAll P sup) (horig : FrameAll P orig) :
    FrameAll P (restorePageContext sup orig gb starts) := by
  unfold restorePageContext
  split
  · exact hsup
  · exact foldl_inv (FrameAll P) _ _ _ hsup
      (fun res idx hres => restoreOne_all hnone orig gb res idx horig hres)

end GroupBy

theorem restored_cells (P : Model.GroupBy.Cell → Prop) (hnone : P none) (df : Model.GroupBy.Frame)
    (gb : List Model.GroupBy.Str) (heights : List Nat) (r : Model.GroupBy.Frame)
    (h : Model.GroupBy.restored df gb heights = .ok r)
    (hdf : ∀ p ∈ df, ∀ c ∈ p.2, P c) : ∀ p ∈ r, ∀ c ∈ p.2, P c := by
  unfold Model.GroupBy.restored at h
  split at h
  · cases h
  · rename_i s hs
    cases h
    exact restorePageContext_all hnone _ _ _ _ (enhanceGroupBy_all hnone df gb s hs hdf) hdf

theorem toFrame_all (P : Option (List Char) → Prop) (hnone : P none) (cols : List (List Char))
    (rows : List (List (Option (List Char)))) (hp : ∀ r ∈ rows, ∀ c ∈ r, P c) :
    ∀ p ∈ Model.Encode.toFrame cols rows, ∀ c ∈ p.2, P c := by
  intro p hp'
  unfold Model.Encode.toFrame at hp'
  rw [List.mem_map] at hp'
  obtain ⟨⟨n, j⟩, _, rfl⟩ := hp'
  intro c hc
  simp only [List.mem_map] at hc
  obtain ⟨r, hr, rfl⟩ := hc
  cases h : r[j]? with
  | none => exact hnone
  | some x => exact hp r hr x (List.mem_of_getElem? h)

theorem ofFrame_all (P : Option (List Char) → Prop) (hnone : P none) (f : Model.GroupBy.Frame) (nrows : Nat)
    (hf : ∀ p ∈ f, ∀ c ∈ p.2, P c) : ∀ r ∈ Model.Encode.ofFrame f nrows, ∀ c ∈ r, P c := by
  intro r hr
  unfold Model.Encode.ofFrame at hr
  rw [List.mem_map] at hr
  obtain ⟨i, _, rfl⟩ := hr
  intro c hc
  rw [List.mem_map] at hc
  obtain ⟨⟨n, col⟩, hq, rfl⟩ := hc
  show P (col[i]?).join
  cases h : col[i]? with
  | none => exact hnone
  | some x => exact hf (n, col) hq x (List.mem_of_getElem? h)

theorem finalRows_cells (P : Option (List Char) → Prop) (hnone : P none) (d : Model.Encode.Doc)
    (p : Model.Encode.Prep) (heights : List Nat) (rows : List (List (Option (List Char))))
    (h : Model.Encode.finalRows d p heights = .ok rows)
    (hp : ∀ r ∈ p.dispRows, ∀ c ∈ r, P c) : ∀ r ∈ rows, ∀ c ∈ r, P c := by
  unfold Model.Encode.finalRows at h
  simp only at h
  split at h
  · cases h; exact hp
  · split at h
    · rename_i f hf
      cases h
      exact ofFrame_all P hnone f _
        (restored_cells P hnone _ _ _ f hf (toFrame_all P hnone _ _ hp))
    · cases h

end Proofs.EncodeAux
