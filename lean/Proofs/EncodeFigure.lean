import Model.EncodeFigure
import Model.EncodeDomainMore
import Proofs.ConvNodes
import Proofs.Encode
import Proofs.EncodeTables
import Proofs.EncodeDoc
import Proofs.EncodeMulti
/-!
Helper lemmas for `Props/C01encmore.lean`, figure-only path: the picture group (hexadecimal payload read back by
`lexNodes`), the pieces of one loop iteration, the preamble, hence `docOk` of the document `encodeWithF` returns.
-/
namespace Proofs.EncodeFigure
open Model.Rtf Model.Emit Model.Encode Model.EncodeDomain Model.EncodeMulti Model.EncodeFigure Model.EncodeDomainMore
open Generated Proofs.Emit Proofs.ConvNodes Proofs.Encode Proofs.EncodeTables Proofs.EncodeDoc

/-! ### postconditions in the `Except` monad -/

def Post {ε α : Type} (P : α → Prop) (x : Except ε α) : Prop := ∀ a, x = .ok a → P a

theorem post_pure {ε α : Type} {P : α → Prop} {a : α} (h : P a) : Post (ε := ε) P (pure a) := by
  intro b hb; cases pure_ok hb; exact h

theorem post_throw {ε α : Type} {P : α → Prop} {e : ε} : Post P (throw e : Except ε α) :=
  fun _ hb => (throw_ok hb).elim

theorem post_bind {ε α β : Type} {P : β → Prop} {Q : α → Prop} {x : Except ε α} {f : α → Except ε β}
    (hx : Post Q x) (hf : ∀ a, Q a → Post P (f a)) : Post P (x >>= f) := by
  intro b hb
  obtain ⟨a, ha, hfa⟩ := bind_ok hb
  exact hf a (hx a ha) b hfa

theorem post_map {ε α β : Type} {P : β → Prop} {x : Except ε α} {g : α → β} (hx : Post (fun a => P (g a)) x) :
    Post P (g <$> x) := by
  intro b hb
  obtain ⟨a, ha, rfl⟩ := map_ok hb
  exact hx a ha

/-- a computation that branches on `c` returns the value that branches on `c` -/
theorem post_ite {ε α : Type} {c : Prop} [Decidable c] {x y : Except ε α} {a b : α} (hx : Post (· = a) x)
    (hy : Post (· = b) y) : Post (· = if c then a else b) (if c then x else y) := by
  split
  · exact hx
  · exact hy

/-! ### the picture data -/

/-- 7-bit characters other than `\ { }` CR -/
def okc (c : Char) : Bool := plainC c && decide (c.toNat < 128)

theorem okc_hexDigit (n : Nat) : okc (Model.Figure.hexDigit n) = true := by
  unfold Model.Figure.hexDigit
  split <;> decide

theorem mem_chunksAux (n : Nat) : ∀ (fuel : Nat) (s l : List Char), l ∈ Model.Figure.chunksAux n fuel s → ∀ c ∈ l, c ∈ s
  | 0, _, _, h => by simp [Model.Figure.chunksAux] at h
  | fuel + 1, s, l, h => by
    simp only [Model.Figure.chunksAux] at h
    split at h
    · cases h
    · rcases List.mem_cons.mp h with rfl | h'
      · exact fun c hc => List.mem_of_mem_take hc
      · exact fun c hc => List.mem_of_mem_drop (mem_chunksAux n fuel _ l h' c hc)

theorem okc_hexLines (bs : List Nat) : ∀ c ∈ Model.Figure.hexLines bs, okc c = true := by
  unfold Model.Figure.hexLines
  refine join_ind (sep := '\n') (fun l => ∀ c ∈ l, okc c = true) (fun _ h => nomatch h)
    (fun a b ha hb c hc => (List.mem_append.mp hc).elim (ha c) (hb c)) (by decide) rfl (fun _ => rfl)
    (fun _ _ _ => rfl) _ fun l hl c hcl => ?_
  have := mem_chunksAux _ _ _ l hl c hcl
  simp only [Model.Figure.hexString, List.mem_flatMap] at this
  obtain ⟨b, _, hb⟩ := this
  simp only [Model.Figure.hexByte, List.mem_cons, List.not_mem_nil, or_false] at hb
  rcases hb with rfl | rfl <;> exact okc_hexDigit _

/-- a text of 7-bit characters other than `\ { }` CR is a valid text hole as it stands -/
theorem hole_okc (s : List Char) (h : ∀ c ∈ s, okc c = true) : HoleOk (textNodes s) := by
  have h1 : s.all plainC = true := by
    rw [List.all_eq_true]; intro c hc
    have := h c hc; simp only [okc, Bool.and_eq_true] at this; exact this.1
  have h2 : ∀ c ∈ s, c.toNat < 128 := by
    intro c hc
    have := h c hc; simp only [okc, Bool.and_eq_true, decide_eq_true_eq] at this; exact this.2
  have := hole_raw s (rawOk_of_plain s h1)
  rw [escStr_ascii s h2] at this
  exact this

theorem pictOf_payload (fmt : Model.Figure.Fmt) (bytes : List Nat) (w h : Rat) :
    (pictOf fmt bytes w h).payload = Model.Figure.hexLines bytes := by
  unfold pictOf
  dsimp only
  split <;> rfl

theorem good_alignWord (a : String) : goodWord (alignWord a).toList = true := by
  unfold alignWord
  split
  · decide +kernel
  · split <;> decide +kernel

theorem good_blipWord (f : Model.Figure.Fmt) : goodWord (Model.Figure.blipWord f) = true := by
  cases f <;> decide +kernel

theorem pictNodes_ok (align : String) (p : Model.Figure.Pict) (hp : HoleOk (textNodes p.payload)) :
    NG (pictNodes align p) := by
  unfold pictNodes
  refine ng_cons (ng_cw _ _ _ (good_alignWord align)) ?_
  have hb := good_blipWord p.fmt
  have hws : NG [cw0 "pict", Node.cw (Model.Figure.blipWord p.fmt) none false, cwi "picw" p.picw, cwi "pich" p.pich,
      cwi "picwgoal" p.wgoal, Node.cw "pichgoal".toList (some p.hgoal) true] :=
    ng_cons (ng_cw0 _ (by decide +kernel)) (ng_cons (ng_cw _ _ _ hb) (ng_cons (ng_cwi _ _ (by decide +kernel))
      (ng_cons (ng_cwi _ _ (by decide +kernel)) (ng_cons (ng_cwi _ _ (by decide +kernel)) (ng_cw _ _ _ (by decide +kernel))))))
  refine ⟨?_, ?_, ?_⟩
  · simp only [plainNodes, plainNode, Bool.and_true]
    rw [plainNodes_append, hws.1, hp.1]; rfl
  · simp only [List.all_cons, List.all_nil, Bool.and_true, frameNode]
    rw [nodesOk_append, hp.2.1, Bool.and_true]
    have hn : nameOk (Model.Figure.blipWord p.fmt) = true := by
      simp only [goodWord, wordOk, Bool.and_eq_true] at hb; exact hb.1.1
    have e1 : nameOk "pict".toList = true := by decide +kernel
    have e2 : nameOk "picw".toList = true := by decide +kernel
    have e3 : nameOk "pich".toList = true := by decide +kernel
    have e4 : nameOk "picwgoal".toList = true := by decide +kernel
    have e5 : nameOk "pichgoal".toList = true := by decide +kernel
    have b0 : badAfter none '\\' = false := by decide
    have b1 : ∀ k : Int, badAfter (some k) '\\' = false := by intro k; simp only [badAfter]; decide
    have e6 : ∀ a, nodesOk [] a = true := by intro a; simp [nodesOk]
    simp only [cw0, cwi, nodesOk_cons, nextChar_cw, nodeOk, hn, e1, e2, e3, e4, e5, b0, b1, e6, Bool.not_false,
      Bool.or_true, Bool.true_or, Bool.and_self]
  · apply uNeutral_grp
    exact uNeutral_append _ _ hws.2.2 hp.2.2

/-! ### one loop iteration -/

theorem elemOk_flatten : ∀ (es : List Elem), (∀ e ∈ es, ElemOk e) → ElemOk es.flatten
  | [], _ => elemOk_nil
  | e :: es, h => by
    rw [List.flatten_cons]
    exact elemOk_append (h e (by simp)) (elemOk_flatten es (fun x hx => h x (by simp [hx])))

/-- The loop body with its reads in sequence.  The `do` block copies what follows each `if` / `match` into the
branches; every step pulls that continuation back out (by cases on the test) and goes on under the bind. -/
theorem figurePieces_eq (k : ColorCtx) (d : FDoc) (title : List Elem) (num i : Nat) (fmt : Model.Figure.Fmt)
    (bytes : List Nat) : figurePieces k d title num i fmt bytes = (do
    let s ← (if d.subline.isSome && d.page.pageTitle.shows (i == 0) (i + 1 == num) then
        (·.flatten) <$> textElem k d.subline else pure [])
    let w ← (match Model.Figure.getDim d.widths i with
      | some w => pure w
      | none => throw "IndexError")
    let h ← (match Model.Figure.getDim d.heights i with
      | some h => pure h
      | none => throw "IndexError")
    let fn ← (match d.footnote with
      | some f =>
        if d.page.pageFootnote.shows (i == 0) (i + 1 == num) then
          joinElems <$> renderFoot k (pageOnly d.page) { f with asTable := false } none
        else pure []
      | none => pure [])
    let src ← (match d.source with
      | some f =>
        if d.page.pageSource.shows (i == 0) (i + 1 == num) then joinElems <$> renderFoot k (pageOnly d.page) f none
        else pure []
      | none => pure [])
    let brk ← (if i + 1 == num then pure [] else pageBreak d.page >>= fun ns => pure [BlockG.plain ns])
    pure ((if d.page.pageTitle.shows (i == 0) (i + 1 == num) then title.flatten ++ [BlockG.plain [Node.nl]] else []) ++
      s ++ [BlockG.plain (pictNodes d.align (pictOf fmt bytes w h)), BlockG.plain [cwSp "par"]] ++ fn ++ src ++ brk,
      0)) := by
  unfold figurePieces
  dsimp only
  simp only [ite_bind]
  refine bind_congr fun s => ?_
  refine Eq.trans ?_ (bind_congr (f := ?_) fun w => ?_)
  · cases Model.Figure.getDim d.widths i <;> rfl
  refine Eq.trans ?_ (bind_congr (f := ?_) fun h => ?_)
  · cases Model.Figure.getDim d.heights i <;> rfl
  refine Eq.trans ?_ (bind_congr (f := ?_) fun fn => ?_)
  · cases d.footnote <;> rfl
  refine Eq.trans ?_ (bind_congr (f := ?_) fun src => ?_)
  · cases d.source <;> rfl
  split
  · rfl
  · exact (bind_assoc _ _ _).symm

theorem figurePieces_ok {k : ColorCtx} {d : FDoc} {title : List Elem} {num i : Nat} {fmt : Model.Figure.Fmt}
    {bytes : List Nat} (hd : inDomainFig d = true) (htitle : ∀ e ∈ title, ElemOk e) :
    Post (fun r => ElemOk r.1) (figurePieces k d title num i fmt bytes) := by
  simp only [inDomainFig, Bool.and_eq_true] at hd
  obtain ⟨⟨⟨⟨⟨_, hsub⟩, _⟩, _⟩, hfn⟩, hsrc⟩ := hd
  rw [figurePieces_eq]
  refine post_bind (Q := ElemOk) ?_ fun s hs => ?_
  · split
    · exact post_map fun es hes => elemOk_flatten _ (textElem_ok hes hsub)
    · exact post_pure elemOk_nil
  refine post_bind (Q := fun _ => True) (fun _ _ => trivial) fun w _ => ?_
  refine post_bind (Q := fun _ => True) (fun _ _ => trivial) fun h _ => ?_
  refine post_bind (Q := ElemOk) ?_ fun fn hfnE => ?_
  · split
    · next f hf =>
      have hfo : footTxtOk (some f) = true := by rw [← hf]; exact hfn
      split
      · exact post_map fun es hes => joinElems_ok _ (renderFoot_ok_of hes hfo nofun)
      · exact post_pure elemOk_nil
    · exact post_pure elemOk_nil
  refine post_bind (Q := ElemOk) ?_ fun src hsrcE => ?_
  · split
    · next f hf =>
      have hso : sourceOkF d.page.colWidth (some f) = true := by rw [← hf]; exact hsrc
      split
      · apply post_map
        intro es hes
        simp only [sourceOkF] at hso
        split at hso
        · simp only [Bool.and_eq_true, decide_eq_true_eq] at hso
          exact joinElems_ok _ (renderFoot_ok hes hso.2 hso.1)
        · next hat => exact joinElems_ok _ (renderFoot_ok_of hes hso (fun ht => absurd ht hat))
      · exact post_pure elemOk_nil
    · exact post_pure elemOk_nil
  refine post_bind (Q := ElemOk) ?_ fun brk hbrk => post_pure ?_
  · split
    · exact post_pure elemOk_nil
    · exact post_bind (Q := NG) (fun ns hns => pageBreak_ok hns) fun ns hns => post_pure (elemOk_of_ng hns)
  have ht : ElemOk (if d.page.pageTitle.shows (i == 0) (i + 1 == num) = true then
      title.flatten ++ [BlockG.plain [Node.nl]] else []) := by
    split
    · exact elemOk_append (elemOk_flatten _ htitle) (elemOk_of_ng ng_nl)
    · exact elemOk_nil
  have hp : HoleOk (textNodes (pictOf fmt bytes w h).payload) := by
    rw [pictOf_payload]
    exact hole_okc _ (okc_hexLines bytes)
  have hpic := elemOk_append (a := [BlockG.plain (pictNodes d.align (pictOf fmt bytes w h))])
    (elemOk_of_ng (pictNodes_ok _ _ hp)) (elemOk_of_ng (ng_cw "par".toList none true (by decide +kernel)))
  exact elemOk_append (elemOk_append (elemOk_append (elemOk_append (elemOk_append ht hs) hpic) hfnE) hsrcE) hbrk

/-! ### the document -/

theorem preambleF_ok {k : ColorCtx} {d : FDoc} {head : List Node} (h : preambleF k d = .ok head)
    (hph : textCompOk d.pageHeader = true) (hpf : textCompOk d.pageFooter = true) : NG head := by
  unfold preambleF at h
  dsimp only at h
  simp only [pure_bind, throw_bind'] at h
  split at h
  · next fontTbl hfont =>
    split at h
    · next colorTbl hcolor =>
      peel h as hdr hhdr
      peel h as ftr hftr
      peel h as ps hps
      cases pure_ok h
      have h1 : NG [cw0 "ansi", Node.nl, cwi "deff" 0, cwi "deflang" 1033] := ng_closed (by decide +kernel)
      exact ng_append (ng_append (ng_append (ng_append (ng_append (ng_append h1 (fontTbl_ng _ hfont))
        (colorTbl_ng _ _ hcolor)) ng_nl) (pageHF_ok hhdr (by decide +kernel) hph)) (pageHF_ok hftr (by decide +kernel) hpf))
        (pageSettings_ok hps)
    · cases h
  · cases h

/-- a run of the figure-only encoder: nothing for no figure; otherwise the formats of the files, the title, the
preamble and one piece per file -/
theorem encodeWithF_inv {d : FDoc} {x : Option DocG × Nat} (h : encodeWithF d = .ok x) :
    (d.figs.isEmpty = true ∧ x.1 = none) ∨
    ∃ (files : List (Model.Figure.Fmt × List Nat)) (title : List Elem) (head : List Node)
      (pieces : List (List BlockG × Nat)), d.figs.isEmpty = false ∧
      (d.figs.mapM fun f => match Model.Figure.fmtOfSuffix f.suffix with
        | some fmt => pure (fmt, f.bytes)
        | none => throw "ValueError") = Except.ok (ε := String) files ∧
      textElem (ctxOfColors (colorDocF d)) d.title = .ok title ∧
      preambleF (ctxOfColors (colorDocF d)) d = .ok head ∧
      (files.zipIdx.mapM fun (y : (Model.Figure.Fmt × List Nat) × Nat) =>
        figurePieces (ctxOfColors (colorDocF d)) d title files.length y.2 y.1.1 y.1.2) = .ok pieces ∧
      x.1 = some { head := head, blocks := pieces.flatMap (·.1) ++ [BlockG.plain [Node.nl, Node.nl]] } := by
  unfold encodeWithF at h
  dsimp only at h
  split at h
  · next he => cases pure_ok h; exact .inl ⟨he, rfl⟩
  · next he =>
    peel h as files hfiles
    peel h as title htitle
    peel h as head hhead
    peel h as pieces hpieces
    cases pure_ok h
    exact .inr ⟨files, title, head, pieces, by simpa using he, hfiles, htitle, hhead, hpieces, rfl⟩

theorem encodeWithF_docOk {d : FDoc} {g : DocG} {n : Nat} (h : encodeWithF d = .ok (some g, n))
    (hd : inDomainFig d = true) : docOk g = true := by
  have hd' := hd
  simp only [inDomainFig, Bool.and_eq_true] at hd'
  obtain ⟨⟨⟨⟨⟨htitle, _⟩, hph⟩, hpf⟩, _⟩, _⟩ := hd'
  rcases encodeWithF_inv h with ⟨_, hx⟩ | ⟨files, title, head, pieces, _, _, htitleE, hhead, hpieces, hx⟩
  · cases hx
  obtain rfl : g = _ := Option.some.inj hx
  apply docOk_of_parts _ _ (preambleF_ok hhead hph hpf)
  refine elemOk_append ?_ (elemOk_of_ng (ng_nls 2))
  rw [List.flatMap_def]
  refine elemOk_flatten _ (List.forall_mem_map.mpr fun pc hpc => ?_)
  obtain ⟨fi, _, hf⟩ := mapM_mem hpieces pc hpc
  exact figurePieces_ok hd (textElem_ok htitleE htitle) pc hf

/-- the string the figure-only encoder returns is well-formed as soon as there is a figure -/
theorem encodeTextF_docOk {d : FDoc} {s : List Char} (h : encodeTextF d = .ok s) (hd : inDomainFig d = true)
    (hne : d.figs ≠ []) : ∃ g, s = printDoc g ∧ docOk g = true := by
  unfold encodeTextF at h
  peel h as x hx
  rcases encodeWithF_inv hx with ⟨he, _⟩ | ⟨_, _, _, _, _, _, _, _, _, hx1⟩
  · exact (hne (List.isEmpty_iff.mp he)).elim
  · rw [hx1] at h
    cases pure_ok h
    exact ⟨_, rfl, encodeWithF_docOk (n := x.2) (by rw [← hx1]; exact hx) hd⟩

end Proofs.EncodeFigure
