import Model.Encode
import Model.Color
import Proofs.Color
import Proofs.ColorTable
import Proofs.ColorTableCodes
import Proofs.Encode
import Proofs.EncodeAttrs
import Proofs.EncodeLift
import Proofs.LexPrint
/-!
Helper lemmas for `Props/C12enc.lean`: the colour context of the whole-encoder model (`mkColorCtx`, `ColorCtx.index`)
in terms of `Model.Color`; the colour / font references `resolveText` and `resolveBorder` produce; which attribute
values were collected into the context; the head of the document.
-/
namespace Proofs.EncodeColor
open Model.Encode Model.Broadcast Model.Emit Model.Rtf Model.Color Proofs.Encode Proofs.EncodeAttrs Proofs.Color
open Generated

/-! ## the colour context -/

/-- the colours `collect_document_colors` found, in the model's enumeration order -/
def usedColors (d : Model.Encode.Doc) : List String := collect (colorDoc d)

theorem mkColorCtx_used (d : Model.Encode.Doc) : (mkColorCtx d).used = usedColors d := rfl

theorem mkColorCtx_rows (d : Model.Encode.Doc) : (mkColorCtx d).rows = tableRows colorTable (usedColors d) := rfl

/-- the index the encoder prints for a colour name is `Utils._get_color_index` with the context holding the colours
collected from the whole document -/
theorem index_eq_utils (d : Model.Encode.Doc) (c : String) :
    (mkColorCtx d).index c = (utilsColorIndex colorTable (some (usedColors d)) c none : Nat) := by
  unfold ColorCtx.index utilsColorIndex rtfColorIndex
  rw [mkColorCtx_used, mkColorCtx_rows]
  cases hs : significant c with
  | false => simp
  | true =>
    simp only [Bool.not_true, Bool.false_eq_true, if_false]
    cases he : (filtered (usedColors d)).isEmpty with
    | true => simp
    | false =>
      simp only [Bool.false_eq_true, if_false]
      cases tableRows colorTable (usedColors d) <;> rfl

theorem usedColors_nodup (d : Model.Encode.Doc) : (usedColors d).Nodup := nodup_dedup _

/-! ## what `resolveText` / `resolveBorder` make of a colour value -/

/-- the colour name an attribute value requests (`none`: no colour word is printed) -/
def requested : Val → Option String
  | .str c => if c != "" then some c else none
  | _ => none

theorem requested_some {v : Val} {s : String} (h : requested v = some s) : v = .str s ∧ s ≠ "" := by
  cases v <;> simp only [requested] at h <;> try cases h
  split at h
  · next hne => cases h; exact ⟨rfl, by simpa using hne⟩
  · cases h

/-- the reference printed for a string value: nothing for `""`, the context's index otherwise -/
theorem map_requested_str (k : ColorCtx) (c : String) :
    (requested (.str c)).map k.index = if c != "" then some (k.index c) else none := by
  show (if c != "" then some c else none).map k.index = _
  split <;> rfl

/-- `colorIdx` of `resolveText` -/
def refOfOpt (k : ColorCtx) (o : Option String) : Option Int :=
  match o with
  | some c => if c != "" then some (k.index c) else none
  | none => none

theorem toOptStr_ref {k : ColorCtx} {v : Val} {o : Option String} (h : v.toOptStr = .ok o) :
    refOfOpt k o = (requested v).map k.index := by
  cases v with
  | null => cases h; rfl
  | str c => cases h; exact (map_requested_str k c).symm
  | _ => cases h

/-- `TextContent`: `\f{font-1}`, `\cf` and `\chcbpat`/`\cb` are the references of the values read -/
theorem resolveText_refs {k : ColorCtx} {v : TextVals} {tf : TextFmt} {conv : Bool}
    (h : resolveText k v = .ok (tf, conv)) :
    ∃ font, v.font.toInt = .ok font ∧ tf.fontIdx = font - 1 ∧ tf.color = (requested v.color).map k.index ∧
      tf.bg = (requested v.bg).map k.index ∧ v.convert.toBool = .ok conv := by
  obtain ⟨font, color, bg, _, _, h1, h4, h5, _, h13, _, _, _, hf, hc, hb⟩ := resolveText_inv h
  exact ⟨font, h1, hf, hc.trans (toOptStr_ref h4), hb.trans (toOptStr_ref h5), h13⟩

/-- `Border`: `\brdrcf` is the reference of the value read -/
theorem resolveBorder_ref {k : ColorCtx} {st w c : Val} {b : BorderFmt} (h : resolveBorder k st w c = .ok b) :
    b.color = (requested c).map k.index := by
  rw [resolveBorder_eq] at h
  peel h as s _
  peel h as wd _
  peel h as col hcol
  have hc : col = (requested c).map k.index := by
    split at hcol
    · cases pure_ok hcol
      exact (map_requested_str k _).symm
    · cases pure_ok hcol
      rfl
    · next hc1 hc2 =>
      split at hcol
      · exact (throw_ok hcol).elim
      · cases pure_ok hcol
        cases c <;> first | rfl | exact absurd rfl (hc1 _) | exact absurd rfl hc2
  split at h
  · cases pure_ok h
    exact hc
  · exact (throw_ok h).elim

theorem mkBorder_ref {k : ColorCtx} {bw : Val} {st col : Read} {b : BorderFmt} (h : mkBorder k bw st col = .ok b) :
    ∃ c, col = .ok c ∧ b.color = (requested c).map k.index := by
  obtain ⟨s, c, _, hc, hr⟩ := mkBorder_inv h
  exact ⟨c, hc, resolveBorder_ref hr⟩

theorem textValsOf_fields {R : TextAttrsOf Read} {tv : TextVals} (h : textValsOf R = .ok tv) :
    R.font = .ok tv.font ∧ R.color = .ok tv.color ∧ R.bg = .ok tv.bg ∧ R.convert = .ok tv.convert := by
  unfold textValsOf at h
  peel h as _ h1
  iterate 2 peel h as _ _
  peel h as _ h4
  peel h as _ h5
  iterate 7 peel h as _ _
  peel h as _ h13
  peel h as _ _
  cases pure_ok h
  exact ⟨h1, h4, h5, h13⟩

/-- the colour and font references of one table cell, as functions of the values read at its position -/
theorem cellOf_refs {k : ColorCtx} {R : TblAttrsOf Read} {isLast : Bool} {text : Model.Encode.Str} {width : Option Rat}
    {c : CellFmt} (h : cellOf k R isLast text width = .ok c) :
    ∃ vfont font vcolor vbg vl vt vb bl bt bb,
      R.font = .ok vfont ∧ vfont.toInt = .ok font ∧ c.text.fontIdx = font - 1 ∧
      R.color = .ok vcolor ∧ c.text.color = (requested vcolor).map k.index ∧
      R.bg = .ok vbg ∧ c.text.bg = (requested vbg).map k.index ∧
      R.bcLeft = .ok vl ∧ c.left = some bl ∧ bl.color = (requested vl).map k.index ∧
      R.bcTop = .ok vt ∧ c.top = some bt ∧ bt.color = (requested vt).map k.index ∧
      R.bcBottom = .ok vb ∧ c.bottom = some bb ∧ bb.color = (requested vb).map k.index ∧
      (if isLast then ∃ vr br, R.bcRight = .ok vr ∧ c.right = some br ∧ br.color = (requested vr).map k.index
       else c.right = none) := by
  obtain ⟨bw, tv, tf, conv, w, left, top, bottom, vjv, vj, right, _, htv, hrt, _, hl, ht, hb, hr, _, _, rfl⟩ :=
    cellOf_inv h
  obtain ⟨g1, g2, g3, _⟩ := textValsOf_fields htv
  obtain ⟨font, f1, f2, f3, f4, _⟩ := resolveText_refs hrt
  obtain ⟨vl, hvl, hbl⟩ := mkBorder_ref hl
  obtain ⟨vt, hvt, hbt⟩ := mkBorder_ref ht
  obtain ⟨vb, hvb, hbb⟩ := mkBorder_ref hb
  refine ⟨tv.font, font, tv.color, tv.bg, vl, vt, vb, left, top, bottom, g1, f1, f2, g2, f3, g3, f4,
    hvl, rfl, hbl, hvt, rfl, hbt, hvb, rfl, hbb, ?_⟩
  cases isLast with
  | false =>
    simp only [Bool.false_eq_true, if_false] at hr ⊢
    exact (pure_ok hr).symm
  | true =>
    simp only [if_true] at hr ⊢
    obtain ⟨br, hbr, rfl⟩ := map_ok hr
    obtain ⟨vr, hvr, hcr⟩ := mkBorder_ref hbr
    exact ⟨vr, br, hvr, rfl, hcr⟩

/-- the references of the lines of a title / subline / page header / page footer / paragraph footnote: line `i` reads
its colours and font at position `(i, 0)` of the component's attributes -/
theorem resolveLines_refs {k : ColorCtx} {a : TextAttrsOf MatV} {text : List Model.Encode.Str}
    {ls : List (TextFmt × List Node)} (h : resolveLines k a text = .ok ls) :
    ls.length = text.length ∧ ∀ i t, text[i]? = some t → ∃ tf conv vfont font vcolor vbg,
      ls[i]? = some (tf, textNodes (convText conv t)) ∧
      ilocV a.font i 0 = .ok vfont ∧ vfont.toInt = .ok font ∧ tf.fontIdx = font - 1 ∧
      ilocV a.color i 0 = .ok vcolor ∧ tf.color = (requested vcolor).map k.index ∧
      ilocV a.bg i 0 = .ok vbg ∧ tf.bg = (requested vbg).map k.index ∧
      ∃ vconv, ilocV a.convert i 0 = .ok vconv ∧ vconv.toBool = .ok conv := by
  unfold resolveLines at h
  have hall := mapM_ok h
  have hlen := all2_length hall
  simp only [List.length_zipIdx] at hlen
  refine ⟨hlen, ?_⟩
  intro i t ht
  have := all2_get hall i (t, i) (by simp [List.getElem?_zipIdx, ht])
  obtain ⟨b, hb, hf⟩ := this
  dsimp only at hf
  peel hf as tv htv
  peel hf as x hx
  obtain ⟨tf, conv⟩ := x
  cases pure_ok hf
  obtain ⟨g1, _, _, g2, g3, _, _, _, _, _, _, _, g4, _⟩ := textValsAt_inv htv
  obtain ⟨font, f1, f2, f3, f4, f5⟩ := resolveText_refs hx
  exact ⟨tf, conv, tv.font, font, tv.color, tv.bg, hb, g1, f1, f2, g2, f3, g3, f4, tv.convert, g4, f5⟩

/-! ## which attribute values were collected -/

/-- the colour attributes of a table component: text colour, background and the six border colours -/
def tblColorAttrs (a : TblAttrsOf Model.Encode.Attr) : List Model.Encode.Attr :=
  [a.color, a.bg, a.bcLeft, a.bcRight, a.bcTop, a.bcBottom, a.bcFirst, a.bcLast]

/-- the attributes `collect_document_colors` reads: the text / background / six border colours of the body, of footnote
and source and of every column header (repo fix: the border colours formerly of the body only), and the text and
background colour of title, subline, page header, page footer -/
def collectedAttrs (d : Model.Encode.Doc) : List Model.Encode.Attr :=
  tblColorAttrs d.body.attrs ++
  ([d.title, d.subline].filterMap id).flatMap (fun t => [t.attrs.color, t.attrs.bg]) ++
  ([d.footnote, d.source].filterMap id).flatMap (fun f => tblColorAttrs f.attrs) ++
  ([d.pageHeader, d.pageFooter].filterMap id).flatMap (fun t => [t.attrs.color, t.attrs.bg]) ++
  (d.headers.filterMap id).flatMap (fun h => tblColorAttrs h.attrs)

theorem mem_valStrs {vs : List Val} {s : String} : s ∈ valStrs vs ↔ Val.str s ∈ vs := by
  unfold valStrs
  rw [List.mem_filterMap]
  constructor
  · rintro ⟨v, hv, hs⟩
    cases v <;> cases hs
    exact hv
  · exact fun h => ⟨_, h, rfl⟩

/-- the colours extracted from an attribute are the non-empty strings among its values -/
theorem mem_colors_iff {a : Model.Encode.Attr} {s : String} :
    s ∈ (toColorAttr a).colors ↔ Val.str s ∈ Model.EncodeDomain.attrVals a ∧ s ≠ "" := by
  have hb : (s != "") = true ↔ s ≠ "" := by simp
  cases a with
  | null => simp [toColorAttr, Attr.colors, Model.EncodeDomain.attrVals]
  | scalar v =>
    cases v with
    | str c =>
      simp only [toColorAttr, Attr.colors, Model.EncodeDomain.attrVals, List.mem_filter, List.mem_singleton,
        Val.str.injEq, hb]
    | _ => simp [toColorAttr, Attr.colors, Model.EncodeDomain.attrVals]
  | list xs => simp only [toColorAttr, Attr.colors, Model.EncodeDomain.attrVals, List.mem_filter, mem_valStrs, hb]
  | tuple xs => simp only [toColorAttr, Attr.colors, Model.EncodeDomain.attrVals, List.mem_filter, mem_valStrs, hb]
  | nested m =>
    simp only [toColorAttr, Attr.colors, Model.EncodeDomain.attrVals, List.mem_filter, List.mem_flatten,
      List.mem_map, hb]
    refine and_congr_left fun _ => ⟨?_, ?_⟩
    · rintro ⟨_, ⟨row, hrow, rfl⟩, hs⟩
      exact ⟨row, hrow, mem_valStrs.mp hs⟩
    · rintro ⟨row, hrow, hs⟩
      exact ⟨_, ⟨row, hrow, rfl⟩, mem_valStrs.mpr hs⟩

/-- the strings `extract_colors_from_attribute` finds in one component -/
def compColors (c : Comp) : List String :=
  c.textColor.colors ++ c.bgColor.colors ++ c.borderColors.flatMap Attr.colors

theorem allColors_eq (d : Model.Color.Doc) :
    d.allColors = d.bodies.flatMap compColors ++ d.texts.flatMap compColors ++ d.headers.flatMap compColors := rfl

/-- the colours of a table component are those of its eight colour attributes, in the order of `tblColorAttrs` -/
theorem compColors_tbl (a : TblAttrsOf Model.Encode.Attr) :
    compColors (tblColorComp a) = (tblColorAttrs a).flatMap fun x => (toColorAttr x).colors := by
  simp [compColors, tblColorComp, tblColorAttrs]

theorem mem_tblColors {a : TblAttrsOf Model.Encode.Attr} {x : Model.Encode.Attr} {s : String}
    (hx : x ∈ tblColorAttrs a) (hs : s ∈ (toColorAttr x).colors) : s ∈ compColors (tblColorComp a) := by
  rw [compColors_tbl]
  exact List.mem_flatMap.mpr ⟨x, hx, hs⟩

theorem mem_textColors {a : TextAttrsOf Model.Encode.Attr} {x : Model.Encode.Attr} {s : String}
    (hx : x ∈ [a.color, a.bg]) (hs : s ∈ (toColorAttr x).colors) : s ∈ compColors (textColorComp a) := by
  simp only [List.mem_cons, List.not_mem_nil, or_false] at hx
  simp only [compColors, textColorComp, List.mem_append]
  rcases hx with rfl | rfl
  · exact Or.inl (Or.inl hs)
  · exact Or.inl (Or.inr hs)

theorem collected_allColors {d : Model.Encode.Doc} {a : Model.Encode.Attr} (ha : a ∈ collectedAttrs d) {s : String}
    (hs : s ∈ (toColorAttr a).colors) : s ∈ (colorDoc d).allColors := by
  rw [allColors_eq]
  unfold collectedAttrs at ha
  simp only [colorDoc, List.mem_append, List.mem_flatMap, List.mem_map] at ha ⊢
  rcases ha with (((ha | ⟨t, ht, ha⟩) | ⟨f, hf, ha⟩) | ⟨t, ht, ha⟩) | ⟨h, hh, ha⟩
  · exact Or.inl (Or.inl ⟨_, List.mem_singleton.mpr rfl, mem_tblColors ha hs⟩)
  · exact Or.inl (Or.inr ⟨_, Or.inl (Or.inl ⟨t, ht, rfl⟩), mem_textColors ha hs⟩)
  · exact Or.inl (Or.inr ⟨_, Or.inl (Or.inr ⟨f, hf, rfl⟩), mem_tblColors ha hs⟩)
  · exact Or.inl (Or.inr ⟨_, Or.inr ⟨t, ht, rfl⟩, mem_textColors ha hs⟩)
  · exact Or.inr ⟨_, ⟨h, hh, rfl⟩, mem_tblColors ha hs⟩

/-- every non-empty string an emitter can read (`BroadcastValue.iloc`) from a collected attribute is in the context -/
theorem collected_read {d : Model.Encode.Doc} {a : Model.Encode.Attr} (ha : a ∈ collectedAttrs d) {M : MatV}
    (hM : a.toNested = .ok M) {s : String} (hv : MemV M (.str s)) (hne : s ≠ "") : s ∈ usedColors d := by
  obtain ⟨m, rfl, row, hrow, hvr⟩ := hv
  have := toNested_mem hM row hrow _ hvr
  exact mem_dedup.mpr (collected_allColors ha (mem_colors_iff.mpr ⟨this, hne⟩))

theorem ilocV_str_memV {M : MatV} {r c : Nat} {s : String} (h : ilocV M r c = .ok (.str s)) : MemV M (.str s) := by
  rcases ilocV_memV h with ⟨_, h2⟩ | h
  · cases h2
  · exact h

/-! ## the body attributes on a page -/

theorem memV_processed {A : TblAttrsOf MatV} (f : Field) (nr nc : Nat) (removed : List Nat) {v : Val}
    (h : MemV (f.get (processedAttrs A nr nc removed)) v) : MemV (f.get A) v := by
  rw [processed_get] at h
  split at h
  · exact h
  · exact memV_map (fun m row hrow v hv => Proofs.EncodeAux.expandSlice_mem m nr nc removed row hrow v hv) h

theorem memV_pageAttrs {d : Model.Encode.Doc} {bodyA : TblAttrsOf MatV} {p : Prep} {pg : Model.Layout.PageCtx}
    (f : Field) (hf : f.isEdge = false) {v : Val} (h : MemV (f.get (pageAttrs d bodyA p pg).attrs) v) :
    MemV (f.get p.attrs) v := by
  by_cases hh : pg.height = 0
  · unfold pageAttrs at h
    rw [if_pos hh] at h
    exact h
  · rw [pageAttrs_get d bodyA p pg f hh hf] at h
    exact memV_map (fun m row hrow v hv =>
      ⟨row, Proofs.EncodeAux.pageRows_mem m pg.start pg.height row hrow, hv⟩) h

/-- the body's colour fields -/
def Field.isBodyColor : Field → Bool
  | .color | .bg | .bcLeft | .bcRight | .bcTop | .bcBottom | .bcFirst | .bcLast => true
  | _ => false

theorem tblColor_mem (a : TblAttrsOf Model.Encode.Attr) (f : Field) (hf : Field.isBodyColor f = true) :
    f.get a ∈ tblColorAttrs a := by
  cases f <;> simp [Field.isBodyColor] at hf <;> simp [Field.get, tblColorAttrs]

theorem bodyColor_collected (d : Model.Encode.Doc) (f : Field) (hf : Field.isBodyColor f = true) :
    f.get d.body.attrs ∈ collectedAttrs d := by
  unfold collectedAttrs
  simp only [List.mem_append]
  exact Or.inl (Or.inl (Or.inl (Or.inl (tblColor_mem _ f hf))))

/-- the eight colour attributes of footnote and source are collected -/
theorem footColor_collected (d : Model.Encode.Doc) (ft : Foot) (hft : d.footnote = some ft ∨ d.source = some ft)
    (f : Field) (hf : Field.isBodyColor f = true) : f.get ft.attrs ∈ collectedAttrs d := by
  unfold collectedAttrs
  simp only [List.mem_append, List.mem_flatMap, List.mem_filterMap, List.mem_cons, List.not_mem_nil, or_false, id]
  rcases hft with h | h
  · exact Or.inl (Or.inl (Or.inr ⟨ft, ⟨_, Or.inl rfl, h⟩, tblColor_mem _ f hf⟩))
  · exact Or.inl (Or.inl (Or.inr ⟨ft, ⟨_, Or.inr rfl, h⟩, tblColor_mem _ f hf⟩))

/-- the eight colour attributes of every column header are collected -/
theorem headerColor_collected (d : Model.Encode.Doc) (h : Header) (hh : some h ∈ d.headers)
    (f : Field) (hf : Field.isBodyColor f = true) : f.get h.attrs ∈ collectedAttrs d := by
  unfold collectedAttrs
  simp only [List.mem_append, List.mem_flatMap, List.mem_filterMap, id]
  exact Or.inr ⟨h, ⟨_, hh, rfl⟩, tblColor_mem _ f hf⟩

/-- text and background colour of title, subline, page header and page footer are collected -/
theorem textColor_collected (d : Model.Encode.Doc) (t : TextComp)
    (ht : d.title = some t ∨ d.subline = some t ∨ d.pageHeader = some t ∨ d.pageFooter = some t) :
    t.attrs.color ∈ collectedAttrs d ∧ t.attrs.bg ∈ collectedAttrs d := by
  have key : ∀ x, x = t.attrs.color ∨ x = t.attrs.bg → x ∈ collectedAttrs d := by
    intro x hx
    unfold collectedAttrs
    simp only [List.mem_append, List.mem_flatMap, List.mem_filterMap, List.mem_cons, List.not_mem_nil, or_false, id]
    rcases ht with h | h | h | h
    · exact Or.inl (Or.inl (Or.inl (Or.inr ⟨t, ⟨_, Or.inl rfl, h⟩, hx⟩)))
    · exact Or.inl (Or.inl (Or.inl (Or.inr ⟨t, ⟨_, Or.inr rfl, h⟩, hx⟩)))
    · exact Or.inl (Or.inr ⟨t, ⟨_, Or.inl rfl, h⟩, hx⟩)
    · exact Or.inl (Or.inr ⟨t, ⟨_, Or.inr rfl, h⟩, hx⟩)
  exact ⟨key _ (Or.inl rfl), key _ (Or.inr rfl)⟩

theorem bodyColor_notEdge (f : Field) (hf : Field.isBodyColor f = true) : f.isEdge = false := by
  cases f <;> simp [Field.isBodyColor] at hf <;> rfl

/-- every colour name a data cell can read from the page attributes was collected -/
theorem page_read_collected {measure : Measure} {d : Model.Encode.Doc} {pl : Proofs.EncodeLift.Plan}
    (hp : Proofs.EncodeLift.plan measure d = .ok pl) (pg : Model.Layout.PageCtx) (f : Field)
    (hf : Field.isBodyColor f = true) {r j : Nat} {s : String}
    (h : ilocV (f.get (pageAttrs d pl.bodyA pl.p pg).attrs) r j = .ok (.str s)) (hne : s ≠ "") :
    s ∈ usedColors d := by
  obtain ⟨hprep, hA, _, _⟩ := Proofs.EncodeLift.plan_ok hp
  obtain ⟨removed, _, ⟨hrem, _, _⟩, _⟩ := prepare_facts hprep
  have hpe := prepare_eq hprep hA hrem
  have h1 := memV_pageAttrs f (bodyColor_notEdge f hf) (ilocV_str_memV h)
  rw [hpe] at h1
  have h2 := memV_processed f _ _ _ h1
  exact collected_read (bodyColor_collected d f hf) (get_mapM hA f) h2 hne

/-! ## rows of column headers, footnote and source -/

/-- replacing the edge borders (`border_top` of the first header, `border_bottom` of a table footnote: the
page-dependent edits) leaves the colour attributes alone -/
theorem get_withEdges_color {α : Type} (X : TblAttrsOf α) (t b : α) {f : Field} (hf : Field.isBodyColor f = true) :
    f.get (withEdges X t b) = f.get X :=
  get_withEdges X t b f (bodyColor_notEdge f hf)

/-- a footnote / source rendered as paragraph resolves its single line on the component's own text attributes -/
theorem renderFoot_lines {k : ColorCtx} {d : Model.Encode.Doc} {f : Foot} {o : Option String} {es : List Elem}
    (h : renderFoot k d f o = .ok es) (hat : f.asTable = false) :
    ∃ A ls, f.attrs.mapM Attr.toNested = .ok A ∧
      resolveLines k A.toTextAttrsOf (if (f.text.getD []).isEmpty then [] else [f.text.getD []]) = .ok ls ∧
      es = ls.map fun x => [BlockG.plain [paragraph x.1 x.2]] := by
  obtain ⟨A, hA, hcase⟩ := renderFoot_inv h
  rcases hcase with ⟨_, ps, hps, rfl⟩ | ⟨ht, _⟩
  · unfold encodeTextParas at hps
    peel hps as ls hls
    cases pure_ok hps
    rw [footAttrs_text] at hls
    exact ⟨A, ls, hA, hls, by rw [List.map_map]; rfl⟩
  · rw [hat] at ht
    cases ht

/-- a spanning group heading: one cell; its text colour / background references are those of the body's values at row 0
of the page_by column (none when the body holds no colour); its four borders print no `\brdrcf` -/
theorem spanningRow_refs {k : ColorCtx} {d : Model.Encode.Doc} {bodyA : TblAttrsOf MatV} {level : Nat} {text : String}
    {e : Elem} (h : spanningRow k d bodyA level text = .ok e) :
    ∃ fmt cf vcolor vbg, e = rowElem fmt ∧ fmt.cells = [cf] ∧
      spanRead d level bodyA.color (.str "") = .ok vcolor ∧ cf.text.color = (requested vcolor).map k.index ∧
      spanRead d level bodyA.bg (.str "") = .ok vbg ∧ cf.text.bg = (requested vbg).map k.index ∧
      (∀ o ∈ [cf.left, cf.top, cf.right, cf.bottom], ∀ b, o = some b → b.color = none) := by
  obtain ⟨tv, x, _, _, _, _, _, _, _, _, _, _, hcolor, hbg, _, hx, _, _, hsides, rfl⟩ := spanningRow_parts h
  obtain ⟨_, _, _, f3, f4, _⟩ := resolveText_refs hx
  refine ⟨_, _, tv.color, tv.bg, rfl, rfl, hcolor, f3, hbg, f4, ?_⟩
  intro o ho b hb
  obtain ⟨v, hv⟩ := hsides o ho b hb
  rw [resolveBorder_ref hv]
  rfl

/-! ## the head of the document -/

/-- the text of the dense colour table printed for the rows `rows` (`""` when there is none) -/
def tableText (rows : List ColorRow) : String :=
  match rows with
  | [] => ""
  | _ => "{\\colortbl;" ++ joinCodes rows ++ "\n}"

theorem generateColorTable_ok {used : List String} {s : String}
    (h : generateColorTable colorTable (some used) = .ok s) :
    ∃ rows, tableRows colorTable used = .ok rows ∧ s = tableText rows := by
  unfold generateColorTable at h
  simp only at h
  split at h
  · next hn =>
    have hemp : filtered used = [] := by
      simp only [needsColorTable, Bool.not_not] at hn
      exact List.isEmpty_iff.mp hn
    refine ⟨[], ?_, by cases h; rfl⟩
    simp [tableRows, validateList, hemp, validateFrom, sortRows]
  · split at h
    · cases h
    · next hr => cases h; exact ⟨[], hr, rfl⟩
    · next rows hne hr =>
      cases h
      refine ⟨rows, hr, ?_⟩
      cases rows with
      | nil => exact (hne rfl).elim
      | cons r rs => rfl

/-- the head of an accepted document: the font table and the colour table of the collected colours, then the page
header / footer and the page settings -/
theorem encode_head {measure : Measure} {d : Model.Encode.Doc} {g : DocG} (h : encode measure d = .ok g) :
    ∃ fontTbl colorTbl hdr ftr ps,
      fontTableText fontTable = .ok fontTbl ∧
      generateColorTable colorTable (some (usedColors d)) = .ok colorTbl ∧
      pageHF (mkColorCtx d) "header" d.pageHeader = .ok hdr ∧ pageHF (mkColorCtx d) "footer" d.pageFooter = .ok ftr ∧
      pageSettings d.page = .ok ps ∧
      g.head = [cw0 "ansi", Node.nl, cwi "deff" 0, cwi "deflang" 1033, Node.nl] ++ textNodes fontTbl.toList ++
        [Node.nl] ++ textNodes colorTbl.toList ++ [Node.nl, Node.nl, Node.nl] ++ hdr ++ [Node.nl] ++ ftr ++
        [Node.nl] ++ ps ++ [Node.nl] := by
  obtain ⟨_, _, fontTbl, colorTbl, hdr, ftr, ps, _, hfont, hcolor, hhdr, hftr, hps, rfl⟩ := encode_inv h
  exact ⟨fontTbl, colorTbl, hdr, ftr, ps, hfont, hcolor, hhdr, hftr, hps, rfl⟩

end Proofs.EncodeColor
