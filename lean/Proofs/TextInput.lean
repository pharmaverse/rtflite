import Model.TextInput
import Model.Escape
import Proofs.Escape
/-! Helper lemmas for `Props/C10in.lean`: the escaper and the reader on a text joined with `\line `. -/
namespace Proofs.TextInput
open Model.Escape Model.TextInput Proofs.Escape

theorem map_joinWith {α β : Type} (f : α → β) (sep : List α) :
    ∀ ls : List (List α), (joinWith sep ls).map f = joinWith (sep.map f) (ls.map (List.map f))
  | [] => rfl
  | [a] => rfl
  | a :: b :: r => by
    have ih := map_joinWith f sep (b :: r)
    simp only [joinWith, List.map_append, List.map_cons] at ih ⊢
    rw [ih]

theorem lineSep_codes : lineSep.map Char.toNat = lineSepN := by decide

theorem escape_append (a b : List Nat) : escape (a ++ b) = escape a ++ escape b := by
  simp [escape]

theorem escape_lineSepN : escape lineSepN = lineSepN := by decide

/-- the bytes written for a joined text: the bytes of every line, separated by the six bytes `\line ` -/
theorem escape_joinWith : ∀ ls : List (List Nat),
    escape (joinWith lineSepN ls) = joinWith lineSepN (ls.map escape)
  | [] => rfl
  | [a] => rfl
  | a :: b :: r => by
    have ih := escape_joinWith (b :: r)
    simp only [joinWith, List.map_cons] at ih ⊢
    rw [escape_append, escape_append, escape_lineSepN, ih]

/-- the reader on `\line `: one formatting word, no text, the reader is between characters again -/
theorem run_lineSepN (st : St) (g : Good st) : run st lineSepN = { st with words := st.words + 1 } := by
  simp [lineSepN, run, step, stepGround, isLetter, isDigit, endWord, applyCW, g.mode, g.skip]

theorem flatten_cons_reverse (a : List Nat) (r : List (List Nat)) (o : List Nat) :
    (a :: r).flatten.reverse ++ o = r.flatten.reverse ++ (a.reverse ++ o) := by
  simp [List.flatten_cons, List.reverse_append]

theorem uTrace_append (a b : List Nat) : uTrace (a ++ b) = uTrace a ++ uTrace b := by
  simp [uTrace]

/-- the reader on the bytes of a joined text, from any state between characters -/
theorem run_joined : ∀ (ls : List (List Nat)) (st : St), Good st → ls ≠ [] →
    (∀ l ∈ ls, ∀ n ∈ l, readable n = true) →
    ∃ uc', run st (joinWith lineSepN (ls.map escape)) =
      { st with uc := uc', out := ls.flatten.reverse ++ st.out, us := (uTrace ls.flatten).reverse ++ st.us,
                words := st.words + (ls.length - 1) }
  | [], _, _, h, _ => absurd rfl h
  | [a], st, g, _, hr => by
    obtain ⟨uc', h⟩ := run_escape a st g (hr a (by simp))
    refine ⟨uc', ?_⟩
    simp only [List.map_cons, List.map_nil, joinWith, h, List.flatten_cons, List.flatten_nil, List.append_nil,
      List.length_cons, List.length_nil, Nat.zero_add, Nat.sub_self, Nat.add_zero]
  | a :: b :: r, st, g, _, hr => by
    obtain ⟨uc1, h1⟩ := run_escape a st g (hr a (by simp))
    have g1 : Good { st with uc := uc1, out := a.reverse ++ st.out, us := (uTrace a).reverse ++ st.us } :=
      ⟨g.mode, g.skip, g.hi⟩
    have h2 := run_lineSepN _ g1
    have g2 : Good { st with uc := uc1, out := a.reverse ++ st.out, us := (uTrace a).reverse ++ st.us,
                             words := st.words + 1 } := ⟨g.mode, g.skip, g.hi⟩
    obtain ⟨uc3, h3⟩ := run_joined (b :: r) _ g2 (by simp) (fun l hl => hr l (by simp [hl]))
    refine ⟨uc3, ?_⟩
    simp only [List.map_cons, joinWith] at h3 ⊢
    rw [run_append, run_append, h1, h2, h3]
    simp only [List.flatten_cons, List.reverse_append, List.append_assoc, uTrace_append, List.length_cons]
    congr 1
    omega

/-- what the reader shows for a joined text: the characters of the lines in order, one formatting word per boundary -/
theorem decode_joined (ls : List (List Nat)) (hne : ls ≠ []) (hr : ∀ l ∈ ls, ∀ n ∈ l, readable n = true) :
    decode (escape (joinWith lineSepN ls)) =
      { text := ls.flatten, us := uTrace ls.flatten, words := ls.length - 1, errs := [], depth := 0 } := by
  have g0 : Good ({} : St) := ⟨rfl, rfl, rfl⟩
  obtain ⟨uc', h⟩ := run_joined ls {} g0 hne hr
  unfold decode
  rw [escape_joinWith, h, finish_good _ ⟨rfl, rfl, rfl⟩]
  simp

end Proofs.TextInput
