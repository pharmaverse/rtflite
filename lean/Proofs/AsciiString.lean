/-!
The character list of a string whose UTF-8 bytes are all 7-bit can be read directly off its bytes (`ascii_toList`).
On the way: `Char.ofNat n` has code point `n` for every scalar value `n` (`toNat_ofNat`).
-/

namespace Proofs.AsciiString

/-- `Char.ofNat n` for a scalar value `n` has code point `n` (`Char.ofNat` maps everything else to `'\0'`) -/
theorem toNat_ofNat {n : Nat} (h : n.isValidChar) : (Char.ofNat n).toNat = n := by
  rw [Char.ofNat, dif_pos h]
  rfl

theorem toNat_ofNat_ascii (b : Nat) (hb : b < 128) : (Char.ofNat b).toNat = b :=
  toNat_ofNat (Or.inl (Nat.lt_trans hb (by decide)))

theorem utf8Size_ofNat (b : Nat) (hb : b < 128) : (Char.ofNat b).utf8Size = 1 := by
  have hle : (Char.ofNat b).val ≤ 127 := by
    rw [UInt32.le_iff_toNat_le]
    show (Char.ofNat b).toNat ≤ 127
    rw [toNat_ofNat_ascii b hb]
    omega
  unfold Char.utf8Size
  exact if_pos hle

theorem utf8EncodeChar_ofNat (b : Nat) (hb : b < 128) :
    String.utf8EncodeChar (Char.ofNat b) = [b.toUInt8] := by
  rw [String.utf8EncodeChar_eq_singleton (utf8Size_ofNat b hb)]
  congr 1
  apply UInt8.toNat_inj.mp
  rw [UInt32.toNat_toUInt8, ← Char.toNat, toNat_ofNat_ascii b hb, Nat.toUInt8_eq, UInt8.toNat_ofNat']

theorem utf8Encode_map_ofNat (B : List Nat) (hB : ∀ b ∈ B, b < 128) :
    (B.map Char.ofNat).utf8Encode = (B.map Nat.toUInt8).toByteArray := by
  induction B with
  | nil => rfl
  | cons b B ih =>
    have hb : b < 128 := hB b (by simp)
    have ih' := ih (fun x hx => hB x (by simp [hx]))
    rw [List.map_cons, List.utf8Encode_cons, List.utf8Encode_singleton, ih',
      utf8EncodeChar_ofNat b hb, ← List.toByteArray_append]
    rfl

theorem ascii_toList (s : String) (B : List Nat) (hB : ∀ b ∈ B, b < 128)
    (h : s.toUTF8.data.toList.map (·.toNat) = B) : s.toList = B.map Char.ofNat := by
  have hbytes : (B.map Nat.toUInt8).toByteArray = s.toByteArray := by
    apply ByteArray.ext
    rw [List.data_toByteArray, ← h, String.toUTF8_eq_toByteArray, List.map_map]
    have : (Nat.toUInt8 ∘ fun (x : UInt8) => x.toNat) = id := by
      funext x; simp
    rw [this, List.map_id, Array.toArray_toList]
  have henc : (String.ofList (B.map Char.ofNat)).toByteArray = s.toByteArray := by
    rw [String.toByteArray_ofList, utf8Encode_map_ofNat B hB, hbytes]
  have hs : String.ofList (B.map Char.ofNat) = s := String.toByteArray_inj.mp henc
  rw [← hs, String.toList_ofList]

theorem ascii_toList' (s : String) (B : List Nat)
    (h : (s.toUTF8.data.toList.map (·.toNat) == B && B.all (· < 128)) = true) :
    s.toList = B.map Char.ofNat := by
  rw [Bool.and_eq_true] at h
  obtain ⟨h1, h2⟩ := h
  apply ascii_toList s B
  · intro b hb
    have := List.all_eq_true.mp h2 b hb
    simpa using this
  · exact eq_of_beq h1

end Proofs.AsciiString
