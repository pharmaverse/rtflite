import Model.Color
import Proofs.Color
import Proofs.EscNodes
import Proofs.LexNodes
import Proofs.AsciiString
import Proofs.Encode
import Proofs.ColorTableCodes
import Proofs.FontTable
/-!
The two generated texts of the document head — font table and colour table — read back into nodes are good node lists
(plain, frame nodes, no `\u`), for the font table of the source tree and for EVERY list of used colours.
Facts about the generated tables are `decide +kernel` obligations.
-/
namespace Proofs.EncodeTables
open Model.Rtf Model.Emit Model.Encode Model.TextNodes Generated Proofs.Emit Proofs.Encode Proofs.ColorTable

theorem ng_lex (ns : List Node) (h1 : nodesOk ns none = true) (hp : plainNodes ns = true)
    (hf : ns.all frameNode = true) (hu : noUNodes ns = true) : NG (textNodes (printNodes ns)) := by
  show NG (lexNodes (printNodes ns))
  rw [Proofs.LexNodes.lexNodes_printNodes ns h1]
  refine ⟨by rw [Proofs.LexNodes.plainNodes_norm]; exact hp, Proofs.LexNodes.frame_norm ns hf, uNeutral_noU _ ?_⟩
  rw [Proofs.LexNodes.noUNodes_norm]; exact hu

set_option maxRecDepth 100000 in
theorem fontNodes_good : (match Proofs.FontTable.fontNodes with
    | .ok ns => plainNodes ns && ns.all frameNode && noUNodes ns
    | .error _ => false) = true := by decide +kernel

theorem fontTbl_ng (s : String) (h : Model.Color.fontTableText fontTable = .ok s) : NG (textNodes s.toList) := by
  obtain ⟨es, hes, hs⟩ := Proofs.FontTable.fontTableText_toList h
  have := fontNodes_good
  rw [Proofs.FontTable.fontNodes, hes] at this
  rw [hs]
  exact ng_closed this

/-! ### colour table -/

def codeNodes (row : ColorRow) : List Node :=
  [cwi "red" (row.r : Int), cwi "green" (row.g : Int), cwi "blue" (row.b : Int), Node.txt [';']]

theorem intDigits_nat (n : Nat) : intDigits (n : Int) = (digs n).map Char.ofNat := by
  have h := Proofs.EscNodes.intDigits_agree (n : Int)
  have h2 : Model.Escape.intRepr (n : Int) = digs n := by
    have : ¬ ((n : Int) < 0) := by omega
    simp [Model.Escape.intRepr, this, digs]
  rw [h2] at h
  rw [← h, Proofs.ConvNodes.map_ofNat_toNat]

theorem code_print (row : ColorRow) (h : row ∈ colorTable) : row.code.toList = printNodes (codeNodes row) := by
  rw [Proofs.AsciiString.ascii_toList' _ _ (List.all_eq_true.mp codes_bytes row h)]
  have e1 : List.map Char.ofNat [92, 114, 101, 100] = '\\' :: "red".toList := by decide +kernel
  have e2 : List.map Char.ofNat [92, 103, 114, 101, 101, 110] = '\\' :: "green".toList := by decide +kernel
  have e3 : List.map Char.ofNat [92, 98, 108, 117, 101] = '\\' :: "blue".toList := by decide +kernel
  have e4 : List.map Char.ofNat [59] = [';'] := by decide
  have e5 : (expected row).map Char.ofNat = '\\' :: "red".toList ++ (digs row.r).map Char.ofNat ++
      ('\\' :: "green".toList ++ (digs row.g).map Char.ofNat ++
        ('\\' :: "blue".toList ++ (digs row.b).map Char.ofNat ++ [';'])) := by
    unfold expected
    rw [List.map_append, List.map_append, List.map_append, List.map_append, List.map_append, List.map_append,
      e1, e2, e3, e4]
    simp only [List.append_assoc]
  rw [e5]
  simp only [codeNodes, cwi, printNodes, printNode, intDigits_nat, List.append_nil, Bool.false_eq_true, if_false]

theorem joinCodes_toList_aux (rows : List ColorRow) (acc : String) :
    (rows.foldl (fun acc row => acc ++ "\n" ++ row.code) acc).toList =
      acc.toList ++ rows.flatMap (fun r => '\n' :: r.code.toList) := by
  induction rows generalizing acc with
  | nil => simp
  | cons r rows ih =>
    rw [List.foldl_cons, ih, String.toList_append, String.toList_append, List.flatMap_cons]
    have : "\n".toList = ['\n'] := by decide +kernel
    rw [this]
    simp [List.append_assoc]

theorem joinCodes_toList (rows : List ColorRow) :
    (Model.Color.joinCodes rows).toList = rows.flatMap (fun r => '\n' :: r.code.toList) := by
  unfold Model.Color.joinCodes
  rw [joinCodes_toList_aux]
  have : "".toList = [] := by decide +kernel
  rw [this, List.nil_append]

def rowNodes' (r : ColorRow) : List Node := Node.nl :: codeNodes r

def colorBody (rows : List ColorRow) : List Node :=
  [cw0 "colortbl", Node.txt [';']] ++ (rows.flatMap rowNodes' ++ [Node.nl])

theorem colorTbl_print (rows : List ColorRow)
    (h : ∀ r ∈ rows, r.code.toList = printNodes (codeNodes r)) :
    ("{\\colortbl;" ++ Model.Color.joinCodes rows ++ "\n}").toList = printNodes [Node.grp (colorBody rows)] := by
  have e1 : "{\\colortbl;".toList = '{' :: printNodes [cw0 "colortbl", Node.txt [';']] := by decide +kernel
  have e2 : "\n}".toList = ['\n', '}'] := by decide +kernel
  have e3 : rows.flatMap (fun r => '\n' :: r.code.toList) = printNodes (rows.flatMap rowNodes') := by
    rw [Proofs.EscNodes.printNodes_flatMap]
    clear e1 e2
    induction rows with
    | nil => rfl
    | cons r rows ih =>
      rw [List.flatMap_cons, List.flatMap_cons, ih (fun x hx => h x (by simp [hx])), h r (by simp)]
      simp [rowNodes', printNodes, printNode]
  rw [String.toList_append, String.toList_append, joinCodes_toList, e1, e2, e3]
  simp only [printNodes, printNode, colorBody, printNodes_append, List.append_nil, List.cons_append, List.append_assoc,
    List.nil_append]

theorem nodesOk_rowNodes' (r : ColorRow) (after : Option Char) : nodesOk (rowNodes' r) after = true := by
  have n1 : nameOk "red".toList = true := by decide +kernel
  have n2 : nameOk "green".toList = true := by decide +kernel
  have n3 : nameOk "blue".toList = true := by decide +kernel
  have b1 : ∀ k : Int, badAfter (some k) '\\' = false := by intro k; simp only [badAfter]; decide
  have b2 : ∀ k : Int, badAfter (some k) ';' = false := by intro k; simp only [badAfter]; decide
  have nx : nextChar [Node.txt [';']] after = some ';' := by simp [nextChar, printNodes, printNode]
  have s1 : safeChar ';' = true := by decide
  have e6 : nodesOk [] after = true := by simp [nodesOk]
  simp only [rowNodes', codeNodes, cwi, nodesOk_cons, nextChar_cw, nx, nodeOk, n1, n2, n3, b1, b2, List.all_cons,
    List.all_nil, s1, Bool.not_false, Bool.or_true, Bool.and_self, e6]

theorem plain_rowNodes' (r : ColorRow) : plainNodes (rowNodes' r) = true := by
  have t1 : tableWord "red".toList = false := by decide +kernel
  have t2 : tableWord "green".toList = false := by decide +kernel
  have t3 : tableWord "blue".toList = false := by decide +kernel
  simp only [rowNodes', codeNodes, cwi, plainNodes, plainNode, t1, t2, t3, Bool.not_false, Bool.and_self]

theorem noU_rowNodes' (r : ColorRow) : noUNodes (rowNodes' r) = true := by
  have t1 : ("red".toList == "u".toList || "red".toList == "uc".toList) = false := by decide +kernel
  have t2 : ("green".toList == "u".toList || "green".toList == "uc".toList) = false := by decide +kernel
  have t3 : ("blue".toList == "u".toList || "blue".toList == "uc".toList) = false := by decide +kernel
  simp only [rowNodes', codeNodes, cwi, noUNodes, noUNode, t1, t2, t3, Bool.not_false, Bool.and_self]

theorem noUNodes_flatMap {α : Type} (l : List α) (f : α → List Node) (h : ∀ x ∈ l, noUNodes (f x) = true) :
    noUNodes (l.flatMap f) = true := by
  induction l with
  | nil => simp [noUNodes]
  | cons x l ih =>
    rw [List.flatMap_cons, noUNodes_append, h x (by simp), ih (fun y hy => h y (by simp [hy]))]
    rfl

theorem colorBody_good (rows : List ColorRow) :
    nodesOk (colorBody rows) (some '}') = true ∧ plainNodes (colorBody rows) = true ∧
      noUNodes (colorBody rows) = true := by
  refine ⟨?_, ?_, ?_⟩
  · unfold colorBody
    rw [nodesOk_append, nodesOk_append, Proofs.EscNodes.nodesOk_flatMap _ _ (fun r _ a => nodesOk_rowNodes' r a)]
    have hA : ∀ nx, nodesOk [cw0 "colortbl", Node.txt [';']] nx = true := by
      intro nx
      have n1 : nameOk "colortbl".toList = true := by decide +kernel
      have b1 : badAfter none ';' = false := by decide
      have nx' : nextChar [Node.txt [';']] nx = some ';' := by simp [nextChar, printNodes, printNode]
      have s1 : safeChar ';' = true := by decide
      have e6 : nodesOk [] nx = true := by simp [nodesOk]
      simp only [cw0, nodesOk_cons, nx', nodeOk, n1, b1, List.all_cons, List.all_nil, s1, Bool.not_false, Bool.or_true,
        Bool.and_self, e6]
    rw [hA]
    simp [nodesOk, nodeOk]
  · unfold colorBody
    rw [plainNodes_append, plainNodes_append, Proofs.EscNodes.plainNodes_flatMap _ _ (fun r _ => plain_rowNodes' r)]
    decide
  · unfold colorBody
    rw [noUNodes_append, noUNodes_append, noUNodes_flatMap _ _ (fun r _ => noU_rowNodes' r)]
    decide

theorem colorTbl_ng_gen (tbl : List ColorRow) (hc : ∀ r ∈ tbl, r.code.toList = printNodes (codeNodes r))
    (used : List String) (s : String)
    (h : Model.Color.generateColorTable tbl (some used) = .ok s) : NG (textNodes s.toList) := by
  have hempty : NG (textNodes "".toList) := by
    have : textNodes "".toList = [] := by decide +kernel
    rw [this]; exact ng_nil
  simp only [Model.Color.generateColorTable] at h
  split at h
  · cases h; exact hempty
  · split at h
    · cases h
    · cases h; exact hempty
    · next rows hne hrows =>
      cases h
      have hmem := Proofs.Color.tableRows_mem_tbl hrows
      rw [colorTbl_print rows (fun r hr => hc r (hmem r hr))]
      obtain ⟨g1, g2, g3⟩ := colorBody_good rows
      apply ng_lex
      · rw [nodesOk_top]; exact g1
      · simpa [plainNodes, plainNode] using g2
      · simpa [frameNode] using g1
      · simpa [noUNodes, noUNode] using g3

theorem colorTbl_ng (used : List String) (s : String)
    (h : Model.Color.generateColorTable colorTable (some used) = .ok s) : NG (textNodes s.toList) :=
  colorTbl_ng_gen colorTable code_print used s h

end Proofs.EncodeTables
