import Model.Export
import Model.ExportSpec
/-! Helper lemmas for C18: how each file-system operation changes `fget`, the rules for `step` and `withTemp`,
and the postconditions `QW`, `QR` of the export programs, each proved by one walk through its effects. -/
namespace Proofs.Export
open Model.Export

/-! ## `under` -/

theorem under_iff {p q : Path} : under p q = true ↔ p <+: q :=
  List.isPrefixOf_iff_prefix

theorem under_refl (p : Path) : under p p = true := by simp [under]

theorem under_nil (q : Path) : under [] q = true := by simp [under]

theorem under_nil_right {p : Path} (h : p ≠ []) : under p [] = false := by
  cases p with
  | nil => exact absurd rfl h
  | cons a r => simp [under]

theorem under_trans {a b c : Path} (h1 : under a b = true) (h2 : under b c = true) : under a c = true := by
  rw [under_iff] at *
  exact List.IsPrefix.trans h1 h2

theorem under_append (p r : Path) : under p (p ++ r) = true := by
  rw [under_iff]
  exact List.prefix_append p r

theorem under_split {p q : Path} (h : under p q = true) : q = p ++ q.drop p.length := by
  rw [under_iff] at h
  obtain ⟨t, rfl⟩ := h
  simp

theorem under_comparable {a b c : Path} (h1 : under a c = true) (h2 : under b c = true) :
    under a b = true ∨ under b a = true := by
  simp only [under_iff] at *
  exact List.prefix_or_prefix_of_prefix h1 h2

theorem under_longer {a b : Path} (h : b.length < a.length) : under a b = false :=
  Bool.eq_false_iff.mpr fun h' => by have := (under_iff.mp h').length_le; omega

/-- what is not below `a` is not below anything below `a` -/
theorem not_under_below {a b q : Path} (hab : under a b = true) (h : under a q = false) : under b q = false :=
  Bool.eq_false_iff.mpr fun h' => Bool.eq_false_iff.mp h (under_trans hab h')

/-- prefixes of a path not below `t` are not below `t` -/
theorem not_under_of_prefix {t q p : Path} (hq : under q p = true) (h : under t p = false) :
    under t q = false :=
  Bool.eq_false_iff.mpr fun h' => Bool.eq_false_iff.mp h (under_trans h' hq)

theorem not_under_snoc {root : Path} {a : Name} {q : Path} (h : under root q = false) :
    under (root ++ [a]) q = false :=
  not_under_below (under_append root [a]) h

theorem ne_of_under_false {t a b : Path} (ha : under t a = false) (hb : under t b = true) : a ≠ b :=
  fun h => Bool.eq_false_iff.mp ha (h ▸ hb)

/-- unrelated to `t`, hence not above anything below `t` -/
theorem unrelated_not_above {t d q : Path} (h : Unrelated t d) (hq : under t q = true) : under d q = false :=
  Bool.eq_false_iff.mpr fun hd =>
    (under_comparable hd hq).elim (Bool.eq_false_iff.mp h.2) (Bool.eq_false_iff.mp h.1)

theorem unrelated_append {t d : Path} (h : Unrelated t d) (r : Path) : under t (d ++ r) = false :=
  unrelated_not_above ⟨h.2, h.1⟩ (under_append d r)

theorem snoc_ne_nil (p : Path) (a : Name) : p ++ [a] ≠ [] := List.concat_ne_nil a p

theorem dropLast_snoc (p : Path) (a : Name) : (p ++ [a]).dropLast = p := List.dropLast_concat

theorem under_dropLast {t p : Path} (hne : p ≠ t) (h : under t p = true) : under t p.dropLast = true := by
  rw [under_iff] at *
  obtain ⟨r, rfl⟩ := h
  have hr : r ≠ [] := by intro h0; apply hne; simp [h0]
  rw [List.dropLast_append_of_ne_nil hr]
  exact List.prefix_append _ _

/-! ## `lookup` through `filter` / `map` -/

theorem lookup_filter_key (P : Path → Bool) (fs : Fs) (q : Path) :
    (fs.filter (fun e => P e.1)).lookup q = if P q then fs.lookup q else none := by
  induction fs with
  | nil => simp
  | cons e fs ih =>
    obtain ⟨k, v⟩ := e
    by_cases hq : q = k
    · subst hq
      cases hk : P q <;> simp [hk, ih]
    · have hb : (q == k) = false := by simpa using hq
      cases hk : P k <;> simp [hk, List.lookup_cons, hb, ih]

theorem lookup_map_const (l : List Path) (v : Node) (q : Path) :
    (l.map (fun p => (p, v))).lookup q = if q ∈ l then some v else none := by
  induction l with
  | nil => simp
  | cons a l ih =>
    simp only [List.map_cons, List.lookup_cons, List.mem_cons]
    by_cases h : q == a
    · have : q = a := by simpa using h
      simp [this]
    · have hne : q ≠ a := by simpa using h
      simp [h, ih, hne]

/-! ## `fget` after each operation -/

theorem fget_nil (fs : Fs) : fget fs [] = some .dir := by simp [fget]

theorem fget_fset {fs : Fs} {p : Path} (n : Node) (hp : p ≠ []) (q : Path) :
    fget (fset fs p n) q = if q = p then some n else fget fs q := by
  unfold fget fset
  by_cases hq : q = []
  · subst hq
    have : ([] : Path) ≠ p := fun h => hp h.symm
    simp [this]
  · simp only [hq, ↓reduceIte, List.lookup_cons]
    by_cases h : q = p
    · subst h
      simp
    · have hb : (q == p) = false := by simpa using h
      simp only [hb, h, ↓reduceIte]
      have := lookup_filter_key (fun k => !(k == p)) fs q
      simp only [hb, Bool.not_false, ↓reduceIte] at this
      exact this

/-- a write below `t` is not seen from outside `t` -/
theorem fget_fset_outside {fs : Fs} {t p q : Path} (n : Node) (hp : p ≠ []) (hpt : under t p = true)
    (hq : under t q = false) : fget (fset fs p n) q = fget fs q := by
  rw [fget_fset n hp, if_neg (ne_of_under_false hq hpt)]

theorem fget_fset_below {fs : Fs} {out x q : Path} (n : Node) (hq : under out q = false) :
    fget (fset fs (out ++ x) n) q = fget fs q := by
  by_cases hx : out ++ x = []
  · have : out = [] := by simp at hx; exact hx.1
    subst this
    rw [under_nil] at hq
    cases hq
  · exact fget_fset_outside n hx (under_append out x) hq

/-- the writes of a process run stay below its output directory -/
theorem fget_writeRel (out : Path) (files : List (Path × Node)) (fs : Fs) (q : Path) (hq : under out q = false) :
    fget (writeRel out files fs) q = fget fs q := by
  induction files generalizing fs with
  | nil => rfl
  | cons e r ih =>
    simp only [writeRel]
    rw [ih, fget_fset_below _ hq]

theorem fget_rmTree {fs : Fs} {p : Path} (hp : p ≠ []) (q : Path) :
    fget (rmTree fs p) q = if under p q = true then none else fget fs q := by
  unfold fget rmTree
  by_cases hq : q = []
  · subst hq
    simp [under_nil_right hp]
  · simp only [hq, ↓reduceIte]
    rw [lookup_filter_key (fun k => !under p k) fs q]
    cases under p q <;> simp

theorem lookup_moved (fs : Fs) (src dst r : Path) :
    ((fs.filter (fun e => under src e.1)).map (fun e => (dst ++ e.1.drop src.length, e.2))).lookup (dst ++ r)
      = fs.lookup (src ++ r) := by
  induction fs with
  | nil => simp
  | cons e fs ih =>
    obtain ⟨k, v⟩ := e
    cases hk : under src k with
    | true =>
      -- `k = src ++ k'`: both keys are compared through `r = k'`
      have hb : (dst ++ r == dst ++ k.drop src.length) = (src ++ r == k) := by
        rw [Bool.eq_iff_iff, beq_iff_eq, beq_iff_eq, List.append_cancel_left_eq]
        exact ⟨fun h => by rw [h, ← under_split hk], fun h => by rw [← h, List.drop_left]⟩
      simp [hk, List.lookup_cons, hb, ih]
    | false =>
      have h2 : (src ++ r == k) = false :=
        beq_false_of_ne fun h => Bool.eq_false_iff.mp hk (h ▸ under_append src r)
      simp [hk, List.lookup_cons, h2, ih]

theorem lookup_moved_none (fs : Fs) (src dst q : Path) (h : under dst q = false) :
    ((fs.filter (fun e => under src e.1)).map (fun e => (dst ++ e.1.drop src.length, e.2))).lookup q = none := by
  induction fs with
  | nil => rfl
  | cons e fs ih =>
    have hq : (q == dst ++ e.1.drop src.length) = false :=
      beq_false_of_ne (ne_of_under_false h (under_append _ _))
    cases hk : under src e.1 <;> simp [hk, List.lookup_cons, hq, ih]

/-- the tree below `dst` is the old tree below `src`; the old `src` tree is gone; the rest is untouched -/
theorem fget_moveTree {fs : Fs} {src dst : Path} (hs : src ≠ []) (hd : dst ≠ []) (q : Path) :
    fget (moveTree fs src dst) q =
      if under dst q = true then fget fs (src ++ q.drop dst.length)
      else if under src q = true then none else fget fs q := by
  by_cases hq : q = []
  · subst hq
    simp [under_nil_right hs, under_nil_right hd, fget_nil]
  · unfold fget moveTree
    have hne : src ++ q.drop dst.length ≠ [] := by simp [hs]
    simp only [hq, hne, ↓reduceIte, List.lookup_append]
    by_cases hdq : under dst q = true
    · have hsplit := under_split hdq
      simp only [hdq, ↓reduceIte]
      conv => lhs; arg 1; rw [hsplit]
      rw [lookup_moved]
      have h2 := lookup_filter_key (fun k => !under src k && !under dst k) fs q
      simp only [hdq, Bool.not_true, Bool.and_false, Bool.false_eq_true, ↓reduceIte] at h2
      rw [h2]
      simp
    · have hdq' : under dst q = false := by simpa using hdq
      rw [lookup_moved_none fs src dst q hdq']
      have h2 := lookup_filter_key (fun k => !under src k && !under dst k) fs q
      simp only [hdq', Bool.not_false, Bool.and_true] at h2
      simp only [Option.none_or, h2, hdq', Bool.false_eq_true, ↓reduceIte]
      cases under src q <;> simp

/-! ## prefixes / mkdirParents -/

theorem mem_prefixes {q p : Path} : q ∈ prefixes p ↔ under q p = true := by
  rw [under_iff]
  induction p generalizing q with
  | nil => simp [prefixes]
  | cons a r ih =>
    simp only [prefixes, List.mem_cons, List.mem_map, ih, List.prefix_cons_iff]
    exact or_congr Iff.rfl ⟨fun ⟨x, hx, e⟩ => ⟨x, e.symm, hx⟩, fun ⟨x, e, hx⟩ => ⟨x, hx, e.symm⟩⟩

theorem mkdirParents_err {p : Path} {fs : Fs} {e : Err} {fs' : Fs}
    (h : mkdirParents p fs = (.error e, fs')) : fs' = fs := by
  unfold mkdirParents at h
  split at h
  · cases h
    rfl
  · cases h

/-- a successful `mkdir(parents=True)`: no prefix of the path was a regular file, and exactly the missing
prefixes became directories -/
theorem mkdirParents_ok {p : Path} {fs fs' : Fs} (h : mkdirParents p fs = (.ok (), fs')) :
    (∀ q, under q p = true → isFile (fget fs q) = false)
    ∧ ∀ q, fget fs' q = if under q p = true ∧ fget fs q = none then some .dir else fget fs q := by
  unfold mkdirParents at h
  split at h
  · cases h
  · rename_i hany
    cases h
    refine ⟨fun q hq => ?_, fun q => ?_⟩
    · simpa using fun hf => hany (List.any_eq_true.mpr ⟨q, mem_prefixes.mpr hq, hf⟩)
    by_cases hq : q = []
    · subst hq
      simp [fget_nil]
    · unfold fget
      simp only [hq, ↓reduceIte]
      rw [List.lookup_append, lookup_map_const]
      have hmem : (q ∈ List.filter (fun q => (if q = [] then some Node.dir else List.lookup q fs) == none) (prefixes p))
          ↔ (under q p = true ∧ List.lookup q fs = none) := by
        simp [List.mem_filter, mem_prefixes, hq]
      by_cases hc : under q p = true ∧ List.lookup q fs = none
      · rw [if_pos (hmem.mpr hc), if_pos hc]
        simp
      · rw [if_neg (fun hm => hc (hmem.mp hm)), if_neg hc]; simp

theorem fget_mkdirParents {p : Path} {fs fs' : Fs} (h : mkdirParents p fs = (.ok (), fs')) (q : Path) :
    fget fs' q = if under q p = true ∧ fget fs q = none then some .dir else fget fs q :=
  (mkdirParents_ok h).2 q

/-- after a successful `mkdir(parents=True)` every prefix of the path is a directory -/
theorem mkdirParents_dir {p : Path} {fs fs' : Fs} (h : mkdirParents p fs = (.ok (), fs')) {q : Path}
    (hq : under q p = true) : fget fs' q = some .dir := by
  have hf := (mkdirParents_ok h).1 q hq
  rw [fget_mkdirParents h]
  cases hg : fget fs q with
  | none => simp [hq]
  | some n =>
    cases n with
    | dir => simp
    | file b => simp [hg, isFile] at hf

/-! ## `move` and the commit block -/

theorem fget_moveTree_frame {fs : Fs} {src dst : Path} (hs : src ≠ []) (hd : dst ≠ []) {q : Path}
    (h1 : under src q = false) (h2 : under dst q = false) : fget (moveTree fs src dst) q = fget fs q := by
  rw [fget_moveTree hs hd, h2, h1]
  rfl

theorem realDst_under (fs : Fs) (src dst : Path) : under dst (realDst fs src dst) = true := by
  unfold realDst
  split
  · exact under_append _ _
  · exact under_refl _

theorem realDst_ne_nil {fs : Fs} {src dst : Path} (hd : dst ≠ []) : realDst fs src dst ≠ [] := by
  unfold realDst; split <;> simp [hd]

theorem realDst_eq {fs : Fs} {src dst : Path} (h : fget fs dst ≠ some .dir) : realDst fs src dst = dst :=
  if_neg h

/-- a successful `move` is a rename to the real destination -/
theorem move_ok {fs fs' : Fs} {src dst : Path} (h : move fs src dst = .ok fs') :
    ∃ n, fget fs src = some n ∧ moveTo fs src (realDst fs src dst) n = .ok fs' := by
  unfold move at h
  split at h
  · cases h
  · split at h
    · cases h
    · exact ⟨_, ‹_›, h⟩

/-- what a successful rename did -/
theorem moveTo_ok {fs fs' : Fs} {src real : Path} {n : Node} (h : moveTo fs src real n = .ok fs') :
    match n with
    | .file b => fs' = fset (rmTree fs src) real (.file b)
    | .dir => fs' = moveTree fs src real := by
  unfold moveTo at h
  split at h
  · cases h
  · split at h
    · cases n with
      | file b =>
        cases h
        rfl
      | dir =>
        simp only at h
        split at h
        · cases h
          rfl
        · cases h
    · cases h

theorem move_frame {fs fs' : Fs} {src dst : Path} (hs : src ≠ []) (hd : dst ≠ [])
    (h : move fs src dst = .ok fs') (q : Path)
    (h1 : under src q = false) (h2 : under dst q = false) : fget fs' q = fget fs q := by
  obtain ⟨n, _, hm⟩ := move_ok h
  have hr : realDst fs src dst ≠ [] := realDst_ne_nil hd
  have h3 : under (realDst fs src dst) q = false := not_under_below (realDst_under fs src dst) h2
  have := moveTo_ok hm
  cases n with
  | file b =>
    rw [this, fget_fset _ hr, if_neg (ne_of_under_false h3 (under_refl _)), fget_rmTree hs, h1]
    rfl
  | dir => rw [this, fget_moveTree_frame hs hr h1 h3]

/-- moving a file onto a path that is not a directory -/
theorem move_file {fs fs' : Fs} {src dst : Path} {b : Bytes} (h : move fs src dst = .ok fs')
    (hb : fget fs src = some (.file b)) (hnd : fget fs dst ≠ some .dir) :
    fs' = fset (rmTree fs src) dst (.file b) := by
  obtain ⟨n, hn, hm⟩ := move_ok h
  rw [hb] at hn
  cases hn
  rw [realDst_eq hnd] at hm
  exact moveTo_ok hm

/-- moving a directory to a free path whose parent is a directory succeeds -/
theorem move_dir {fs : Fs} {src dst : Path} (hs : fget fs src = some .dir) (hd : fget fs dst = none)
    (hu : under src dst = false) (hpar : fget fs dst.dropLast = some .dir) :
    move fs src dst = .ok (moveTree fs src dst) := by
  simp [move, moveTo, realDst, hs, hd, hu, hpar]

theorem resourcesOf_ne_nil (p : Path) : resourcesOf p ≠ [] := by simp [resourcesOf]

theorem resDst_ne_nil (dir p : Path) : resDst dir p ≠ [] := by simp [resDst]

theorem str_append_ne (n : Name) : n ++ filesSuffix ≠ n := by
  intro h
  have := congrArg List.length h
  simp [filesSuffix] at this

/-- entries of one directory under different names: neither is at or below the other -/
theorem sibling_not_under (d : Path) {a b : Name} (hab : a ≠ b) (r : Path) :
    under (d ++ [a]) (d ++ [b] ++ r) = false :=
  Bool.eq_false_iff.mpr fun h => by
    rw [under_iff, List.append_assoc, List.prefix_append_right_inj] at h
    exact hab (List.cons_prefix_cons.mp h).1

theorem resourcesOf_snoc (d : Path) (n : Name) : resourcesOf (d ++ [n]) = d ++ [n ++ filesSuffix] := by
  simp [resourcesOf]

section
variable {p : Path}

/-- `p` and its resource folder are different entries of the same directory -/
theorem p_not_under_res (hp : p ≠ []) (r : Path) : under p (resourcesOf p ++ r) = false := by
  rw [← List.dropLast_concat_getLast hp, resourcesOf_snoc]
  exact sibling_not_under _ (str_append_ne _).symm r

theorem res_not_under_p (hp : p ≠ []) : under (resourcesOf p) p = false := by
  rw [← List.dropLast_concat_getLast hp, resourcesOf_snoc]
  simpa using sibling_not_under p.dropLast (str_append_ne (p.getLast hp)) []

end

/-- what the commit block finds when it starts: `tB` is the converter's output directory (the second `mkdtemp`), `p`
the path the converter returned — strictly below `tB` (`hp`, `hpne`: `Confined.ret`) —, `fsc` the file system the
converter left, in which the target's directory exists (`hdir`); `hT`, `hR` are the parts of `NoClash` that keep `tB`
apart from the target and from the resource folder's destination -/
structure CommitCtx (dir : Path) (tname : Name) (tB p : Path) (fsc : Fs) (html : Bool) : Prop where
  tBne : tB ≠ []
  hp : under tB p = true
  hpne : p ≠ tB
  hdir : fget fsc dir = some .dir
  hT : Unrelated tB (dir ++ [tname])
  hR : html = true → Unrelated tB (resDst dir p)

section
variable {dir : Path} {tname : Name} {tB p : Path} {fsc : Fs} {html : Bool}

theorem CommitCtx.p_ne (c : CommitCtx dir tname tB p fsc html) : p ≠ [] := by
  intro h
  have := c.hp
  rw [h, under_nil_right c.tBne] at this
  cases this

theorem CommitCtx.res_under (c : CommitCtx dir tname tB p fsc html) : under tB (resourcesOf p) = true :=
  under_trans (under_dropLast c.hpne c.hp) (under_append _ _)

theorem CommitCtx.tB_dir (c : CommitCtx dir tname tB p fsc html) : under tB dir = false :=
  not_under_of_prefix (under_append dir [tname]) c.hT.1

theorem CommitCtx.res_rel (c : CommitCtx dir tname tB p fsc html) (hh : html = true) (r : Path) :
    under (resDst dir p) (resourcesOf p ++ r) = false :=
  unrelated_not_above (c.hR hh) (under_trans c.res_under (under_append _ _))

/-- the first move leaves the converter's resource folder as it is -/
theorem CommitCtx.res_same (c : CommitCtx dir tname tB p fsc html) {fs1 : Fs}
    (hm1 : move fsc p (dir ++ [tname]) = .ok fs1) (r : Path) :
    fget fs1 (resourcesOf p ++ r) = fget fsc (resourcesOf p ++ r) :=
  move_frame c.p_ne (by simp) hm1 _ (p_not_under_res c.p_ne r)
    (unrelated_not_above c.hT (under_trans c.res_under (under_append _ _)))

/-- after the first move, with the destination cleared, the resource folder's move cannot fail -/
theorem CommitCtx.res_move (c : CommitCtx dir tname tB p fsc html) (hh : html = true) {fs1 : Fs}
    (hm1 : move fsc p (dir ++ [tname]) = .ok fs1) (hres : fget fs1 (resourcesOf p) = some .dir) :
    move (rmTree fs1 (resDst dir p)) (resourcesOf p) (resDst dir p) =
      .ok (moveTree (rmTree fs1 (resDst dir p)) (resourcesOf p) (resDst dir p)) := by
  have hdne := resDst_ne_nil dir p
  have hdir1 : fget fs1 dir = some .dir := by
    rw [move_frame c.p_ne (by simp) hm1 dir (not_under_below c.hp c.tB_dir) (under_longer (by simp))]
    exact c.hdir
  apply move_dir
  · have := c.res_rel hh []
    rw [List.append_nil] at this
    rw [fget_rmTree hdne, this]
    exact hres
  · rw [fget_rmTree hdne, under_refl]
    rfl
  · exact not_under_below c.res_under (c.hR hh).1
  · have : (resDst dir p).dropLast = dir := by simp [resDst]
    rw [this, fget_rmTree hdne, under_longer (by simp [resDst])]
    exact hdir1

/-- a successful commit: the first move, then (HTML with a resource folder) the folder's move onto its
cleared destination -/
theorem commit_ok_form (c : CommitCtx dir tname tB p fsc html) {fs' : Fs}
    (h : commit html dir tname p fsc = (.ok (), fs')) :
    ∃ fs1, move fsc p (dir ++ [tname]) = .ok fs1 ∧
      fs' = if html = true ∧ fget fsc (resourcesOf p) = some .dir
        then moveTree (rmTree fs1 (resDst dir p)) (resourcesOf p) (resDst dir p) else fs1 := by
  unfold commit at h
  split at h
  · cases h
  · rename_i fs1 hm1
    have hs := c.res_same hm1 []
    rw [List.append_nil] at hs
    refine ⟨fs1, hm1, ?_⟩
    rw [← hs]
    split at h
    · rename_i hres
      simp only [c.res_move hres.1 hm1 hres.2] at h
      cases h
      exact (if_pos hres).symm
    · rename_i hres
      cases h
      exact (if_neg hres).symm

theorem commit_fail (c : CommitCtx dir tname tB p fsc html) {e : Err} {fs' : Fs}
    (h : commit html dir tname p fsc = (.error e, fs')) : fs' = fsc := by
  unfold commit at h
  split at h
  · cases h
    rfl
  · rename_i fs1 hm1
    split at h
    · rename_i hres
      simp only [c.res_move hres.1 hm1 hres.2] at h
      cases h
    · cases h

/-- what a successful commit leaves untouched -/
theorem commit_ok_frame (c : CommitCtx dir tname tB p fsc html) {fs' : Fs}
    (h : commit html dir tname p fsc = (.ok (), fs')) (q : Path)
    (h1 : under tB q = false) (h2 : under (dir ++ [tname]) q = false)
    (h3 : html = true → fget fsc (resourcesOf p) = some .dir → under (resDst dir p) q = false) :
    fget fs' q = fget fsc q := by
  obtain ⟨fs1, hm1, rfl⟩ := commit_ok_form c h
  have e1 : fget fs1 q = fget fsc q := move_frame c.p_ne (by simp) hm1 q (not_under_below c.hp h1) h2
  split
  · rename_i hres
    have h3' := h3 hres.1 hres.2
    rw [fget_moveTree_frame (resourcesOf_ne_nil p) (resDst_ne_nil dir p) (not_under_below c.res_under h1) h3',
      fget_rmTree (resDst_ne_nil dir p), h3']
    exact e1
  · exact e1

/-- the target holds the converter's file -/
theorem commit_ok_target (c : CommitCtx dir tname tB p fsc html) {fs' : Fs} {b : Bytes}
    (h : commit html dir tname p fsc = (.ok (), fs'))
    (hnd : fget fsc (dir ++ [tname]) ≠ some .dir) (hb : fget fsc p = some (.file b))
    (hname : html = true → resDst dir p ≠ dir ++ [tname]) :
    fget fs' (dir ++ [tname]) = some (.file b) := by
  obtain ⟨fs1, hm1, rfl⟩ := commit_ok_form c h
  have e1 : fget fs1 (dir ++ [tname]) = some (.file b) := by
    rw [move_file hm1 hb hnd, fget_fset _ (by simp), if_pos rfl]
  split
  · rename_i hres
    have hdT : under (resDst dir p) (dir ++ [tname]) = false :=
      Bool.eq_false_iff.mpr fun hu =>
        hname hres.1 (List.IsPrefix.eq_of_length (under_iff.mp hu) (by simp [resDst]))
    rw [fget_moveTree_frame (resourcesOf_ne_nil p) (resDst_ne_nil dir p) (not_under_below c.res_under c.hT.1) hdT,
      fget_rmTree (resDst_ne_nil dir p), hdT]
    exact e1
  · exact e1

/-- the resource folder next to the target is exactly the converter's folder (no nesting, no stale entries) -/
theorem commit_ok_res (c : CommitCtx dir tname tB p fsc html) {fs' : Fs}
    (h : commit html dir tname p fsc = (.ok (), fs'))
    (hh : html = true) (hres : fget fsc (resourcesOf p) = some .dir) (r : Path) :
    fget fs' (resDst dir p ++ r) = fget fsc (resourcesOf p ++ r) := by
  obtain ⟨fs1, hm1, rfl⟩ := commit_ok_form c h
  rw [if_pos ⟨hh, hres⟩, fget_moveTree (resourcesOf_ne_nil p) (resDst_ne_nil dir p), under_append, if_pos rfl,
    List.drop_left, fget_rmTree (resDst_ne_nil dir p), c.res_rel hh r]
  exact c.res_same hm1 r
end

/-! ## effect sequences: the rules for `step` and `withTemp`, and what each effect does -/

theorem step_spec {α : Type} {Q : Res → Prop} {k : Nat} {e : Eff} {act : Fs → Except Err α × Fs} {s : St}
    {cont : α → St → Res}
    (hinj : Q (.error .injected, s))
    (herr : ∀ er fs', act s.fs = (.error er, fs') → Q (.error er, { s with fs := fs' }))
    (hok : ∀ a fs', act s.fs = (.ok a, fs') → Q (cont a { s with fs := fs', trace := s.trace ++ [e] })) :
    Q (step k e act s cont) := by
  unfold step
  split
  · exact hinj
  · split
    · rename_i er fs' h
      exact herr er fs' h
    · rename_i a fs' h
      exact hok a fs' h

/-- a step whose effect leaves the file system alone when it fails: the injected fault and the effect's
own error are one case -/
theorem step_keep_spec {α : Type} {Q : Res → Prop} {k : Nat} {e : Eff} {act : Fs → Except Err α × Fs} {s : St}
    {cont : α → St → Res}
    (hkeep : ∀ er fs', act s.fs = (.error er, fs') → fs' = s.fs)
    (hfail : ∀ er, Q (.error er, s))
    (hok : ∀ a fs', act s.fs = (.ok a, fs') → Q (cont a { s with fs := fs', trace := s.trace ++ [e] })) :
    Q (step k e act s cont) :=
  step_spec (hfail _) (fun er fs' h => by rw [hkeep er fs' h]; exact hfail er) hok

/-- a step that only computes `x` -/
theorem step_pure_spec {α : Type} {Q : Res → Prop} {k : Nat} {e : Eff} {x : Except Err α} {s : St}
    {cont : α → St → Res}
    (hfail : ∀ er, Q (.error er, s))
    (hok : ∀ a, x = .ok a → Q (cont a { s with trace := s.trace ++ [e] })) :
    Q (step k e (fun fs => (x, fs)) s cont) :=
  step_keep_spec (fun _ _ h => (congrArg Prod.snd h).symm) hfail
    (fun a fs' h => by obtain ⟨rfl, rfl⟩ := Prod.mk.inj h; exact hok a rfl)

theorem mkdtemp_err {root : Path} {name : Name} {fs fs' : Fs} {e : Err}
    (h : mkdtemp root name fs = (.error e, fs')) : fs' = fs := by
  unfold mkdtemp at h
  split at h
  · split at h
    · cases h
    · cases h
      rfl
  · cases h
    rfl

theorem mkdtemp_ok {root : Path} {name : Name} {fs fs' : Fs} {t : Path}
    (h : mkdtemp root name fs = (.ok t, fs')) :
    t = root ++ [name] ∧ fget fs t = none ∧ fget fs root = some .dir ∧ fs' = fset fs t .dir := by
  unfold mkdtemp at h
  split at h
  · rename_i hr
    split at h
    · rename_i hn
      cases h
      exact ⟨rfl, hn, hr, rfl⟩
    · cases h
  · cases h

/-- `Q` of a scope's outcome as the scope hands it on: with the scope's directory removed -/
def closed (Q : Res → Prop) (t : Path) (r : Res) : Prop :=
  Q (r.1, { r.2 with fs := rmTree r.2.fs t })

/-- the scope of a temporary directory: entering it fails and nothing happened, or the directory is new and
the body's outcome is returned with the directory removed -/
theorem withTemp_spec {Q : Res → Prop} {k : Nat} {root : Path} {name : Name} {s : St} {body : Path → St → Res}
    (hfail : ∀ er, Q (.error er, s))
    (hok : fget s.fs (root ++ [name]) = none →
      closed Q (root ++ [name]) (body (root ++ [name])
        { fs := fset s.fs (root ++ [name]) .dir, temps := (root ++ [name]) :: s.temps,
          trace := s.trace ++ [.mkdtemp] })) :
    Q (withTemp k root name s body) := by
  unfold withTemp
  refine step_keep_spec (fun _ _ => mkdtemp_err) hfail fun t fs' h => ?_
  obtain ⟨rfl, hfresh, _, rfl⟩ := mkdtemp_ok h
  exact hok hfresh

theorem writeText_err {p : Path} {b : Bytes} {fs fs' : Fs} {e : Err}
    (h : writeText p b fs = (.error e, fs')) : fs' = fs := by
  unfold writeText at h
  split at h
  · cases h
    rfl
  · split at h
    · cases h
    · cases h
      rfl

theorem writeText_ok {p : Path} {b : Bytes} {fs fs' : Fs} {u : Unit}
    (h : writeText p b fs = (.ok u, fs')) :
    fs' = fset fs p (.file b) ∧ fget fs p ≠ some .dir ∧ fget fs p.dropLast = some .dir := by
  unfold writeText at h
  split at h
  · cases h
  · rename_i hnd
    split at h
    · rename_i hp
      cases h
      exact ⟨rfl, hnd, hp⟩
    · cases h

theorem typecheck_snd (r : ConvRet) (fs : Fs) : (typecheck r fs).2 = fs := by
  cases r <;> rfl

theorem typecheck_ok {r : ConvRet} {fs fs' : Fs} {p : Path} (h : typecheck r fs = (.ok p, fs')) :
    r = .path p := by
  cases r <;> cases h <;> rfl

theorem fget_none_of_fset {fs : Fs} {p q : Path} {n : Node} (hp : p ≠ [])
    (h : fget (fset fs p n) q = none) : fget fs q = none := by
  rw [fget_fset n hp] at h
  split at h
  · cases h
  · exact h

/-- a confined converter's run, read off one equation -/
theorem confined_run {c : Converter} (hc : Confined c) {fs fs' : Fs} {inp out : Path} {x : Except Err ConvRet}
    (h : c fs inp out = (x, fs')) :
    (∀ q, under out q = false → fget fs' q = fget fs q)
    ∧ ∀ p, x = .ok (.path p) → under out p = true ∧ p ≠ out := by
  have hf := hc.frame fs inp out
  have hr := hc.ret fs inp out
  rw [h] at hf hr
  exact ⟨hf, hr⟩

/-! ## the whole call -/

theorem same_of_mkdir {dir : Path} {fs fs1 fs' : Fs} (h : mkdirParents dir fs = (.ok (), fs1)) {q : Path}
    (hq : fget fs' q = fget fs1 q) : Same fs dir fs' q := by
  rw [fget_mkdirParents h] at hq
  split at hq
  · rename_i hc
    exact Or.inr ⟨hc.1, hc.2, hq⟩
  · exact Or.inl hq

theorem fresh_of_mkdir {dir : Path} {fs fs1 : Fs} (h : mkdirParents dir fs = (.ok (), fs1)) {t : Path}
    (ht : fget fs1 t = none) : fget fs t = none := by
  rw [fget_mkdirParents h] at ht
  split at ht
  · cases ht
  · exact ht

/-- postcondition of the whole call on the initial file system `fs`, all outcomes -/
def QW (P : Params) (fs : Fs) (r : Res) : Prop :=
  (∀ t ∈ r.2.temps, (t = P.tmpRoot ++ [P.tA] ∨ t = P.tmpRoot ++ [P.tB]) ∧ fget fs t = none
      ∧ ∀ q, under t q = true → fget r.2.fs q = none)
  ∧ (∀ e, r.1 = .error e → ∀ q, (∀ t ∈ r.2.temps, under t q = false) → Same fs P.dir r.2.fs q)
  ∧ (r.1 = .ok () → r.2.temps = [P.tmpRoot ++ [P.tB], P.tmpRoot ++ [P.tA]] ∧ ∃ c b p fs1 fsIn fsc fs',
        P.conv = .ok c ∧ P.enc = .ok b ∧ mkdirParents P.dir fs = (.ok (), fs1)
        ∧ fget fsIn (P.tmpRoot ++ [P.tA] ++ [P.rtfName]) = some (.file b)
        ∧ (∀ q, under (P.tmpRoot ++ [P.tA]) q = false → under (P.tmpRoot ++ [P.tB]) q = false →
            fget fsIn q = fget fs1 q)
        ∧ c fsIn (P.tmpRoot ++ [P.tA] ++ [P.rtfName]) (P.tmpRoot ++ [P.tB]) = (.ok (.path p), fsc)
        ∧ CommitCtx P.dir P.tname (P.tmpRoot ++ [P.tB]) p fsc P.html
        ∧ commit P.html P.dir P.tname p fsc = (.ok (), fs')
        ∧ r.2.fs = rmTree (rmTree fs' (P.tmpRoot ++ [P.tB])) (P.tmpRoot ++ [P.tA]))

/-- everything after the converter `c` is known: `fs0` is the file system after `mkdir`, no temporary
directory exists yet.  The RTF goes into the first temporary directory, the converter works in the second. -/
theorem afterResolve_spec (k : Nat) (P : Params) (c : Converter) (fs fs0 : Fs) (trace0 : List Eff)
    (hconv : P.conv = .ok c) (hm : mkdirParents P.dir fs = (.ok (), fs0)) (hc : Confined c) (hN : NoClash P) :
    QW P fs (afterResolve k P c { fs := fs0, temps := [], trace := trace0 }) := by
  have htAne : P.tmpRoot ++ [P.tA] ≠ [] := by simp
  have htBne : P.tmpRoot ++ [P.tB] ≠ [] := by simp
  have hrtfne : P.tmpRoot ++ [P.tA] ++ [P.rtfName] ≠ [] := by simp
  have hAdir : under (P.tmpRoot ++ [P.tA]) P.dir = false :=
    not_under_of_prefix (under_append P.dir [P.tname]) hN.tA.1
  have hBdir : under (P.tmpRoot ++ [P.tB]) P.dir = false :=
    not_under_of_prefix (under_append P.dir [P.tname]) hN.tB.1
  unfold afterResolve
  refine withTemp_spec
    (fun _ => ⟨fun t ht => (by cases ht), fun _ _ _ _ => same_of_mkdir hm rfl, fun h => by cases h⟩)
    fun hfreshA => ?_
  have hfA : fget fs (P.tmpRoot ++ [P.tA]) = none := fresh_of_mkdir hm hfreshA
  -- the outer directory is gone whatever happened inside
  have hgoneA : ∀ fs' q, under (P.tmpRoot ++ [P.tA]) q = true →
      fget (rmTree fs' (P.tmpRoot ++ [P.tA])) q = none :=
    fun fs' q hq => by rw [fget_rmTree htAne, if_pos hq]
  -- a failure before the inner scope is entered: at most the RTF below `tA` was written
  have failA : ∀ fs', (∀ q, under (P.tmpRoot ++ [P.tA]) q = false → fget fs' q = fget fs0 q) → ∀ er tr,
      closed (QW P fs) (P.tmpRoot ++ [P.tA])
        (.error er, { fs := fs', temps := [P.tmpRoot ++ [P.tA]], trace := tr }) := by
    intro fs' hfr er tr
    refine ⟨fun t ht => ?_, fun _ _ q hq => ?_, fun h => by cases h⟩
    · obtain rfl := List.mem_singleton.mp ht
      exact ⟨Or.inl rfl, hfA, hgoneA fs'⟩
    · have hqA := hq _ (List.mem_singleton.mpr rfl)
      apply same_of_mkdir hm
      rw [fget_rmTree htAne, hqA]
      exact hfr q hqA
  have hf1 : ∀ q, under (P.tmpRoot ++ [P.tA]) q = false →
      fget (fset fs0 (P.tmpRoot ++ [P.tA]) .dir) q = fget fs0 q :=
    fun q hq => fget_fset_outside _ htAne (under_refl _) hq
  unfold coreA
  refine step_pure_spec (failA _ hf1 · _) fun b hb => ?_
  refine step_keep_spec (fun _ _ => writeText_err) (failA _ hf1 · _) fun _ fs2 h2 => ?_
  obtain ⟨rfl, _, _⟩ := writeText_ok h2
  have hf2 : ∀ q, under (P.tmpRoot ++ [P.tA]) q = false →
      fget (fset (fset fs0 (P.tmpRoot ++ [P.tA]) .dir) (P.tmpRoot ++ [P.tA] ++ [P.rtfName]) (.file b)) q
        = fget fs0 q :=
    fun q hq => (fget_fset_below _ hq).trans (hf1 q hq)
  refine withTemp_spec (failA _ hf2 · _) fun hfreshB => ?_
  have hfB : fget fs (P.tmpRoot ++ [P.tB]) = none :=
    fresh_of_mkdir hm (fget_none_of_fset htAne (fget_none_of_fset hrtfne hfreshB))
  have hf3 : ∀ q, under (P.tmpRoot ++ [P.tA]) q = false → under (P.tmpRoot ++ [P.tB]) q = false →
      fget (fset (fset (fset fs0 (P.tmpRoot ++ [P.tA]) .dir) (P.tmpRoot ++ [P.tA] ++ [P.rtfName]) (.file b))
        (P.tmpRoot ++ [P.tB]) .dir) q = fget fs0 q :=
    fun q hq hq2 => (fget_fset_outside _ htBne (under_refl _) hq2).trans (hf2 q hq)
  have hne : P.tmpRoot ++ [P.tA] ++ [P.rtfName] ≠ P.tmpRoot ++ [P.tB] := fun e => by
    have := congrArg List.length e
    simp at this
  have hinp : fget (fset (fset (fset fs0 (P.tmpRoot ++ [P.tA]) .dir) (P.tmpRoot ++ [P.tA] ++ [P.rtfName])
      (.file b)) (P.tmpRoot ++ [P.tB]) .dir) (P.tmpRoot ++ [P.tA] ++ [P.rtfName]) = some (.file b) := by
    rw [fget_fset _ htBne, if_neg hne, fget_fset _ hrtfne, if_pos rfl]
  -- `fsIn`: what the converter is run on
  generalize fset (fset (fset fs0 (P.tmpRoot ++ [P.tA]) .dir) (P.tmpRoot ++ [P.tA] ++ [P.rtfName]) (.file b))
    (P.tmpRoot ++ [P.tB]) .dir = fsIn at hf3 hinp ⊢
  -- inside both scopes, whatever happened: both directories were absent and are gone
  have htemps : ∀ fs', ∀ t ∈ [P.tmpRoot ++ [P.tB], P.tmpRoot ++ [P.tA]],
      (t = P.tmpRoot ++ [P.tA] ∨ t = P.tmpRoot ++ [P.tB]) ∧ fget fs t = none
      ∧ ∀ q, under t q = true →
          fget (rmTree (rmTree fs' (P.tmpRoot ++ [P.tB])) (P.tmpRoot ++ [P.tA])) q = none := by
    intro fs' t ht
    rcases List.mem_cons.mp ht with rfl | ht
    · refine ⟨Or.inr rfl, hfB, fun q hq => ?_⟩
      rw [fget_rmTree htAne, fget_rmTree htBne, if_pos hq, ite_self]
    · obtain rfl := List.mem_singleton.mp ht
      exact ⟨Or.inl rfl, hfA, hgoneA _⟩
  -- a failure inside the inner scope: so far the converter wrote, and only below `tB`
  have failB : ∀ fs', (∀ q, under (P.tmpRoot ++ [P.tB]) q = false → fget fs' q = fget fsIn q) → ∀ er tr,
      closed (closed (QW P fs) (P.tmpRoot ++ [P.tA])) (P.tmpRoot ++ [P.tB])
        (.error er, { fs := fs', temps := [P.tmpRoot ++ [P.tB], P.tmpRoot ++ [P.tA]], trace := tr }) := by
    intro fs' hfr er tr
    refine ⟨htemps fs', fun _ _ q hall => ?_, fun h => by cases h⟩
    have hqB := hall _ List.mem_cons_self
    have hqA := hall _ (List.mem_cons_of_mem _ List.mem_cons_self)
    apply same_of_mkdir hm
    show fget (rmTree (rmTree fs' (P.tmpRoot ++ [P.tB])) (P.tmpRoot ++ [P.tA])) q = _
    rw [fget_rmTree htAne, hqA, fget_rmTree htBne, hqB]
    exact (hfr q hqB).trans (hf3 q hqA hqB)
  unfold coreB
  refine step_spec (failB _ (fun _ _ => rfl) _ _)
    (fun er fs' h => failB fs' (confined_run hc h).1 er _) fun ret fsc h => ?_
  obtain ⟨hfr, hret⟩ := confined_run hc h
  have hsnd : ∀ x fs', typecheck ret fsc = (x, fs') → fs' = fsc :=
    fun x fs' h2 => (congrArg Prod.snd h2).symm.trans (typecheck_snd ret fsc)
  refine step_keep_spec (fun _ _ => hsnd _ _) (failB fsc hfr · _) fun p fs' h2 => ?_
  obtain rfl := hsnd _ _ h2
  obtain rfl := typecheck_ok h2
  have ctx : CommitCtx P.dir P.tname (P.tmpRoot ++ [P.tB]) p fs' P.html :=
    { tBne := htBne, hp := (hret p rfl).1, hpne := (hret p rfl).2,
      hdir := by rw [hfr _ hBdir, hf3 _ hAdir hBdir]; exact mkdirParents_dir hm (under_refl _),
      hT := hN.tB, hR := fun hh => hN.resB hh _ }
  refine step_keep_spec (fun _ _ => commit_fail ctx) (failB fs' hfr · _) fun _ fs'' h3 => ?_
  exact ⟨htemps fs'', fun e he => (by cases he),
    fun _ => ⟨rfl, c, b, p, fs0, fsIn, fs', fs'', hconv, hb, hm, hinp, hf3, h, ctx, h3, rfl⟩⟩

/-- the hypothesis on converters, for a call whose converter is known -/
theorem confined_of_conv {P : Params} {c0 : Converter} (hconv : P.conv = .ok c0) (hc0 : Confined c0) :
    ∀ c, P.conv = .ok c → Confined c :=
  fun _ hc => Except.ok.inj (hconv.symm.trans hc) ▸ hc0

theorem writeConv_spec (k : Nat) (P : Params) (fs : Fs)
    (hconf : ∀ c, P.conv = .ok c → Confined c) (hN : NoClash P) :
    QW P fs (writeConv k P fs) := by
  unfold writeConv
  refine step_keep_spec (fun _ _ => mkdirParents_err)
    (fun _ => ⟨fun t ht => (by cases ht), fun _ _ q _ => Or.inl rfl, fun h => by cases h⟩) fun _ fs1 hm => ?_
  have errQ : ∀ (er : Err) tr, QW P fs (.error er, { fs := fs1, temps := [], trace := tr }) :=
    fun er tr => ⟨fun t ht => (by cases ht), fun _ _ q _ => same_of_mkdir hm rfl, fun h => by cases h⟩
  have run : ∀ c tr, P.conv = .ok c → QW P fs (afterResolve k P c { fs := fs1, temps := [], trace := tr }) :=
    fun c tr hcv => afterResolve_spec k P c fs fs1 tr hcv hm (hconf c hcv) hN
  split
  · split
    · rename_i c hcv
      exact run c _ hcv
    · exact errQ _ _
  · exact step_pure_spec (errQ · _) fun c hcv => run c _ hcv

/-! ## well-formedness: nothing exists below an absent path -/

theorem WF.parent_dir {fs : Fs} (h : WF fs) {q : Path} {n : Node} (hq : q ≠ []) (hn : fget fs q = some n) :
    fget fs q.dropLast = some .dir := by
  rw [fget, if_neg hq] at hn
  obtain ⟨l₁, l₂, rfl, _⟩ := List.lookup_eq_some_iff.mp hn
  exact (h.2 (q, n) (by simp)).2

/-- in a well-formed file system nothing exists below a path that does not exist -/
theorem WF.below_absent {fs : Fs} (h : WF fs) {t : Path} (ht : fget fs t = none) :
    ∀ r, fget fs (t ++ r) = none := by
  intro r
  induction r generalizing t with
  | nil => rwa [List.append_nil]
  | cons a r ih =>
    -- the entry `t ++ [a]` would need the directory `t`
    rw [List.append_cons]
    apply ih
    cases hq : fget fs (t ++ [a]) with
    | none => rfl
    | some n =>
      have hp := WF.parent_dir h (by simp) hq
      rw [List.dropLast_concat, ht] at hp
      cases hp

theorem WF.under_absent {fs : Fs} (h : WF fs) {t q : Path} (ht : fget fs t = none) (hq : under t q = true) :
    fget fs q = none := by
  rw [under_split hq]
  exact WF.below_absent h ht _

/-! ## well-formedness is preserved by the elementary updates -/

theorem keys_filter (fs : Fs) (P : Path → Bool) :
    keys (fs.filter (fun e => P e.1)) = (keys fs).filter P := by
  induction fs with
  | nil => rfl
  | cons e fs ih =>
    simp only [List.filter_cons, keys, List.map_cons]
    by_cases h : P e.1 = true
    · simp only [h, ↓reduceIte, List.map_cons]
      congr 1
    · simp only [h, Bool.false_eq_true, ↓reduceIte]
      exact ih

/-- removing a subtree keeps a file system well-formed -/
theorem WF.rmTree {fs : Fs} (h : WF fs) {p : Path} (hp : p ≠ []) : WF (rmTree fs p) := by
  constructor
  · rw [Model.Export.rmTree, keys_filter fs (fun k => !under p k)]
    exact h.1.filter _
  · intro e he
    obtain ⟨hmem, hu⟩ := List.mem_filter.mp he
    obtain ⟨hne, hpar⟩ := h.2 e hmem
    have : under p e.1.dropLast = false :=
      not_under_of_prefix (under_iff.mpr (List.dropLast_prefix _)) (by simpa using hu)
    exact ⟨hne, by rw [fget_rmTree hp, this]; exact hpar⟩

/-- binding a path whose parent is a directory keeps a file system well-formed, provided a directory
is not overwritten by a file (its children would be orphaned) -/
theorem WF.fset {fs : Fs} (h : WF fs) {p : Path} {n : Node} (hp : p ≠ [])
    (hpar : fget fs p.dropLast = some .dir) (hkeep : fget fs p = some .dir → n = .dir) : WF (fset fs p n) := by
  have hdl : p.dropLast ≠ p := fun e => by
    have := congrArg List.length e
    have := List.length_pos_iff.mpr hp
    simp at *
    omega
  constructor
  · have hk : keys (Model.Export.fset fs p n) = p :: (keys fs).filter (fun k => !(k == p)) :=
      congrArg (p :: ·) (keys_filter fs (fun k => !(k == p)))
    rw [hk, List.nodup_cons]
    exact ⟨by simp, h.1.filter _⟩
  · intro e he
    rcases List.mem_cons.mp he with rfl | he
    · exact ⟨hp, by rw [fget_fset _ hp, if_neg hdl]; exact hpar⟩
    · obtain ⟨hne, hpe⟩ := h.2 e (List.mem_filter.mp he).1
      refine ⟨hne, ?_⟩
      rw [fget_fset _ hp]
      split
      · rename_i heq
        rw [heq] at hpe
        rw [hkeep hpe]
      · exact hpe

/-! ## `write_rtf` -/

/-- postcondition of `write_rtf`, all outcomes -/
def QR (dir : Path) (tname : Name) (enc : Except Err Bytes) (fs : Fs) (r : Res) : Prop :=
  r.2.temps = []
  ∧ (∀ q, q ≠ dir ++ [tname] → Same fs dir r.2.fs q)
  ∧ (∀ e, r.1 = .error e → fget r.2.fs (dir ++ [tname]) = fget fs (dir ++ [tname]))
  ∧ (r.1 = .ok () → ∃ b, enc = .ok b ∧ fget r.2.fs (dir ++ [tname]) = some (.file b)
        ∧ ∀ q, under q dir = true → fget r.2.fs q = some .dir)

theorem rtf_spec (k : Nat) (dir : Path) (tname : Name) (enc : Except Err Bytes) (fs : Fs) :
    QR dir tname enc fs (writeRtf k dir tname enc fs) := by
  have hTne : dir ++ [tname] ≠ [] := by simp
  unfold writeRtf
  refine step_keep_spec (fun _ _ => mkdirParents_err)
    (fun _ => ⟨rfl, fun _ _ => Or.inl rfl, fun _ _ => rfl, fun h => by cases h⟩) fun _ fs1 hm => ?_
  have hT1 : fget fs1 (dir ++ [tname]) = fget fs (dir ++ [tname]) := by
    rw [fget_mkdirParents hm, under_longer (by simp)]
    simp
  have errQ : ∀ (er : Err) tr, QR dir tname enc fs (.error er, { fs := fs1, temps := [], trace := tr }) :=
    fun er tr => ⟨rfl, fun _ _ => same_of_mkdir hm rfl, fun _ _ => hT1, fun h => by cases h⟩
  refine step_pure_spec (errQ · _) fun _ _ => ?_
  refine step_pure_spec (errQ · _) fun b hb => ?_
  refine step_keep_spec (fun _ _ => writeText_err) (errQ · _) fun _ fs2 h => ?_
  obtain ⟨rfl, _, _⟩ := writeText_ok h
  refine ⟨rfl, fun q hq => ?_, fun e he => (by cases he), fun _ => ⟨b, hb, ?_, fun q hq => ?_⟩⟩
  · exact same_of_mkdir hm (by rw [fget_fset _ hTne, if_neg hq])
  · rw [fget_fset _ hTne]
    simp
  · have hne : q ≠ dir ++ [tname] := by
      intro e
      rw [e, under_longer (by simp)] at hq
      cases hq
    simp only
    rw [fget_fset _ hTne, if_neg hne]
    exact mkdirParents_dir hm hq

/-! ## converters that run a process -/

/-- `convert` on an existing input: the run's writes are replayed below the output directory, and the verdict on
the run decides the answer -/
theorem procConverter_run (pr : Proc) (fmt : List Char) (fs : Fs) (inp out : Path) (hin : fget fs inp ≠ none) :
    procConverter pr fmt fs inp out =
      (match procVerdict (pr fs inp out) (writeRel out (pr fs inp out).files fs) (out ++ [convName fmt inp]) with
        | .failed => .error .converter
        | .produced p => .ok (.path p),
       writeRel out (pr fs inp out).files fs) := by
  unfold procConverter
  split
  · contradiction
  · simp only
    generalize procVerdict _ _ _ = v
    cases v <;> rfl

/-- `convert` on a missing input raises "Input file not found" and writes nothing -/
theorem procConverter_missing (pr : Proc) (fmt : List Char) (fs : Fs) (inp out : Path) (hin : fget fs inp = none) :
    procConverter pr fmt fs inp out = (.error .os, fs) := by
  simp only [procConverter, hin]

/-! ## names as data (`stem`, `stubN`) -/

theorem splitLastDot_none {s : Name} (h : '.' ∉ s) : splitLastDot s = none := by
  induction s with
  | nil => rfl
  | cons c r ih =>
    have hc : c ≠ '.' := fun e => h (by simp [e])
    have hr : '.' ∉ r := fun m => h (by simp [m])
    simp [splitLastDot, ih hr, hc]

theorem splitLastDot_append (x s : Name) (h : '.' ∉ s) : splitLastDot (x ++ '.' :: s) = some (x, s) := by
  induction x with
  | nil => simp [splitLastDot, splitLastDot_none h]
  | cons c r ih => simp [splitLastDot, ih]

/-- what a succeeding stub leaves behind, given an input file holding `b` -/
theorem stubN_ok_run {beh : Beh} {fs fsc : Fs} {inp out p : Path} {fmt : List Char} {b : Bytes}
    (hbeh : beh = .okPlain ∨ beh = .okRes) (hin : fget fs inp = some (.file b))
    (hrun : stubN beh fmt fs inp out = (.ok (.path p), fsc)) :
    p = out ++ [convName fmt inp]
    ∧ fget fsc p = some (.file (stubBytes fmt b))
    ∧ (beh = .okRes →
      fget fsc (resourcesOf p) = some .dir
      ∧ fget fsc (resourcesOf p ++ [['r', '.', 't', 'x', 't']]) = some (.file ['r', 'e', 's', 'o', 'u', 'r', 'c', 'e'])
      ∧ fget fsc (resourcesOf p ++ [['s', 'u', 'b']]) = some .dir
      ∧ fget fsc (resourcesOf p ++ [['s', 'u', 'b'], ['s', '.', 't', 'x', 't']]) = some (.file ['n', 'e', 's', 't', 'e', 'd'])) := by
  unfold stubN stub at hrun
  simp only [hin] at hrun
  rcases hbeh with rfl | rfl
  all_goals
    obtain ⟨hp, hfs⟩ := Prod.mk.inj hrun
    have hp' : p = out ++ [convName fmt inp] := by
      injection hp with hp
      injection hp with hp
      exact hp.symm
    subst hp'
    rw [resourcesOf_snoc, ← hfs]
    simp [fget_fset, filesSuffix]

end Proofs.Export
