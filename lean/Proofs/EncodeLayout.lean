import Model.Layout
import Proofs.LayoutHeadings
/-!
Provenance of the texts of the role-level layout (`Model.Layout.layout`):
* every spanning-row (`heading`) text is a `page_by` value of some row of the document;
* every subline-heading text is `", ".intercalate parts` with `parts` taken from the `subline_by`
  values of one row; its characters are `','`, `' '` or characters of those values.
`Proofs.Encode.blockTxt_layout` gets the admissibility of these texts from the document's domain through them.
-/
namespace Proofs.EncodeLayout
open Model.Paginate Model.Layout Proofs.LayoutRoles Proofs.LayoutHeadings

theorem layout_heading_text (d : LDoc) (bs : List Block) (hbs : bs ∈ layout d) (lvl : Nat) (s : String)
    (h : Block.heading lvl s ∈ bs) : ∃ r ∈ d.rows, some s ∈ r.pkey := by
  obtain ⟨pg, _, rfl⟩ := List.mem_map.mp hbs
  obtain ⟨_, r, hr, hm⟩ := renderPage_heading_mem d pg lvl s h
  exact ⟨r, hr, (groupValues_mem_real hm).1⟩

/-! ### subline heading -/

theorem sublineParts_mem {k : List (Option String)} {s : String} (h : s ∈ sublineParts k) :
    some s ∈ k := by
  obtain ⟨gv, hgv, he⟩ := List.mem_filterMap.mp h
  rcases gv with _ | _ | t <;> cases he
  exact (groupValues_mem_real hgv).1

theorem layout_subline_text (d : LDoc) (bs : List Block) (hbs : bs ∈ layout d) (t : String)
    (h : Block.sublineHeading t ∈ bs) :
    ∃ r ∈ d.rows, ∃ parts : List String, t = ", ".intercalate parts ∧ ∀ s ∈ parts, some s ∈ r.skey := by
  obtain ⟨pg, _, rfl⟩ := List.mem_map.mp hbs
  obtain ⟨r, hr, ht⟩ := segSubHeading_mem d pg _ ((mem_renderPage d pg).mp h)
  exact ⟨r, List.mem_of_getElem? hr, sublineParts r.skey, Block.sublineHeading.inj ht,
    fun s hs => sublineParts_mem hs⟩

/-! ### characters of an intercalated string -/

theorem mem_intersperse {α : Type} (sep : α) : ∀ (l : List α) (x : α),
    x ∈ l.intersperse sep → x = sep ∨ x ∈ l
  | [], x => by simp
  | [a], x => by intro h; exact Or.inr h
  | a :: b :: l, x => by
    intro h
    simp only [List.intersperse_cons_cons, List.mem_cons] at h
    rcases h with h | h | h
    · exact Or.inr (by simp [h])
    · exact Or.inl h
    · rcases mem_intersperse sep (b :: l) x h with h | h
      · exact Or.inl h
      · exact Or.inr (List.mem_cons_of_mem _ h)

theorem intercalate_chars (parts : List String) (c : Char) (h : c ∈ (", ".intercalate parts).toList) :
    c = ',' ∨ c = ' ' ∨ ∃ s ∈ parts, c ∈ s.toList := by
  rw [String.toList_intercalate, List.intercalate, List.mem_flatten] at h
  obtain ⟨l, hl, hc⟩ := h
  rcases mem_intersperse _ _ _ hl with rfl | hl
  · have hsep : ", ".toList = [',', ' '] := by decide
    rw [hsep] at hc
    simp only [List.mem_cons, List.not_mem_nil, or_false] at hc
    rcases hc with rfl | rfl
    · exact Or.inl rfl
    · exact Or.inr (Or.inl rfl)
  · obtain ⟨s, hs, rfl⟩ := List.mem_map.mp hl
    exact Or.inr (Or.inr ⟨s, hs, hc⟩)

theorem layout_subline_chars (d : LDoc) (bs : List Block) (hbs : bs ∈ layout d) (t : String)
    (h : Block.sublineHeading t ∈ bs) (c : Char) (hc : c ∈ t.toList) :
    c = ',' ∨ c = ' ' ∨ ∃ r ∈ d.rows, ∃ s, some s ∈ r.skey ∧ c ∈ s.toList := by
  obtain ⟨r, hr, parts, rfl, hp⟩ := layout_subline_text d bs hbs t h
  rcases intercalate_chars parts c hc with h | h | ⟨s, hs, hcs⟩
  · exact Or.inl h
  · exact Or.inr (Or.inl h)
  · exact Or.inr (Or.inr ⟨r, hr, s, hp s hs, hcs⟩)

end Proofs.EncodeLayout
