import Model.Color
import Proofs.Color
/-!
Facts about the generated colour table (`Generated.colorTable`, rewritten from
`/repo/src/rtflite/dictionary/color_table.py` on every run), decided by the kernel.
Editing a row of the table in `/repo` re-opens these obligations.
-/
namespace Proofs.ColorTable
open Generated Model.Color Proofs.Color

/-- the master indices are `1, 2, …, n` in table order -/
theorem idx_range : colorTable.map (·.idx) = List.range' 1 colorTable.length := by decide +kernel

theorem idx_nodup : (colorTable.map (·.idx)).Nodup := by
  rw [idx_range]; exact List.nodup_range'

/-- master indices identify rows: no two rows (hence no two names) share an index -/
theorem idxInj : IdxInj colorTable := idxInj_of_nodup idx_nodup

theorem idx_sorted : colorTable.Pairwise (fun a b => a.idx ≤ b.idx) := by
  have h : (colorTable.map (·.idx)).Pairwise (· ≤ ·) := by
    rw [idx_range]
    exact (List.pairwise_lt_range' (s := 1) (n := colorTable.length)).imp Nat.le_of_lt
  exact (List.pairwise_map.mp h)

theorem idx_pos : ∀ row ∈ colorTable, 1 ≤ row.idx ∧ row.idx ≤ colorTable.length := by
  intro row hrow
  have : row.idx ∈ colorTable.map (·.idx) := List.mem_map.mpr ⟨row, hrow, rfl⟩
  rw [idx_range, List.mem_range'_1] at this
  omega

/-- "black" is a row of the table and its RGB is (0,0,0): mapping it to index 0 (auto) asks for the default colour -/
theorem black_rgb : requestedRgb colorTable "black" = some (0, 0, 0) := by decide +kernel

end Proofs.ColorTable
