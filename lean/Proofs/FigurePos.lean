import Model.Figure
import Model.FigureSpec
import Model.FigureMemo
import Proofs.Figure
/-! Helper lemmas for `Props/C16pos.lean`: the picture of a position, pointwise; the memoising page loop. Core Lean only. -/
namespace Proofs.FigurePos
open Model.Figure Proofs.Figure

/-! ## `readFormats`, `encodePicts` position by position -/

theorem readFormats_getElem? : ∀ (figs : List FigSrc) (fs : List (Fmt × List Nat)), readFormats figs = some fs →
    ∀ (j : Nat) (s : FigSrc), figs[j]? = some s → ∃ f, fmtOfSuffix s.suffix = some f ∧ fs[j]? = some (f, s.bytes)
  | [], _, _, j, s, hs => by simp at hs
  | x :: rest, fs, h, j, s, hs => by
    obtain ⟨f, r, hf, hr, rfl⟩ := readFormats_cons h
    cases j with
    | zero =>
      cases hs
      exact ⟨f, hf, rfl⟩
    | succ j => exact readFormats_getElem? rest r hr j s hs

theorem encodePicts_getElem? (ws hs : List Size) : ∀ (i : Nat) (fs : List (Fmt × List Nat)) (ps : List Pict),
    encodePicts ws hs i fs = some ps →
    ∀ j f bs, fs[j]? = some (f, bs) →
      ∃ w h, getDim ws (i + j) = some w ∧ getDim hs (i + j) = some h ∧ ps[j]? = some (encodeFigure f bs w h)
  | _, [], _, _, j, f, bs, hj => by simp at hj
  | i, (f0, bs0) :: rest, ps, h, j, f, bs, hj => by
    obtain ⟨w0, h0, ps', hw0, hh0, hps, rfl⟩ := encodePicts_cons h
    cases j with
    | zero =>
      cases hj
      exact ⟨w0, h0, hw0, hh0, rfl⟩
    | succ j =>
      obtain ⟨w, h', e1, e2, e3⟩ := encodePicts_getElem? ws hs (i + 1) rest ps' hps j f bs hj
      rw [Nat.add_right_comm] at e1 e2
      exact ⟨w, h', e1, e2, e3⟩

/-- the pictures a reader finds on page `j` of the model's output: the picture of `ps[j]`, nothing else -/
theorem observe_picts (cfg : Cfg) (ps : List Pict) (hne : ps ≠ []) (j : Nat) :
    ((observe (figureLoop cfg ps))[j]?).map (·.picts) = ps[j]?.map (fun p => [obsOfPict p]) := by
  have hl : figureLoop cfg ps = loopFrom cfg ps.length 0 ps := rfl
  simp only [observe, hl, splitPages_loopFrom cfg ps.length ps 0 hne (by simp), List.getElem?_map, bodiesFrom_getElem?,
    Option.map_map]
  cases ps[j]? with
  | none => rfl
  | some p => simp [picts_pageBody]

/-! ## the memoising loop -/

theorem memoFind_mem {κ : Type} [DecidableEq κ] (k : κ) : ∀ (memo : List (κ × Pict)) (p : Pict),
    memoFind k memo = some p → (k, p) ∈ memo
  | [], _, h => by simp [memoFind] at h
  | (k', q) :: rest, p, h => by
    simp only [memoFind] at h
    split at h
    · rename_i hk
      injection h with h
      subst h
      subst hk
      simp
    · exact List.mem_cons_of_mem _ (memoFind_mem k rest p h)

/-- the key determines what a position is encoded from: positions (counted from `i`) with equal keys have equal
format, bytes, width and height -/
def Determined {κ : Type} (ws hs : List Size) (i : Nat) (items : List (Keyed κ)) : Prop :=
  ∀ a b xa xb, items[a]? = some xa → items[b]? = some xb → xa.key = xb.key →
    xa.fmt = xb.fmt ∧ xa.bytes = xb.bytes ∧ getDim ws (i + a) = getDim ws (i + b) ∧ getDim hs (i + a) = getDim hs (i + b)

/-- every remembered picture is the picture any later position with its key would get -/
def MemoOk {κ : Type} (ws hs : List Size) (i : Nat) (memo : List (κ × Pict)) (items : List (Keyed κ)) : Prop :=
  ∀ k p, (k, p) ∈ memo → ∀ j x, items[j]? = some x → x.key = k →
    ∃ w h, getDim ws (i + j) = some w ∧ getDim hs (i + j) = some h ∧ p = encodeFigure x.fmt x.bytes w h

theorem Determined.tail {κ : Type} {ws hs : List Size} {i : Nat} {x : Keyed κ} {rest : List (Keyed κ)}
    (h : Determined ws hs i (x :: rest)) : Determined ws hs (i + 1) rest := by
  intro a b xa xb ha hb hk
  rw [Nat.add_right_comm i 1 a, Nat.add_right_comm i 1 b]
  exact h (a + 1) (b + 1) xa xb (by simpa using ha) (by simpa using hb) hk

theorem MemoOk.tail {κ : Type} {ws hs : List Size} {i : Nat} {memo : List (κ × Pict)} {x : Keyed κ}
    {rest : List (Keyed κ)} (h : MemoOk ws hs i memo (x :: rest)) : MemoOk ws hs (i + 1) memo rest := by
  intro k p hm j y hy hk
  rw [Nat.add_right_comm]
  exact h k p hm (j + 1) y (by simpa using hy) hk

theorem encodePictsMemo_eq {κ : Type} [DecidableEq κ] (ws hs : List Size) :
    ∀ (items : List (Keyed κ)) (i : Nat) (memo : List (κ × Pict)),
      Determined ws hs i items → MemoOk ws hs i memo items →
      encodePictsMemo ws hs i memo items = encodePicts ws hs i (items.map Keyed.plain)
  | [], _, _, _, _ => by simp [encodePictsMemo, encodePicts]
  | x :: rest, i, memo, hd, hm => by
    simp only [encodePictsMemo, List.map_cons, Keyed.plain, encodePicts]
    cases hf : memoFind x.key memo with
    | some p =>
      obtain ⟨w, h, hw, hh, hp⟩ := hm x.key p (memoFind_mem _ _ _ hf) 0 x (by simp) rfl
      simp only [Nat.add_zero] at hw hh
      have ih := encodePictsMemo_eq ws hs rest (i + 1) memo hd.tail hm.tail
      simp only [hw, hh, ih, hp]
      cases encodePicts ws hs (i + 1) (List.map Keyed.plain rest) <;> rfl
    | none =>
      cases hw : getDim ws i with
      | none => simp
      | some w =>
        cases hh : getDim hs i with
        | none => simp
        | some h =>
          have hm' : MemoOk ws hs (i + 1) ((x.key, encodeFigure x.fmt x.bytes w h) :: memo) rest := by
            intro k p hmem j y hy hk
            rcases List.mem_cons.mp hmem with heq | hmem
            · injection heq with hk' hp'
              subst hk' hp'
              obtain ⟨e1, e2, e3, e4⟩ := hd 0 (j + 1) x y (by simp) (by simpa using hy) hk.symm
              simp only [Nat.add_zero] at e3 e4
              rw [Nat.add_right_comm]
              exact ⟨w, h, e3 ▸ hw, e4 ▸ hh, by rw [e1, e2]⟩
            · exact hm.tail k p hmem j y hy hk
          have ih := encodePictsMemo_eq ws hs rest (i + 1) _ hd.tail hm'
          simp only [ih]
          cases encodePicts ws hs (i + 1) (List.map Keyed.plain rest) <;> rfl

end Proofs.FigurePos
