import Model.Encode
import Model.GroupBy
import Model.GroupBySpec
import Proofs.GroupBy
import Proofs.EncodeLift
import Proofs.EncodeAttrs
/-!
Helper lemmas for `Props/C13enc.lean`: how the whole-encoder model hands the displayed frame to the grouping service
(`toFrame`), reads the result back (`ofFrame`), and which rows its pages start with.

* `cellRC`                      cell `(i, j)` of a list of rows (`none` = null or outside)
* `names_toFrame`, `wf_toFrame`, `height_toFrame`, `getCol_toFrame`   the frame `toFrame cols rows`
* `cellRC_ofFrame_named`        reading `ofFrame f n` back by column NAME (unique names)
* `finalRows_groupby`           `finalRows` with a non-empty group_by = `restored` of `toFrame`, read back by `ofFrame`
* `pages_start_eq`              the start row of the `n`-th page is the sum of the heights of the pages before it
* `isPageStart_pages_iff`       `isPageStart (pageStarts heights)` = "some page of the encoder starts with this row"
* `map_range'_cellAt`           a page's slice of a column as a map over the page's row indices
* `dropCols_by_name`            column removal keeps every remaining column's values (unique column names)
-/
namespace Proofs.EncodeGroup
open Model.Encode Model.Broadcast Model.Layout Model.GroupBy Proofs.GroupBy Proofs.Encode Proofs.EncodeLift

/-- cell `(i, j)` of a list of rows; `none` for a null and outside the frame -/
def cellRC (rows : List (List (Option Model.Encode.Str))) (i j : Nat) : Option Model.Encode.Str :=
  ((rows[i]?).bind (·[j]?)).join

/-! ## `toFrame` -/

theorem toFrame_getElem? (cols : List Model.Encode.Str) (rows : List (List (Option Model.Encode.Str))) (j : Nat) :
    (toFrame cols rows)[j]? = cols[j]?.map fun n => (n, rows.map fun r => (r[j]?).join) := by
  unfold toFrame
  rw [List.getElem?_map, List.getElem?_zipIdx]
  cases cols[j]? <;> simp

theorem names_toFrame (cols : List Model.Encode.Str) (rows : List (List (Option Model.Encode.Str))) :
    names (toFrame cols rows) = cols := by
  apply List.ext_getElem?
  intro j
  unfold names
  rw [List.getElem?_map, toFrame_getElem?]
  cases cols[j]? <;> rfl

theorem length_toFrame (cols : List Model.Encode.Str) (rows : List (List (Option Model.Encode.Str))) :
    (toFrame cols rows).length = cols.length := by
  unfold toFrame; simp

theorem toFrame_col_length {cols : List Model.Encode.Str} {rows : List (List (Option Model.Encode.Str))}
    {p : Model.GroupBy.Str × Col} (h : p ∈ toFrame cols rows) : p.2.length = rows.length := by
  obtain ⟨j, hj⟩ := List.getElem?_of_mem h
  rw [toFrame_getElem?] at hj
  cases hc : cols[j]? with
  | none => rw [hc] at hj; cases hj
  | some n =>
    rw [hc] at hj
    simp only [Option.map_some, Option.some.injEq] at hj
    rw [← hj]; simp

theorem height_toFrame {cols : List Model.Encode.Str} (rows : List (List (Option Model.Encode.Str))) (h : cols ≠ []) :
    height (toFrame cols rows) = rows.length := by
  cases hf : toFrame cols rows with
  | nil =>
    have := length_toFrame cols rows
    rw [hf] at this
    exact absurd (List.eq_nil_of_length_eq_zero this.symm) h
  | cons p f =>
    obtain ⟨n, c⟩ := p
    show c.length = rows.length
    exact toFrame_col_length (p := (n, c)) (by rw [hf]; exact List.mem_cons_self)

theorem height_toFrame_ne_zero {cols : List Model.Encode.Str} {rows : List (List (Option Model.Encode.Str))}
    (hc : cols ≠ []) (hr : rows ≠ []) : height (toFrame cols rows) ≠ 0 := by
  rw [height_toFrame rows hc]
  exact fun h0 => hr (List.eq_nil_of_length_eq_zero h0)

theorem height_toFrame_le (cols : List Model.Encode.Str) (rows : List (List (Option Model.Encode.Str))) :
    height (toFrame cols rows) ≤ rows.length := by
  by_cases h : cols = []
  · subst h; simp [toFrame, height]
  · rw [height_toFrame rows h]; exact Nat.le_refl _

theorem wf_toFrame (cols : List Model.Encode.Str) (rows : List (List (Option Model.Encode.Str))) :
    WF (toFrame cols rows) := by
  intro p hp
  have hne : cols ≠ [] := by
    intro h0
    subst h0
    simp [toFrame] at hp
  rw [height_toFrame rows hne]
  exact toFrame_col_length hp

/-! ## frames with unique column names -/

/-- in a frame with unique column names, the `j`-th column is the column of its name -/
theorem getCol_of_getElem? : ∀ (f : Frame) (j : Nat) (n : Model.GroupBy.Str) (c : Col), (names f).Nodup →
    f[j]? = some (n, c) → getCol f n = c
  | [], j, n, c, _, h => by simp at h
  | (n0, c0) :: f, j, n, c, hnd, h => by
    rw [getCol_cons]
    have hnd' : n0 ∉ names f ∧ (names f).Nodup := by
      simpa [names] using hnd
    cases j with
    | zero =>
      simp only [List.getElem?_cons_zero, Option.some.injEq, Prod.mk.injEq] at h
      rw [if_pos h.1.symm]; exact h.2
    | succ j =>
      simp only [List.getElem?_cons_succ] at h
      have hmem : n ∈ names f := by
        unfold names
        exact List.mem_map.mpr ⟨(n, c), List.mem_of_getElem? h, rfl⟩
      have hne : n ≠ n0 := fun e => hnd'.1 (e ▸ hmem)
      rw [if_neg hne]
      exact getCol_of_getElem? f j n c hnd'.2 h

theorem getElem?_of_names {f : Frame} {j : Nat} {n : Model.GroupBy.Str} (hnd : (names f).Nodup)
    (h : (names f)[j]? = some n) : f[j]? = some (n, getCol f n) := by
  unfold names at h
  rw [List.getElem?_map] at h
  cases hf : f[j]? with
  | none => rw [hf] at h; cases h
  | some p =>
    obtain ⟨n', c⟩ := p
    rw [hf] at h
    simp only [Option.map_some, Option.some.injEq] at h
    subst h
    rw [getCol_of_getElem? f j n' c hnd hf]

/-- the column of name `cols[j]` of `toFrame cols rows` holds the `j`-th value of every row -/
theorem getCol_toFrame {cols : List Model.Encode.Str} (rows : List (List (Option Model.Encode.Str)))
    (hnd : cols.Nodup) {j : Nat} {c : Model.Encode.Str} (hj : cols[j]? = some c) :
    getCol (toFrame cols rows) c = rows.map fun r => (r[j]?).join := by
  apply getCol_of_getElem? _ j
  · rw [names_toFrame]; exact hnd
  · rw [toFrame_getElem?, hj]; rfl

theorem cellAt_map_row (rows : List (List (Option Model.Encode.Str))) (i j : Nat) :
    cellAt (rows.map fun r => (r[j]?).join) i = cellRC rows i j := by
  unfold cellAt cellRC
  rw [List.getElem?_map]
  cases rows[i]? <;> rfl

/-- the cell of column `cols[j]` of `toFrame cols rows` at row `i` is cell `(i, j)` of `rows` -/
theorem cellAt_toFrame {cols : List Model.Encode.Str} (rows : List (List (Option Model.Encode.Str)))
    (hnd : cols.Nodup) {j : Nat} {c : Model.Encode.Str} (hj : cols[j]? = some c) (i : Nat) :
    cellAt (getCol (toFrame cols rows) c) i = cellRC rows i j := by
  rw [getCol_toFrame rows hnd hj, cellAt_map_row]

/-! ## `ofFrame` -/

theorem cellRC_ofFrame (f : Frame) (n i j : Nat) :
    cellRC (ofFrame f n) i j = if i < n then (f[j]?).bind (fun p => cellAt p.2 i) else none := by
  unfold cellRC ofFrame
  rw [List.getElem?_map]
  by_cases hi : i < n
  · rw [List.getElem?_range hi, if_pos hi]
    simp only [Option.map_some, Option.bind_some, List.getElem?_map]
    cases f[j]? <;> rfl
  · rw [if_neg hi, List.getElem?_eq_none (by simpa using Nat.le_of_not_lt hi)]
    rfl

/-- reading a frame with unique names back: cell `(i, j)` is row `i` of the column named `names[j]` -/
theorem cellRC_ofFrame_named {f : Frame} (hnd : (names f).Nodup) {j : Nat} {c : Model.GroupBy.Str}
    (hj : (names f)[j]? = some c) {n i : Nat} (hi : i < n) :
    cellRC (ofFrame f n) i j = cellAt (getCol f c) i := by
  rw [cellRC_ofFrame, if_pos hi, getElem?_of_names hnd hj]
  rfl

theorem ofFrame_length (f : Frame) (n : Nat) : (ofFrame f n).length = n := by
  unfold ofFrame; simp

/-! ## `finalRows` with group_by -/

theorem groupByL_of_some {d : Doc} {gb : List Model.Encode.Str} (h : d.body.groupBy = some gb) :
    d.body.groupByL = gb := by
  unfold Body.groupByL; rw [h]; rfl

/-- with a non-empty group_by, `finalRows` is the grouping service on `toFrame`, its restored frame read back row-wise
by `ofFrame`; whatever the service raises is reported as `ValueError` -/
theorem finalRows_of_groupby {d : Doc} {p : Prep} {heights : List Nat} (hne : d.body.groupByL ≠ []) :
    finalRows d p heights =
      match enhanceGroupBy (toFrame p.dispCols p.dispRows) d.body.groupByL with
      | .ok s => .ok (ofFrame (restorePageContext s (toFrame p.dispCols p.dispRows) d.body.groupByL
          (pageStarts heights)) p.dispRows.length)
      | .error _ => .error "ValueError" := by
  unfold finalRows restored
  dsimp only
  rw [List.isEmpty_eq_false_iff.mpr hne, if_neg Bool.false_ne_true]
  cases enhanceGroupBy (toFrame p.dispCols p.dispRows) d.body.groupByL <;> rfl

theorem finalRows_groupby {d : Doc} {p : Prep} {heights : List Nat} {rows : List (List (Option Model.Encode.Str))}
    (hne : d.body.groupByL ≠ []) (h : finalRows d p heights = .ok rows) :
    ∃ s, enhanceGroupBy (toFrame p.dispCols p.dispRows) d.body.groupByL = .ok s ∧
      rows = ofFrame (restorePageContext s (toFrame p.dispCols p.dispRows) d.body.groupByL (pageStarts heights))
        p.dispRows.length := by
  rw [finalRows_of_groupby hne] at h
  split at h
  · next s hs => exact ⟨s, hs, (Except.ok.inj h).symm⟩
  · cases h

/-- `finalRows` fails with `ValueError` exactly when the grouping service fails, and never with anything else -/
theorem finalRows_error_iff {d : Doc} {p : Prep} {heights : List Nat} (hne : d.body.groupByL ≠ []) (e : String) :
    finalRows d p heights = .error e ↔
      (e = "ValueError" ∧ ∃ e', enhanceGroupBy (toFrame p.dispCols p.dispRows) d.body.groupByL = .error e') := by
  rw [finalRows_of_groupby hne]
  cases enhanceGroupBy (toFrame p.dispCols p.dispRows) d.body.groupByL with
  | error e' => exact ⟨fun h => ⟨(Except.error.inj h).symm, e', rfl⟩, fun h => by rw [h.1]⟩
  | ok s => exact ⟨nofun, nofun⟩

theorem finalRows_no_groupby {d : Doc} {p : Prep} {heights : List Nat} (h0 : d.body.groupByL = []) :
    finalRows d p heights = .ok p.dispRows := by
  unfold finalRows
  simp [h0]

/-! ## the pages of the encoder -/

theorem mkPagesAux_dataStart (ps : List Nat) (total : Nat) : ∀ (us : List Nat) (cum n : Nat) (pg : PageCtx),
    (mkPagesAux ps total us cum)[n]? = some pg →
      pg.dataStart = cum + (((mkPagesAux ps total us cum).map (·.height)).take n).sum
  | [], _, n, pg, h => by simp [mkPagesAux] at h
  | u :: us, cum, n, pg, h => by
    simp only [mkPagesAux] at h ⊢
    cases n with
    | zero =>
      simp only [List.getElem?_cons_zero, Option.some.injEq] at h
      subst h
      simp
    | succ n =>
      simp only [List.getElem?_cons_succ] at h
      have := mkPagesAux_dataStart ps total us _ n pg h
      rw [this]
      simp only [List.map_cons, List.take_succ_cons, List.sum_cons]
      omega

/-- every page of the encoder starts where the pages before it end: its first row is the sum of their heights -/
theorem pages_start_eq (ld : LDoc) (n : Nat) (pg : PageCtx) (h : ld.pages[n]? = some pg) :
    pg.start = ((ld.pages.map (·.height)).take n).sum ∧ pg.dataStart = pg.start := by
  by_cases hne : ld.rows = []
  · rw [Proofs.Layout.pages_of_no_rows ld hne] at h ⊢
    cases n with
    | zero => cases h; exact ⟨rfl, rfl⟩
    | succ n => cases h
  · obtain ⟨m, hpages, _⟩ := Proofs.Layout.pages_eq ld hne
    obtain ⟨P, _, _, _, hok, _⟩ := Proofs.Layout.pages_spec ld hne
    have hds := (hok pg (List.mem_of_getElem? h)).data_eq
    refine ⟨?_, hds⟩
    rw [hpages] at h ⊢
    rw [← hds, mkPagesAux_dataStart _ _ _ _ n pg h, Nat.zero_add]

/-- the page-start rows `_apply_data_post_processing` restores are exactly the first rows of the encoder's pages -/
theorem isPageStart_pages_iff (ld : LDoc) (i : Nat) :
    isPageStart (pageStarts (ld.pages.map (·.height))) i = true ↔
      ∃ (n : Nat) (pg : PageCtx), ld.pages[n]? = some pg ∧ pg.start = i := by
  unfold isPageStart pageStarts
  simp only [Bool.or_eq_true, beq_iff_eq, List.contains_iff_mem]
  rw [mem_pageStartsAux_iff]
  have hpos := Proofs.Layout.pages_pos ld
  constructor
  · rintro (h0 | ⟨p, hp, hor, hx⟩)
    · subst h0
      refine ⟨0, ld.pages[0], List.getElem?_eq_getElem hpos, ?_⟩
      rw [(pages_start_eq ld 0 _ (List.getElem?_eq_getElem hpos)).1]
      simp
    · rw [List.length_map] at hp
      refine ⟨p, ld.pages[p], List.getElem?_eq_getElem hp, ?_⟩
      rw [(pages_start_eq ld p _ (List.getElem?_eq_getElem hp)).1, hx]
      omega
  · rintro ⟨n, pg, hn, hs⟩
    have h1 := (pages_start_eq ld n pg hn).1
    cases n with
    | zero => left; rw [← hs, h1]; simp
    | succ n =>
      right
      refine ⟨n + 1, ?_, Or.inr (Nat.succ_pos _), ?_⟩
      · rw [List.length_map]; exact (List.getElem?_eq_some_iff.mp hn).1
      · rw [← hs, h1]; omega

/-- a page's slice of a column, as a map over the page's row indices -/
theorem map_range'_cellAt (c : Col) (a h : Nat) (hb : a + h ≤ c.length) :
    (c.drop a).take h = (List.range' a h).map (cellAt c) := by
  apply List.ext_getElem?
  intro k
  rw [List.getElem?_take, List.getElem?_map]
  by_cases hk : k < h
  · rw [if_pos hk, List.getElem?_drop, List.getElem?_range' hk, cellAt_of_lt c (a + k) (by omega)]
    simp
  · rw [if_neg hk, List.getElem?_eq_none (by simpa using Nat.le_of_not_lt hk)]
    rfl

/-! ## column removal keeps the remaining columns' values -/

theorem filter_by_name : ∀ (cols : List Model.Encode.Str) (row : List (Option Model.Encode.Str)) (q : Model.Encode.Str → Bool)
    (j : Nat) (c : Model.Encode.Str), cols.Nodup → (cols.filter q)[j]? = some c →
      (((cols.zip row).filter fun x => q x.1).map (·.2))[j]? = row[cols.idxOf c]?
  | [], row, q, j, c, _, h => by simp at h
  | c0 :: cs, [], q, j, c, _, _ => by simp
  | c0 :: cs, v :: vs, q, j, c, hnd, h => by
    have hnd' : c0 ∉ cs ∧ cs.Nodup := by simpa using hnd
    simp only [List.zip_cons_cons, List.filter_cons] at h ⊢
    have tail : ∀ j' : Nat, (cs.filter q)[j']? = some c →
        (((cs.zip vs).filter fun x => q x.1).map (·.2))[j']? = (v :: vs)[(c0 :: cs).idxOf c]? := by
      intro j' hj'
      have hmem : c ∈ cs := (List.mem_filter.mp (List.mem_of_getElem? hj')).1
      have hne : c0 ≠ c := fun e => hnd'.1 (e ▸ hmem)
      have hb : (c0 == c) = false := by simpa using hne
      rw [List.idxOf_cons, hb]
      simp only [cond_false, List.getElem?_cons_succ]
      exact filter_by_name cs vs q j' c hnd'.2 hj'
    by_cases hq : q c0 = true
    · rw [if_pos hq] at h
      rw [if_pos hq]
      cases j with
      | zero =>
        simp only [List.getElem?_cons_zero, Option.some.injEq] at h
        subst h
        simp
      | succ j =>
        simp only [List.getElem?_cons_succ] at h
        simp only [List.map_cons, List.getElem?_cons_succ]
        exact tail j h
    · rw [if_neg hq] at h
      rw [if_neg hq]
      exact tail j h

/-- (unique column names) the `j`-th displayed column, named `c`, holds in every row the value of column `c` -/
theorem dropCols_by_name {cols : List Model.Encode.Str} (hnd : cols.Nodup) (names : List Model.Encode.Str)
    (row : List (Option Model.Encode.Str)) (hlen : row.length ≤ cols.length) {j : Nat} {c : Model.Encode.Str}
    (hj : (dropCols cols (names.map fun n => cols.idxOf n))[j]? = some c) :
    (dropCols row (names.map fun n => cols.idxOf n))[j]? = row[cols.idxOf c]? := by
  rw [dropCols_cols_eq_filter hnd] at hj
  rw [dropCols_eq_filter hnd names row hlen]
  exact filter_by_name cols row _ j c hnd hj

/-! ## the plan of an accepted document with group_by -/

/-- the frame the encoder hands to the grouping service: the displayed columns of the processed frame -/
def gframe (pl : Plan) : Frame := toFrame pl.p.dispCols pl.p.dispRows

/-- the heights of the encoder's pages, in page order -/
def pageHeights (pl : Plan) : List Nat := pl.ld.pages.map (·.height)

/-- the frame after suppression and page-context restoration, for the suppressed frame `s` -/
def restoredFrame (pl : Plan) (gb : List Model.Encode.Str) (s : Frame) : Frame :=
  restorePageContext s (gframe pl) gb (pageStarts (pageHeights pl))

theorem dispCols_nodup {measure : Measure} {d : Doc} {pl : Plan} (hp : plan measure d = .ok pl) (hnd : d.cols.Nodup) :
    pl.p.dispCols.Nodup := by
  obtain ⟨hprep, _, _, _⟩ := plan_ok hp
  obtain ⟨removed, _, ⟨hrem, _, hcols⟩, _⟩ := prepare_facts hprep
  obtain ⟨h1, _⟩ := removedIdx_ok hrem
  rw [hcols, h1, dropCols_cols_eq_filter hnd]
  exact hnd.sublist List.filter_sublist

theorem names_restored_eq {df : Frame} {gb : List Model.GroupBy.Str} {s : Frame} (starts : List Nat)
    (h : enhanceGroupBy df gb = .ok s) : names (restorePageContext s df gb starts) = names df := by
  rcases enhance_ok df gb s h with ⟨h0, hs⟩ | ⟨_, _, hsub, _, hs⟩
  · subst hs
    rcases h0 with h0 | h0
    · subst h0; simp [restorePageContext]
    · unfold restorePageContext
      split
      · rfl
      · have : ∀ (ss : List Nat) (r : Frame), ss.foldl (restoreOne s gb) r = r := by
          intro ss
          induction ss with
          | nil => intro r; rfl
          | cons x ss ih => intro r; simp [restoreOne, h0, ih]
        rw [this]
  · subst hs
    have hn := names_suppressHier df gb hsub
    rw [names_restorePageContext _ _ _ _ (fun g hg => by rw [hn]; exact hsub g hg), hn]

/-- everything the lifted theorems need about an accepted document with a non-empty group_by -/
theorem group_setup {measure : Measure} {d : Doc} {pl : Plan} {gb : List Model.Encode.Str}
    (hp : plan measure d = .ok pl) (hgb : d.body.groupBy = some gb) (hne : gb ≠ []) :
    ∃ s, enhanceGroupBy (gframe pl) gb = .ok s ∧
      pl.rows = ofFrame (restoredFrame pl gb s) d.rows.length ∧
      names (restoredFrame pl gb s) = pl.p.dispCols ∧ pl.p.dispRows.length = d.rows.length := by
  obtain ⟨hprep, _, _, hfin⟩ := plan_ok hp
  have hL := groupByL_of_some hgb
  obtain ⟨s, hs, hrows⟩ := finalRows_groupby (by rw [hL]; exact hne) hfin
  rw [hL] at hs hrows
  have hlen := prepare_dispRows_length hprep
  refine ⟨s, hs, by rw [hrows, hlen]; rfl, ?_, hlen⟩
  unfold restoredFrame gframe
  rw [names_restored_eq _ hs]
  exact names_toFrame _ _

theorem height_gframe {measure : Measure} {d : Doc} {pl : Plan} (hp : plan measure d = .ok pl) {j : Nat}
    {c : Model.Encode.Str} (hj : pl.p.dispCols[j]? = some c) : height (gframe pl) = d.rows.length := by
  obtain ⟨hprep, _, _, _⟩ := plan_ok hp
  unfold gframe
  rw [height_toFrame _ (by intro h0; rw [h0] at hj; simp at hj), prepare_dispRows_length hprep]

/-- a cell of the final frame is the cell of the restored frame's column of that name -/
theorem final_cell {pl : Plan} {gb : List Model.Encode.Str} {s : Frame} {n : Nat}
    (hrows : pl.rows = ofFrame (restoredFrame pl gb s) n) (hnames : names (restoredFrame pl gb s) = pl.p.dispCols)
    (hnd : pl.p.dispCols.Nodup) {j : Nat} {c : Model.Encode.Str} (hj : pl.p.dispCols[j]? = some c) {i : Nat}
    (hi : i < n) : cellRC pl.rows i j = cellAt (getCol (restoredFrame pl gb s) c) i := by
  rw [hrows]
  exact cellRC_ofFrame_named (by rw [hnames]; exact hnd) (by rw [hnames]; exact hj) hi

/-- a cell of the frame handed to the service is the cell of the processed frame -/
theorem frame_cell {pl : Plan} (hnd : pl.p.dispCols.Nodup) {j : Nat} {c : Model.Encode.Str}
    (hj : pl.p.dispCols[j]? = some c) (i : Nat) :
    cellAt (getCol (gframe pl) c) i = cellRC pl.p.dispRows i j :=
  cellAt_toFrame _ hnd hj i

theorem names_gframe (pl : Plan) : names (gframe pl) = pl.p.dispCols := names_toFrame _ _

theorem wf_gframe (pl : Plan) : WF (gframe pl) := wf_toFrame _ _

theorem length_getCol_gframe {measure : Measure} {d : Doc} {pl : Plan} (hp : plan measure d = .ok pl) {j : Nat}
    {c : Model.Encode.Str} (hj : pl.p.dispCols[j]? = some c) : (getCol (gframe pl) c).length = d.rows.length := by
  rw [length_getCol _ (wf_gframe pl) _ (by rw [names_gframe]; exact List.mem_of_getElem? hj), height_gframe hp hj]

/-- every displayed column of the restored frame is as long as the frame is high -/
theorem length_getCol_restored {measure : Measure} {d : Doc} {pl : Plan} (hp : plan measure d = .ok pl)
    {gb : List Model.Encode.Str} {s : Frame} (hs : enhanceGroupBy (gframe pl) gb = .ok s) (hgnd : gb.Nodup) {j : Nat}
    {c : Model.Encode.Str} (hj : pl.p.dispCols[j]? = some c) :
    (getCol (restoredFrame pl gb s) c).length = d.rows.length := by
  have h0 := length_getCol_gframe hp hj
  unfold restoredFrame
  rw [length_getCol_restore]
  rcases enhance_ok _ _ _ hs with ⟨_, rfl⟩ | ⟨_, _, hsub', _, rfl⟩
  · exact h0
  · by_cases hcg : c ∈ gb
    · obtain ⟨l, hl, rfl⟩ := List.getElem_of_mem hcg
      rw [getCol_suppressHier_level _ gb hgnd l hl, length_levelValues _ (wf_gframe pl) gb hsub' l hl,
        height_gframe hp hj]
    · rw [getCol_suppressHier_other _ gb c hcg]
      exact h0

end Proofs.EncodeGroup
