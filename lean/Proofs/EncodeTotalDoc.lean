import Proofs.EncodeTotalPage
import Proofs.EncodeDoc
import Proofs.EncodeColor
import Model.EncodeMulti
/-!
Totality of the encoder model, part 5: the pages of a document (`encodePages`), the font and colour tables, the head
of the document, `encodeWith` and `encode`.
-/
namespace Proofs.EncodeTotal
open Model.Encode Model.EncodeAccepted Model.EncodeMulti Model.Broadcast Model.Emit Generated
open Proofs.Encode (MemV)
open Proofs.EncodeAttrs (Field GoodV)

/-! ## the pages -/

theorem encodePages_total (measure : Measure) (k : ColorCtx) {d : Doc} (ha : Accepted d)
    (hs : ShapesInQuantifier d) (hm : MeasureOk measure d) :
    (∃ x, encodePages measure k d = .ok x ∧ GroupKeysContiguous d) ∨
    (encodePages measure k d = .error "ValueError" ∧ ¬ GroupKeysContiguous d) := by
  have hacc := accFacts ha
  obtain ⟨removed, hsh⟩ := shapeFacts hs
  obtain ⟨p, A, hprep⟩ := prepare_total hacc hsh
  obtain ⟨⟨ld, near⟩, hld⟩ := mkLDoc_total measure hprep hacc hsh hm
  have hdl : p.dispRows.length = d.rows.length := by rw [hprep.dispRows_eq, List.length_map]
  have hldlen := Proofs.Encode.mkLDoc_length hld hdl
  rcases finalRows_total hprep hacc hsh (ld.pages.map (·.height)) with ⟨rows, hrows, hc⟩ | ⟨herr, hnc⟩
  · left
    have F : PageFacts d p removed A rows := by
      refine ⟨hprep, hacc, hsh, fun r hr => ?_, by rw [Proofs.EncodeLift.finalRows_length hrows, hdl]⟩
      have hw := Proofs.EncodeAttrs.finalRows_width hrows (hprep.row_len hacc) r hr
      obtain ⟨h1, h2⟩ := hprep.dispCols_len hsh
      exact ⟨List.ne_nil_of_length_pos (by omega), by omega⟩
    unfold encodePages
    simp only [hprep.prep, hprep.nested, hld, ok_bind, hrows]
    refine (bind_total (mapM_total _ fun ⟨pg, blocks⟩ hx => ?_) fun _ _ => ⟨_, rfl⟩).imp fun _ h => ⟨h, hc⟩
    obtain ⟨hpg, hbl⟩ := Proofs.EncodeAttrs.mem_zip_map (Model.Layout.renderPage ld) ld.pages pg blocks hx
    obtain ⟨hds, hbound⟩ := Proofs.Layout.pages_bound ld pg hpg
    apply renderPage_total k F pg
    · intro hh h0
      have hl0 : ld.rows = [] := List.eq_nil_of_length_eq_zero (by rw [hldlen, h0]; rfl)
      rw [Proofs.Layout.pages_of_no_rows ld hl0] at hpg
      simp only [List.mem_singleton] at hpg
      subst hpg
      simp at hh
    · intro i hi
      rw [hbl, ← Proofs.EncodeAttrs.mem_dataIdx, Proofs.Layout.renderPage_dataIdx ld pg hbound,
        List.mem_range'_1] at hi
      rw [F.rowsLen, ← hldlen]
      omega
  · right
    refine ⟨?_, hnc⟩
    unfold encodePages
    simp only [hprep.prep, hprep.nested, hld, ok_bind, herr, err_bind]

/-! ## the colour table -/

theorem generateColorTable_total (tbl : List ColorRow) (used : List String)
    (h : ∀ c ∈ used, c ≠ "" → Model.Color.validColor tbl c = true) :
    ∃ s, Model.Color.generateColorTable tbl (some used) = .ok s := by
  obtain ⟨rows, hrows⟩ := Proofs.Color.tableRows_total (tbl := tbl) (used := used) fun c hc hs =>
    h c hc (by rintro rfl; simp [Model.Color.significant] at hs)
  simp only [Model.Color.generateColorTable, hrows]
  split
  · exact ⟨_, rfl⟩
  · cases rows <;> exact ⟨_, rfl⟩

/-- a colour that may stand in a colour table: not empty, known to the colour service -/
def CV (c : String) : Prop := c ≠ "" → Model.Color.validColor colorTable c = true

theorem okColor_cv {c : String} (h : okColor (.str c) = true) : CV c := by
  intro hne
  simp only [okColor, Bool.or_eq_true, beq_iff_eq] at h
  rcases h with h | h
  · exact absurd h hne
  · exact h

theorem colors_valid {a : Attr} (h : valsOk okColor a = true) : ∀ c ∈ (toColorAttr a).colors, CV c := by
  intro c hc
  rcases valsOk_mem h (Proofs.EncodeColor.mem_colors_iff.mp hc).1 with h | rfl
  · exact okColor_cv h
  · cases hc

def CompValid (c : Model.Color.Comp) : Prop :=
  ∀ x ∈ c.textColor.colors ++ c.bgColor.colors ++ c.borderColors.flatMap Model.Color.Attr.colors, CV x

theorem accAttr_vals {s : Spec} {a : Attr} (h : accAttr s a = true) : valsOk s.ok a = true := by
  simp only [accAttr, Bool.and_eq_true] at h
  exact h.1

theorem textComp_valid {a : TextAttrsOf Attr} (h : TextAttrsOf.zipAll accAttr textSpec a = true) :
    CompValid (textColorComp a) := by
  intro x hx
  simp only [textColorComp, List.flatMap_nil, List.append_nil, List.mem_append] at hx
  rcases hx with hx | hx
  · exact colors_valid (accAttr_vals (text_zipAll h .color)) x hx
  · exact colors_valid (accAttr_vals (text_zipAll h .bg)) x hx

theorem tblComp_valid {a : TblAttrsOf Attr} (h : TblAttrsOf.zipAll accAttr tblSpec a = true) :
    CompValid (tblColorComp a) := by
  intro x hx
  simp only [tblColorComp, List.mem_append, List.map_cons, List.map_nil, List.flatMap_cons, List.flatMap_nil,
    List.append_nil] at hx
  rcases hx with (hx | hx) | hx
  · exact colors_valid (accAttr_vals (tbl_zipAll h .color)) x hx
  · exact colors_valid (accAttr_vals (tbl_zipAll h .bg)) x hx
  · rcases hx with hx | hx | hx | hx | hx | hx
    · exact colors_valid (accAttr_vals (tbl_zipAll h .bcLeft)) x hx
    · exact colors_valid (accAttr_vals (tbl_zipAll h .bcRight)) x hx
    · exact colors_valid (accAttr_vals (tbl_zipAll h .bcTop)) x hx
    · exact colors_valid (accAttr_vals (tbl_zipAll h .bcBottom)) x hx
    · exact colors_valid (accAttr_vals (tbl_zipAll h .bcFirst)) x hx
    · exact colors_valid (accAttr_vals (tbl_zipAll h .bcLast)) x hx

theorem mem_filterMap_id {α : Type} {x : α} {l : List (Option α)} (h : x ∈ l.filterMap id) : some x ∈ l := by
  obtain ⟨o, ho, hx⟩ := List.mem_filterMap.mp h
  simp only [id] at hx
  subst hx; exact ho

/-- `collect_document_colors` over any document whose colour-carrying components are validated -/
theorem collect_valid_of (c : Model.Color.Doc) (hb : ∀ cm ∈ c.bodies, CompValid cm)
    (ht : ∀ cm ∈ c.texts, CompValid cm) (hh : ∀ cm ∈ c.headers, CompValid cm) :
    ∀ x ∈ Model.Color.collect c, CV x := by
  intro x hx
  have hx := Proofs.Color.mem_dedup.mp hx
  have key : ∀ (comps : List Model.Color.Comp), (∀ cm ∈ comps, CompValid cm) →
      x ∈ (comps.flatMap fun b => b.textColor.colors ++ b.bgColor.colors ++
        b.borderColors.flatMap Model.Color.Attr.colors) → CV x := by
    intro comps hcomps hmem
    obtain ⟨cm, hcm, hx⟩ := List.mem_flatMap.mp hmem
    exact hcomps cm hcm x hx
  unfold Model.Color.Doc.allColors at hx
  simp only [List.mem_append] at hx
  rcases hx with (hx | hx) | hx
  · exact key _ hb hx
  · exact key _ ht hx
  · exact key _ hh hx

theorem bodyColorComp_eq (a : TblAttrsOf Attr) : bodyColorComp a = tblColorComp a := rfl

/-- the components of two optional parts, both checked by `acc` -/
theorem pair_comps_valid {α : Type} {acc : Option α → Bool} {comp : α → Model.Color.Comp}
    (hv : ∀ x, acc (some x) = true → CompValid (comp x)) {o1 o2 : Option α} (h1 : acc o1 = true)
    (h2 : acc o2 = true) : ∀ cm ∈ ([o1, o2].filterMap id).map comp, CompValid cm := by
  intro cm hcm
  obtain ⟨x, hx, rfl⟩ := List.mem_map.mp hcm
  have := mem_filterMap_id hx
  simp only [List.mem_cons, List.not_mem_nil, or_false] at this
  rcases this with h | h
  · exact hv x (h ▸ h1)
  · exact hv x (h ▸ h2)

theorem textColorComps_valid {title subline pageHeader pageFooter : Option TextComp} {footnote source : Option Foot}
    (h1 : textCompAcc title = true) (h2 : textCompAcc subline = true) (h3 : footAcc footnote = true)
    (h4 : footAcc source = true) (h5 : textCompAcc pageHeader = true) (h6 : textCompAcc pageFooter = true) :
    ∀ cm ∈ textColorComps title subline footnote source pageHeader pageFooter, CompValid cm := by
  intro cm hcm
  simp only [textColorComps, List.mem_append] at hcm
  rcases hcm with (h | h) | h
  · exact pair_comps_valid (fun _ h => textComp_valid h) h1 h2 cm h
  · exact pair_comps_valid (fun x h => tblComp_valid (footAcc_spec h x rfl).1) h3 h4 cm h
  · exact pair_comps_valid (fun _ h => textComp_valid h) h5 h6 cm h

theorem headerColorComps_valid {hs : List (Option Header)} (h : hs.all headerAcc = true) :
    ∀ cm ∈ headerColorComps hs, CompValid cm := by
  intro cm hcm
  simp only [headerColorComps, List.mem_map] at hcm
  obtain ⟨hd, hh, rfl⟩ := hcm
  have := List.all_eq_true.mp h (some hd) (mem_filterMap_id hh)
  simp only [headerAcc, Bool.and_eq_true] at this
  rw [bodyColorComp_eq]
  exact tblComp_valid this.1

/-- every colour the document collects is known to the colour service -/
theorem collect_valid {d : Doc} (ha : Accepted d) : ∀ c ∈ Model.Color.collect (colorDoc d), CV c := by
  have hbody := (accFacts ha).bodyAttrs
  obtain ⟨_, _, _, hh, hph, hpf, ht, hs, hfn, hsrc⟩ := accepted_parts ha
  refine collect_valid_of _ (fun cm hcm => ?_) (textColorComps_valid ht hs hfn hsrc hph hpf)
    (headerColorComps_valid hh)
  rw [List.mem_singleton.mp hcm]
  exact tblComp_valid hbody

theorem fontTable_total : ∃ s, Model.Color.fontTableText fontTable = .ok s := by
  unfold Model.Color.fontTableText Model.Color.fontEntries
  rw [if_neg (by decide)]
  exact ⟨_, rfl⟩

/-! ## the document -/

/-- the head of the document (shared by the single- and the multi-section encoder) -/
theorem preamble_total (k : ColorCtx) {page : Page} {ph pf : Option TextComp} (hk : ∀ c ∈ k.used, CV c)
    (hm : page.margin.length = 6)
    (a1 : ∀ c, ph = some c → TextAttrsOf.zipAll accAttr textSpec c.attrs = true)
    (s1 : ∀ c, ph = some c → TextAttrsOf.zipAll shpAttr textSpec c.attrs = true)
    (a2 : ∀ c, pf = some c → TextAttrsOf.zipAll accAttr textSpec c.attrs = true)
    (s2 : ∀ c, pf = some c → TextAttrsOf.zipAll shpAttr textSpec c.attrs = true) :
    ∃ ns, preamble k page ph pf = .ok ns := by
  obtain ⟨ft, hft⟩ := fontTable_total
  obtain ⟨ct, hct⟩ := generateColorTable_total colorTable k.used hk
  obtain ⟨x1, h1⟩ := pageHF_total k "header" a1 s1
  obtain ⟨x2, h2⟩ := pageHF_total k "footer" a2 s2
  obtain ⟨ps, hps⟩ := pageSettings_total hm
  unfold preamble
  simp only [hft, hct, ok_bind, pure_eq_ok, h1, h2, hps]
  exact ⟨_, rfl⟩

/-- **totality of `encodeWith`** -/
theorem encodeWith_total (measure : Measure) {d : Doc} (ha : Accepted d) (hs : ShapesInQuantifier d)
    (hm : MeasureOk measure d) :
    (∃ x, encodeWith measure d = .ok x ∧ GroupKeysContiguous d) ∨
    (encodeWith measure d = .error "ValueError" ∧ ¬ GroupKeysContiguous d) := by
  have hacc := accFacts ha
  obtain ⟨removed, hsh⟩ := shapeFacts hs
  rw [Proofs.EncodeDoc.encodeWith_preamble]
  refine bind_total_or (encodePages_total measure (mkColorCtx d) ha hs hm) fun x => ?_
  exact bind_total (preamble_total _ (collect_valid ha) hacc.margin hacc.pageHeader hsh.pageHeader hacc.pageFooter
    hsh.pageFooter) fun _ _ => ⟨_, rfl⟩

/-- **totality of the encoder model** -/
theorem encode_total (measure : Measure) {d : Doc} (ha : Accepted d) (hs : ShapesInQuantifier d)
    (hm : MeasureOk measure d) :
    (∃ g, encode measure d = .ok g ∧ GroupKeysContiguous d) ∨
    (encode measure d = .error "ValueError" ∧ ¬ GroupKeysContiguous d) :=
  map_total_or _ (encodeWith_total measure ha hs hm)

/-! ## the decidable twin of `GroupKeysContiguous` -/

open Model.GroupBy Proofs.GroupBy in
theorem groupKeysContiguous_iff (d : Doc) : groupKeysContiguous d = true ↔ GroupKeysContiguous d := by
  unfold groupKeysContiguous GroupKeysContiguous
  cases hp : prepare d with
  | error e => simp
  | ok p =>
    simp only [allLevelsContiguousB, List.all_eq_true, List.mem_range, List.length_map]
    constructor
    · intro h q hq l hl
      cases hq
      exact contiguous_of_contigB _ (h l hl)
    · intro h l hl
      exact contigB_of_contiguous _ (h p rfl l hl)

instance (d : Doc) : Decidable (GroupKeysContiguous d) := decidable_of_iff _ (groupKeysContiguous_iff d)

/-! ## `removedIdx` never fails on an accepted document -/

/-- `shapesInQuantifier` starts from `removedIdx d = .ok removed`; this is no restriction of its own: the constructors
check that `page_by` / `subline_by` name columns (`_validate_section_columns`) -/
theorem removedIdx_total {d : Doc} (ha : Accepted d) : ∃ removed, removedIdx d = .ok removed := by
  obtain ⟨_, _, hbody, _⟩ := accepted_parts ha
  simp only [bodyAcc, Bool.and_eq_true] at hbody
  obtain ⟨⟨⟨⟨⟨⟨_, _⟩, _⟩, hpb⟩, hsb⟩, _⟩, _⟩ := hbody
  unfold removedIdx
  apply mapM_total
  intro n hn
  have hin : n ∈ d.cols := by
    simp only [removedNames, List.mem_append] at hn
    rcases hn with hn | hn
    · have := List.all_eq_true.mp hsb n (by simpa [Body.sublineByL] using hn)
      simpa using this
    · split at hn
      · have := List.all_eq_true.mp hpb n (by simpa [Body.pageByL] using hn)
        simpa using this
      · cases hn
  have hlt : d.cols.idxOf n < d.cols.length := List.idxOf_lt_length_iff.mpr hin
  exact ⟨d.cols.idxOf n, by simp only [hlt, if_true]⟩

/-! ## "raises `e`", decidably (a `DocG` has no decidable equality) -/

def raises {α : Type} (r : Except String α) (e : String) : Bool :=
  match r with
  | .error x => x == e
  | .ok _ => false

theorem raises_iff {α : Type} (r : Except String α) (e : String) : raises r e = true ↔ r = .error e := by
  cases r with
  | error x => simp [raises]
  | ok a => simp [raises]

end Proofs.EncodeTotal
