import Model.Encode
import Model.EncodeDomain
import Model.EscNodes
import Proofs.Rtf
import Proofs.Emit
import Proofs.Escape
import Proofs.EscNodes
import Proofs.Convert
import Proofs.LexNodes
import Props.C11
/-!
Text holes of the whole-encoder model: for every text admissible for the flag (`Model.EncodeDomain.txtOk conv t`) the
converted, escaped text read back into nodes (`textNodes (convText conv t)`) is a valid text hole: plain, adjacency
closed before `}`, and neutral for the `\u` discipline.

Route: the emitted string is `printNodes ns` for an explicit "good" node list `ns` (`Printed`, piece by piece), and
`lexNodes (printNodes ns) = norm ns` (`Proofs/LexNodes.lean`) keeps the three properties.
The conversion-ON case uses C11 (`Props/C11.lean`): on `regular` texts the conversion is the rendering of the one-pass
reading `spec`.
-/
namespace Proofs.ConvNodes
open Model.Rtf Model.Emit Model.Escape Model.EscNodes Model.TextNodes Model.Convert Model.EncodeDomain Proofs.Emit

abbrev Str := List Char

/-- a text hole of an emitter -/
def HoleOk (ns : List Node) : Prop := plainNodes ns = true ∧ nodesOk ns (some '}') = true ∧ UNeutral ns

/-- node lists that may stand anywhere in a text hole -/
def Good (ns : List Node) : Prop := (∀ after, nodesOk ns after = true) ∧ plainNodes ns = true ∧ UNeutral ns

/-- the escaper on characters -/
def escStr (s : Str) : Str := (escape (s.map Char.toNat)).map Char.ofNat

theorem escStr_nil : escStr [] = [] := rfl

theorem escStr_append (a b : Str) : escStr (a ++ b) = escStr a ++ escStr b := by
  simp [escStr, escape]

theorem escStr_cons (c : Char) (t : Str) : escStr (c :: t) = escStr [c] ++ escStr t :=
  escStr_append [c] t

theorem map_ofNat_toNat (s : Str) : (s.map Char.toNat).map Char.ofNat = s := by
  simp [Function.comp_def]

theorem escStr_single (c : Char) : escStr [c] = (escapeCp c.toNat).map Char.ofNat := by
  simp [escStr, escape]

/-- the escaper leaves 7-bit characters alone -/
theorem escStr_ascii : ∀ (s : Str), (∀ c ∈ s, c.toNat < 128) → escStr s = s
  | [], _ => rfl
  | c :: s, h => by
    rw [escStr_cons, escStr_ascii s (List.forall_mem_cons.mp h).2, escStr_single, escapeCp,
      if_pos (List.forall_mem_cons.mp h).1]
    exact congrArg (· :: s) c.ofNat_toNat

theorem convText_false (t : Str) : Model.Encode.convText false t = escStr t := rfl

theorem convText_true (t : Str) : Model.Encode.convText true t = escStr (convertCore true t) := rfl

/-! ### printed texts -/

/-- the escaped text is printed by a good node list -/
def Printed (s : Str) : Prop := ∃ ns, printNodes ns = escStr s ∧ Good ns

theorem printed_nil : Printed [] := ⟨[], rfl, fun _ => by simp [nodesOk], by simp [plainNodes], uNeutral_nil⟩

theorem printed_append {a b : Str} : Printed a → Printed b → Printed (a ++ b) := by
  intro ⟨ns, hp, ho, hl, hu⟩ ⟨ms, hp', ho', hl', hu'⟩
  refine ⟨ns ++ ms, ?_, fun after => ?_, ?_, uNeutral_append _ _ hu hu'⟩
  · rw [printNodes_append, hp, hp', escStr_append]
  · rw [nodesOk_append, ho, ho', Bool.and_self]
  · rw [plainNodes_append, hl, hl', Bool.and_self]

/-- what `lexNodes` reads back from a printed text is a text hole -/
theorem hole_of_printed {s : Str} : Printed s → HoleOk (lexNodes (escStr s)) := by
  intro ⟨ns, hp, ho, hl, hu⟩
  rw [← hp, Proofs.LexNodes.lexNodes_printNodes ns (ho none)]
  refine ⟨?_, Proofs.LexNodes.nodesOk_norm ns _ (ho _), uNeutral_congr _ _ (Proofs.LexNodes.toksNodes_norm ns) hu⟩
  rw [Proofs.LexNodes.plainNodes_norm, hl]

/-- LF is written as a line end of the file, every other character as the escaper's nodes -/
theorem printed_char (c : Char) (h : plainC c = true) : Printed [c] := by
  by_cases hn : c = '\n'
  · subst hn
    exact ⟨[Node.nl], by decide, fun _ => by simp [nodesOk, nodeOk], by decide, uNeutral_noU _ (by decide)⟩
  · have hp : plainCp c.toNat = true := by
      simp only [plainC, Bool.and_eq_true, bne_iff_ne, ne_eq, ← Char.toNat_inj, Char.reduceToNat] at h hn
      simp only [plainCp, Bool.and_eq_true, bne_iff_ne, ne_eq]
      exact ⟨⟨⟨⟨h.1.1.1, h.1.1.2⟩, h.1.2⟩, hn⟩, h.2⟩
    have hu := Proofs.EscNodes.uForm_escNodes [c.toNat] (by simpa using Proofs.Escape.char_scalar c)
    rw [show escNodes [c.toNat] = escNodesCp c.toNat by simp [escNodes]] at hu
    refine ⟨escNodesCp c.toNat, ?_, Proofs.EscNodes.nodesOk_escNodesCp _ hp, Proofs.EscNodes.plain_escNodesCp _,
      uNeutral_uForm _ hu⟩
    rw [escStr_single, ← Proofs.EscNodes.print_escNodesCp, map_ofNat_toNat]

/-! ### fixed fragments -/

/-- a control word with its delimiter blank -/
theorem printed_cwSp (w : List Char) (h1 : nameOk w = true) (h2 : tableWord w = false) (h3 : uWord w = false) :
    Printed ('\\' :: (w ++ [' '])) := by
  refine ⟨[Node.cw w none true], ?_, fun after => by simp [nodesOk, nodeOk, h1], by simp [plainNodes, plainNode, h2],
    uNeutral_noU _ ?_⟩
  · rw [escStr_ascii]
    · simp [printNodes, printNode]
    · simp only [nameOk, Bool.and_eq_true, List.all_eq_true] at h1
      intro c hc
      simp only [List.mem_cons, List.mem_append, List.not_mem_nil, or_false] at hc
      rcases hc with rfl | hc | rfl
      · decide
      · have := h1.2 c hc
        simp only [Model.Rtf.isLetter, Bool.or_eq_true, Bool.and_eq_true, decide_eq_true_eq] at this
        omega
      · decide
  · simp only [uWord] at h3
    simp only [noUNodes, noUNode, h3, Bool.not_false, Bool.and_self]

/-- the control words that texts carry with their blank -/
theorem printed_word (w : List Char) (h : w ∈ ["super".toList, "sub".toList] ++ rawWords) :
    Printed ('\\' :: (w ++ [' '])) := by
  have : nameOk w = true ∧ tableWord w = false ∧ uWord w = false := by
    revert w
    decide +kernel
  exact printed_cwSp w this.1 this.2.1 this.2.2

/-- `\field{\*\fldinst NUMPAGES }`; in characters, since a string literal is decoded anew by every evaluation -/
def fieldBody : List Node :=
  [Node.cw ['f', 'i', 'e', 'l', 'd'] none false,
   Node.grp [Node.sym '*', Node.cw ['f', 'l', 'd', 'i', 'n', 's', 't'] none true,
     Node.txt ['N', 'U', 'M', 'P', 'A', 'G', 'E', 'S', ' ']]]

theorem print_field : printNodes [Node.grp fieldBody] = fieldGrpStr := by decide +kernel

theorem printed_field : Printed fieldGrpStr := by
  refine ⟨[Node.grp fieldBody], ?_, fun after => ?_, by decide, uNeutral_noU _ (by decide)⟩
  · rw [← print_field, escStr_ascii]
    decide
  · have : nodesOk fieldBody (some '}') = true := by decide
    simp [nodesOk, nodeOk, this]

theorem mem_rawPieces {p : Str} (h : p ∈ rawPieces) :
    (∃ w ∈ rawWords, p = '\\' :: (w ++ [' '])) ∨ p = fieldGrpStr := by
  simpa [rawPieces, eq_comm] using h

theorem printed_rawPiece {p : Str} (h : p ∈ rawPieces) : Printed p := by
  -- the equations are rewritten with: an `rfl` pattern makes `rcases` evaluate the string literal
  rcases mem_rawPieces h with ⟨w, hw, e⟩ | e
  · rw [e]
    exact printed_word w (List.mem_append_right _ hw)
  · rw [e]
    exact printed_field

theorem rawPieces_cons {p : Str} (h : p ∈ rawPieces) : ∃ a q, p = a :: q := by
  rcases mem_rawPieces h with ⟨w, _, e⟩ | e
  · exact ⟨_, _, e⟩
  · exact ⟨_, _, e.trans print_field.symm⟩

/-! ### conversion OFF -/

theorem raw_nodes (k : Nat) (t : Str) (h : rawGo k t = true) : Printed (t.drop k) := by
  fun_induction rawGo k t with
  | case1 k =>
    rw [List.drop_nil]
    exact printed_nil
  | case2 k c t ih => exact ih h
  | case3 c t p hf ih =>
    have hp := List.mem_of_find?_eq_some hf
    obtain ⟨a, q, rfl⟩ := rawPieces_cons hp
    have hpre := List.find?_some hf
    simp only [List.isPrefixOf, Bool.and_eq_true, beq_iff_eq] at hpre
    obtain ⟨rest, rfl⟩ := Proofs.Convert.split_of_isPrefixOf hpre.2
    have := printed_append (printed_rawPiece hp) (ih h)
    simpa [hpre.1] using this
  | case4 c t hf ih =>
    simp only [Bool.and_eq_true] at h
    exact printed_append (printed_char c h.1) (ih h.2)

theorem hole_raw (t : Str) (h : rawOk t = true) : HoleOk (lexNodes (escStr t)) :=
  hole_of_printed (raw_nodes 0 t h)

/-! ### conversion ON -/

theorem printed_cons {e : Event} {es : List Event} (he : Printed (renderEventD15 e)) (hes : Printed (renderD15 es)) :
    Printed (renderD15 (e :: es)) := by
  rw [Proofs.Convert.renderD15_cons]
  exact printed_append he hes

theorem ev_nodes : ∀ (es : List Event), evsOk es = true → Printed (renderD15 es)
  | [], _ => printed_nil
  | .plain c :: es, h | .mapped c :: es, h => by
    simp only [evsOk, Bool.and_eq_true] at h
    exact printed_cons (printed_char c h.1) (ev_nodes es h.2)
  | .sup :: es, h => printed_cons (printed_word "super".toList (.head _)) (ev_nodes es h)
  | .sub :: es, h => printed_cons (printed_word "sub".toList (.tail _ (.head _))) (ev_nodes es h)
  | .ge :: es, h =>
    printed_cons (printed_append (printed_char chGe (by decide)) (printed_char ' ' (by decide))) (ev_nodes es h)
  | .le :: es, h =>
    printed_cons (printed_append (printed_char chLe (by decide)) (printed_char ' ' (by decide))) (ev_nodes es h)
  | .br :: es, h => printed_cons (printed_word "line".toList (.tail _ (.tail _ (.head _)))) (ev_nodes es h)
  | .pageNumber :: es, h =>
    printed_cons (printed_word "chpgn".toList (.tail _ (.tail _ (.tail _ (.head _))))) (ev_nodes es h)
  | .totalPage :: es, h =>
    printed_cons (printed_word "totalpage".toList (.tail _ (.tail _ (.tail _ (.tail _ (.head _)))))) (ev_nodes es h)
  | .pageField :: es, h => by
    have e : renderEventD15 .pageField = fieldGrpStr ++ [' '] := by
      rw [← print_field]
      rfl
    exact printed_cons (e ▸ printed_append printed_field (printed_char ' ' (by decide))) (ev_nodes es h)
  | .verbatim w :: es, h => by
    cases es with
    | nil => simp [evsOk] at h
    | cons e es =>
      cases e with
      | plain c =>
        cases w with
        | nil => simp [evsOk, rawCmd] at h
        | cons b m =>
          simp only [evsOk, rawCmd, Bool.and_eq_true, beq_iff_eq, List.contains_eq_mem, decide_eq_true_eq] at h
          obtain ⟨⟨rfl, rfl, hm⟩, -, hes⟩ := h
          have := printed_append (printed_word m (List.mem_append_right _ hm)) (ev_nodes es hes)
          simpa [Proofs.Convert.renderD15_cons, renderEventD15, renderEvent] using this
      | _ => simp [evsOk] at h

theorem hole_conv (t : Str) (h1 : regular t = true) (h2 : evsOk (spec t) = true) :
    HoleOk (lexNodes (escStr (convertCore true t))) := by
  rw [Props.C11.C11_conversion_upto_D15 t h1]
  exact hole_of_printed (ev_nodes (spec t) h2)

/-- every admissible text gives a valid text hole -/
theorem hole_txtOk (conv : Bool) (t : Str) (h : txtOk conv t = true) :
    HoleOk (Model.Encode.textNodes (Model.Encode.convText conv t)) := by
  cases conv with
  | false => exact hole_raw t h
  | true =>
    simp only [txtOk, if_true, Bool.and_eq_true] at h
    exact hole_conv t h.1 h.2

/-! ### texts without `\ { }` CR are admissible for both values of the flag -/

theorem rawGo_of_plain (k : Nat) (t : Str) (h : ∀ c ∈ t, plainC c = true) : rawGo k t = true := by
  fun_induction rawGo k t with
  | case1 => rfl
  | case2 k c t ih => exact ih (List.forall_mem_cons.mp h).2
  | case3 c t p _ ih => exact ih (List.forall_mem_cons.mp h).2
  | case4 c t _ ih => rw [(List.forall_mem_cons.mp h).1, ih (List.forall_mem_cons.mp h).2, Bool.and_self]

theorem rawOk_of_plain : ∀ (t : Str), t.all plainC = true → rawOk t = true :=
  fun t h => rawGo_of_plain 0 t (List.all_eq_true.mp h)

theorem evsOk_token {pat : Str} {e : Event} (h : (pat, e) ∈ docTokens) (es : List Event) :
    evsOk (e :: es) = evsOk es := by
  rcases Proofs.Convert.docTokens_mem h with ⟨_, rfl⟩ | ⟨_, rfl⟩ | ⟨_, rfl⟩ | ⟨_, rfl⟩ | ⟨_, rfl⟩ | ⟨_, rfl⟩ | ⟨_, rfl⟩ |
    ⟨_, rfl⟩ <;> simp [evsOk]

theorem conv_of_plain (t : Str) (h : t.all plainC = true) :
    ∀ k, regularGo k t = true ∧ evsOk (specGo latexTable k t) = true := by
  induction t with
  | nil =>
    intro k
    simp [regularGo, specGo, evsOk]
  | cons c t ih =>
    simp only [List.all_cons, Bool.and_eq_true] at h
    intro k
    cases k with
    | succ k =>
      simp only [regularGo, specGo]
      exact ih h.2 k
    | zero =>
      have hc : c ≠ '\\' := by
        rintro rfl
        exact absurd h.1 (by decide)
      simp only [regularGo, specGo, if_neg hc]
      cases hf : findTok (c :: t) with
      | some pe =>
        simp only [evsOk_token (Proofs.Convert.findTok_some hf).1]
        exact ih h.2 _
      | none =>
        simp only [evsOk, h.1, Bool.true_and]
        exact ih h.2 0

/-- a text without raw `\`, `{`, `}`, CR (LF allowed) is admissible whatever the `convert` flag is -/
theorem txtOk_of_plain (conv : Bool) (t : Str) (h : t.all plainC = true) : txtOk conv t = true := by
  cases conv with
  | false => exact rawOk_of_plain t h
  | true =>
    simp only [txtOk, if_true, Bool.and_eq_true]
    exact conv_of_plain t h 0

end Proofs.ConvNodes
