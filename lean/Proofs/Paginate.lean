import Model.PaginateSpec
/-! Lemmas about the page-assignment loop `assignAux`, the change flags `changes` and the page load `loadOn` of
`Model.Paginate`: page numbers step by at most one, and the first rows do not depend on later rows. -/
namespace Proofs.Paginate
open Model.Paginate

theorem assignAux_length (avail np page cur nf rs) :
    (assignAux avail np page cur nf rs).length = rs.length := by
  induction rs generalizing page cur nf with
  | nil => simp [assignAux]
  | cons r rs ih => simp [assignAux, ih]

/-- consecutive page numbers never decrease and never skip -/
def Steps : Nat → List Nat → Prop
  | _, [] => True
  | p, q :: qs => (p ≤ q ∧ q ≤ p + 1) ∧ Steps q qs

theorem assignAux_steps (avail np page cur nf rs) :
    Steps page (assignAux avail np page cur nf rs) := by
  induction rs generalizing page cur nf with
  | nil => simp [assignAux, Steps]
  | cons r rs ih =>
    simp only [assignAux, Steps]
    refine ⟨?_, ih _ _ _⟩
    split <;> omega

theorem steps_ge {p : Nat} {qs : List Nat} (h : Steps p qs) : ∀ q ∈ qs, p ≤ q := by
  induction qs generalizing p with
  | nil => simp
  | cons a as ih =>
    intro q hq
    simp only [Steps] at h
    rcases List.mem_cons.mp hq with rfl | hq
    · exact h.1.1
    · exact Nat.le_trans h.1.1 (ih h.2 q hq)

theorem steps_pairwise {p : Nat} {qs : List Nat} (h : Steps p qs) : qs.Pairwise (· ≤ ·) := by
  induction qs generalizing p with
  | nil => exact List.Pairwise.nil
  | cons a as ih => exact List.pairwise_cons.mpr ⟨steps_ge h.2, ih h.2⟩

/-- after the first row the loop breaks exactly when a break is wanted and the page is not empty -/
theorem breaksBefore_iff (avail : Nat) (np : Bool) (cur : Nat) (r : RowMeta) :
    breaksBefore avail np cur true r = true ↔
      (demands np r = true ∨ avail < cur + r.total) ∧ 0 < cur := by
  simp [breaksBefore, forceBreak, demands]

/-- the first row never breaks (`current_rows = 0`): it opens page 1 -/
theorem assignPages_cons (nrow additional np r rs) :
    assignPages nrow additional np (r :: rs) =
      1 :: assignAux (availRows nrow additional) np 1 r.total true rs := by
  simp [assignPages, assignAux, breaksBefore]

/-- the algorithm is a left fold: output on `rs ++ ext` = output on `rs` ++ output on `ext`
started from the state reached after `rs`. -/
theorem assignAux_append (avail np page cur nf rs ext) :
    assignAux avail np page cur nf (rs ++ ext) =
      assignAux avail np page cur nf rs ++
        (let s := stateAfter avail np page cur nf rs
         assignAux avail np s.1 s.2.1 s.2.2 ext) := by
  induction rs generalizing page cur nf with
  | nil => simp [assignAux, stateAfter]
  | cons r rs ih => simp [assignAux, stateAfter, ih]

/-- every flag compares a key with the key before it -/
theorem changesFrom_eq_zipWith {α} [DecidableEq α] : ∀ (prev : α) (ks : List α),
    changesFrom prev ks = List.zipWith (fun a b => decide (b ≠ a)) (prev :: ks) ks
  | _, [] => rfl
  | prev, k :: ks => by rw [changesFrom, changesFrom_eq_zipWith k ks, List.zipWith_cons_cons]

/-- a later row starts a group exactly when its key differs from the previous row's -/
theorem changes_getElem?_succ {α} [DecidableEq α] (ks : List α) (i : Nat) (a b : α)
    (ha : ks[i]? = some a) (hb : ks[i + 1]? = some b) : (changes ks)[i + 1]? = some (decide (b ≠ a)) := by
  cases ks with
  | nil => cases ha
  | cons k ks =>
    rw [List.getElem?_cons_succ] at hb
    rw [changes, List.getElem?_cons_succ, changesFrom_eq_zipWith, List.getElem?_zipWith, ha, hb]

theorem assignAux_take (avail : Nat) (np : Bool) : ∀ (page cur : Nat) (nf : Bool) (rs : List RowMeta) (m : Nat),
    assignAux avail np page cur nf (rs.take m) = (assignAux avail np page cur nf rs).take m
  | _, _, _, _, 0 => rfl
  | _, _, _, [], _ + 1 => rfl
  | page, cur, nf, r :: rs, m + 1 => by simp only [List.take_succ_cons, assignAux, assignAux_take]

/-- the pagination of the first rows does not depend on later rows (nor do their change flags, below) -/
theorem assignPages_take (nrow additional : Nat) (np : Bool) (rs : List RowMeta) (m : Nat) :
    assignPages nrow additional np (rs.take m) = (assignPages nrow additional np rs).take m :=
  assignAux_take _ _ _ _ _ _ _

theorem changesFrom_take {α} [DecidableEq α] : ∀ (prev : α) (ks : List α) (m : Nat),
    changesFrom prev (ks.take m) = (changesFrom prev ks).take m
  | _, _, 0 => rfl
  | _, [], _ + 1 => rfl
  | prev, k :: ks, m + 1 => by simp only [List.take_succ_cons, changesFrom, changesFrom_take k ks m]

theorem changes_take {α} [DecidableEq α] : ∀ (ks : List α) (m : Nat),
    changes (ks.take m) = (changes ks).take m
  | _, 0 => rfl
  | [], _ + 1 => rfl
  | k :: ks, m + 1 => by simp only [List.take_succ_cons, changes, changesFrom_take]

theorem prefix_induction {α} {P : List α → Prop} (zs : List α) (h0 : P [])
    (hstep : ∀ done x rest, zs = done ++ x :: rest → P done → P (done ++ [x])) : P zs := by
  suffices h : ∀ rest done, zs = done ++ rest → P done → P zs from h zs [] rfl h0
  intro rest
  induction rest with
  | nil => intro done e h; rwa [e, List.append_nil]
  | cons x rest ih =>
    intro done e h
    exact ih (done ++ [x]) (by rw [e, List.append_assoc]; rfl) (hstep done x rest e h)

theorem loadOn_cons (p : Nat) (r : RowMeta) (q : Nat) (zs : List (RowMeta × Nat)) :
    loadOn p ((r, q) :: zs) = (if q = p then r.total else 0) + loadOn p zs := by
  simp only [loadOn, List.filter_cons, beq_iff_eq]
  split <;> simp

theorem loadOn_append (p : Nat) (a b : List (RowMeta × Nat)) :
    loadOn p (a ++ b) = loadOn p a + loadOn p b := by
  simp [loadOn, List.filter_append, List.map_append, List.sum_append]

theorem loadOn_eq_zero {p : Nat} {zs : List (RowMeta × Nat)} (h : ∀ x ∈ zs, x.2 ≠ p) :
    loadOn p zs = 0 := by
  have : zs.filter (fun x => x.2 == p) = [] := List.filter_eq_nil_iff.mpr fun x hx => by simp [h x hx]
  simp [loadOn, this]

end Proofs.Paginate
