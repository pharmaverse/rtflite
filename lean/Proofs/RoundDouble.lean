import Model.EncodeFigure
import Model.FigureSpec
import Proofs.Figure
/-!
# `int(w * k)` in IEEE doubles vs. the floor of the exact product

Helper lemmas for `Props/C16enc.lean` about `Model.EncodeFigure.roundDouble` / `truncFMul` (core Lean only).

* `pow2_eq_zpow`           `pow2 e = 2 ^ e`;
* `rhe_*`                  `roundHalfEven`: between the floor and the floor + 1, at most 1/2 above the argument, never
                           above an integer the argument does not exceed;
* `roundDouble_spec`       for `q > 0`: `roundDouble q = roundHalfEven (q · 2^-e) · 2^e` for an exponent `e` with
                           `2^52 ≤ q · 2^-e` (the significand has 53 bits);
* `floor_roundDouble`      for `0 < q < 2^52`: `⌊q⌋ ≤ ⌊roundDouble q⌋ ≤ ⌊q⌋ + 1`, and `⌊roundDouble q⌋ = ⌊q⌋` as soon as
                           `q` lies more than `q / 2^53` (half an ulp, at most) below the next integer;
* `floor_mul_eq_truncMul`  `⌊w · k⌋ = truncMul (sizeOf w) k` for a positive `w` (`Props.C16.C16_goal_floor` is about this);
* `truncFMul_bounds`, `truncFMul_eq_of_far`, `truncFMul_eq_of_not_nearBelow`, `goalOkTol_truncFMul`
                           `int(w * k)` in doubles vs. the floor of the exact product, and the oracle `goalOkTol`.
-/
namespace Proofs.RoundDouble
open Model.EncodeFigure

theorem pow2_eq_zpow (e : Int) : pow2 e = (2 : Rat) ^ e := by
  unfold pow2
  split
  · next h =>
    rw [Rat.natCast_pow]
    have : e = ((e.toNat : Nat) : Int) := by omega
    conv =>
      rhs
      rw [this]
    rw [Rat.zpow_natCast]
    rfl
  · next h =>
    have : e = -(((-e).toNat : Nat) : Int) := by omega
    conv =>
      rhs
      rw [this]
    rw [Rat.zpow_neg, Rat.zpow_natCast, Rat.natCast_pow, Rat.div_def, Rat.one_mul]
    rfl

theorem pow2_pos (e : Int) : 0 < pow2 e := by
  rw [pow2_eq_zpow]
  exact Rat.zpow_pos (by decide)

theorem pow2_neg_mul (e : Int) : pow2 (-e) * pow2 e = 1 := by
  rw [pow2_eq_zpow, pow2_eq_zpow, Rat.zpow_neg]
  exact Rat.inv_mul_cancel _ (Rat.ne_of_gt (Rat.zpow_pos (by decide)))

theorem pow2_add (a b : Int) : pow2 (a + b) = pow2 a * pow2 b := by
  rw [pow2_eq_zpow, pow2_eq_zpow, pow2_eq_zpow, Rat.zpow_add (by decide)]

/-- for `e ≤ 0` the scaling factor `2^-e` is a natural number -/
theorem pow2_neg_of_nonpos (e : Int) (h : e ≤ 0) : pow2 (-e) = (((2 : Nat) ^ (-e).toNat : Nat) : Rat) := by
  unfold pow2
  rw [if_pos (by omega)]

theorem pow2_nat (n : Nat) : pow2 (n : Int) = (((2 : Nat) ^ n : Nat) : Rat) := by
  unfold pow2
  rw [if_pos (by omega)]
  rfl

theorem pow2_le_one (e : Int) (h : e ≤ 0) : pow2 e ≤ 1 := by
  have h1 := pow2_neg_mul e
  rw [pow2_neg_of_nonpos e h] at h1
  have hK : (1 : Rat) ≤ (((2 : Nat) ^ (-e).toNat : Nat) : Rat) := by
    have : 1 ≤ (2 : Nat) ^ (-e).toNat := Nat.one_le_two_pow
    exact_mod_cast this
  have hp := pow2_pos e
  have := Rat.mul_le_mul_of_nonneg_right hK (Rat.le_of_lt hp)
  rw [h1, Rat.one_mul] at this
  exact this

/-! ## round half to even -/

theorem rhe_cases (x : Rat) : roundHalfEven x = x.floor ∨
    (roundHalfEven x = x.floor + 1 ∧ (1 : Rat) / 2 ≤ x - x.floor) := by
  unfold roundHalfEven
  dsimp only
  split
  · exact Or.inl rfl
  · next h1 =>
    split
    · next h2 => exact Or.inr ⟨rfl, Rat.le_of_lt h2⟩
    · split
      · exact Or.inl rfl
      · exact Or.inr ⟨rfl, Rat.not_lt.mp h1⟩

theorem rhe_ge_floor (x : Rat) : x.floor ≤ roundHalfEven x := by
  rcases rhe_cases x with h | ⟨h, _⟩ <;> omega

theorem rhe_le_floor_succ (x : Rat) : roundHalfEven x ≤ x.floor + 1 := by
  rcases rhe_cases x with h | ⟨h, _⟩ <;> omega

/-- rounding moves the value up by at most one half -/
theorem rhe_le_add_half (x : Rat) : (roundHalfEven x : Rat) ≤ x + 1 / 2 := by
  have hf := Rat.floor_le x
  rcases rhe_cases x with h | ⟨h, h2⟩
  · rw [h]
    grind
  · rw [h]
    have : ((x.floor + 1 : Int) : Rat) = (x.floor : Rat) + 1 := by simp
    rw [this]
    grind

/-- rounding never passes an integer -/
theorem rhe_le_int (x : Rat) (M : Int) (h : x ≤ (M : Rat)) : roundHalfEven x ≤ M := by
  rcases rhe_cases x with h1 | ⟨h1, h2⟩
  · rw [h1]
    have := Rat.floor_le x
    have : (x.floor : Rat) ≤ (M : Rat) := Rat.le_trans this h
    exact Rat.intCast_le_intCast.mp this
  · rw [h1]
    -- `x.floor + 1 ≤ M`: otherwise `M ≤ x.floor ≤ x ≤ M`, so `x = x.floor` and the fraction is 0
    by_cases hlt : x.floor < M
    · omega
    · exfalso
      have hge : (M : Rat) ≤ (x.floor : Rat) := Rat.intCast_le_intCast.mpr (by omega)
      have := Rat.floor_le x
      grind

theorem rhe_ge_int (x : Rat) (M : Int) (h : (M : Rat) ≤ x) : M ≤ roundHalfEven x :=
  Int.le_trans (Rat.le_floor_iff.mpr h) (rhe_ge_floor x)

/-! ## the nearest double -/

theorem natCast_two_pow (n : Nat) : (((2 : Nat) ^ n : Nat) : Rat) = pow2 (n : Int) := (pow2_nat n).symm

/-- a positive rational is its numerator over its denominator -/
theorem eq_num_div_den (q : Rat) (hq : 0 < q) : q = ((q.num.toNat : Nat) : Rat) / ((q.den : Nat) : Rat) := by
  have hn : 0 ≤ q.num := Rat.num_nonneg.mpr (Rat.le_of_lt hq)
  have h1 : ((q.num.toNat : Nat) : Rat) = ((q.num : Int) : Rat) := by
    have : ((q.num.toNat : Nat) : Int) = q.num := by omega
    rw [← this]
    rfl
  rw [h1]
  have := Rat.mkRat_self q
  rw [Rat.mkRat_eq_div] at this
  exact this.symm

theorem num_toNat_pos (q : Rat) (hq : 0 < q) : 0 < q.num.toNat := by
  have hn : 0 ≤ q.num := Rat.num_nonneg.mpr (Rat.le_of_lt hq)
  have hne : q.num ≠ 0 := by
    intro h0
    have : q = 0 := Rat.num_eq_zero.mp h0
    rw [this] at hq
    exact absurd hq (by decide)
  omega

/-- with `a = log2 num`, `b = log2 den`: `q · 2^(b + 52 - a) ≥ 2^51` -/
theorem scaled_ge (q : Rat) (hq : 0 < q) :
    pow2 51 ≤ q * pow2 (-((Nat.log2 q.num.toNat : Int) - (Nat.log2 q.den : Int) - 52)) := by
  have hN := num_toNat_pos q hq
  have hD := q.den_pos
  have ha : 2 ^ Nat.log2 q.num.toNat ≤ q.num.toNat := Nat.log2_self_le (by omega)
  have hb : q.den < 2 ^ (Nat.log2 q.den + 1) := Nat.lt_log2_self
  generalize Nat.log2 q.num.toNat = a at ha
  generalize Nat.log2 q.den = b at hb
  have he : -((a : Int) - (b : Int) - 52) = ((b + 52 : Nat) : Int) + -((a : Nat) : Int) := by omega
  rw [he, pow2_add]
  have hq' := eq_num_div_den q hq
  generalize q.num.toNat = N at hN ha hq'
  generalize q.den = D at hD hb hq'
  -- `N ≥ 2^a`, `D < 2^(b+1)`; claim `2^51 ≤ N / D · 2^(b+52) · 2^-a`
  have hDpos : (0 : Rat) < (D : Rat) := Rat.natCast_pos.mpr hD
  have hApos := pow2_pos (a : Int)
  have h1 := pow2_neg_mul (a : Int)
  -- multiply through by `D · 2^a`
  apply Rat.le_of_mul_le_mul_right (c := (D : Rat) * pow2 (a : Int)) _ (Rat.mul_pos hDpos hApos)
  have e1 : q * (pow2 ((b + 52 : Nat) : Int) * pow2 (-(a : Int))) * ((D : Rat) * pow2 (a : Int)) =
      (N : Rat) * pow2 ((b + 52 : Nat) : Int) := by
    rw [hq']
    have h2 : (N : Rat) / (D : Rat) * (D : Rat) = (N : Rat) := Rat.div_mul_cancel (Rat.ne_of_gt hDpos)
    calc (N : Rat) / (D : Rat) * (pow2 ((b + 52 : Nat) : Int) * pow2 (-(a : Int))) * ((D : Rat) * pow2 (a : Int))
        = ((N : Rat) / (D : Rat) * (D : Rat)) * pow2 ((b + 52 : Nat) : Int) * (pow2 (-(a : Int)) * pow2 (a : Int)) := by
          grind
      _ = (N : Rat) * pow2 ((b + 52 : Nat) : Int) := by rw [h2, h1, Rat.mul_one]
  rw [e1]
  -- everything is a natural number now
  rw [pow2_nat, pow2_nat, show pow2 51 = _ from pow2_nat 51]
  have key : 2 ^ 51 * (D * 2 ^ a) ≤ N * 2 ^ (b + 52) := by
    have e2 : 2 ^ (b + 52) = 2 ^ 51 * 2 ^ (b + 1) := by
      rw [← Nat.pow_add]
      congr 1
      omega
    rw [e2]
    calc 2 ^ 51 * (D * 2 ^ a) ≤ 2 ^ 51 * (2 ^ (b + 1) * N) :=
          Nat.mul_le_mul_left _ (Nat.mul_le_mul (Nat.le_of_lt hb) ha)
      _ = N * (2 ^ 51 * 2 ^ (b + 1)) := by
          rw [Nat.mul_comm N, Nat.mul_assoc]
  exact_mod_cast key

/-- **what `roundDouble` computes**: the value scaled by a power of two so that it has 53 significant bits, rounded
half to even, scaled back -/
theorem roundDouble_spec (q : Rat) (hq : 0 < q) :
    ∃ e : Int, roundDouble q = (roundHalfEven (q * pow2 (-e)) : Rat) * pow2 e ∧ pow2 52 ≤ q * pow2 (-e) := by
  unfold roundDouble
  rw [if_neg (Rat.not_le.mpr hq)]
  dsimp only
  split
  · next hlt =>
    refine ⟨_, rfl, ?_⟩
    have h := scaled_ge q hq
    generalize ((Nat.log2 q.num.toNat : Int) - (Nat.log2 q.den : Int) - 52) = e0 at h hlt ⊢
    have he : -(e0 - 1) = 1 + -e0 := by omega
    rw [he, pow2_add]
    have h2 : pow2 1 = 2 := by decide +kernel
    have h52 : pow2 52 = 2 * pow2 51 := by decide +kernel
    rw [h2, h52]
    have := Rat.mul_le_mul_of_nonneg_left h (show (0 : Rat) ≤ 2 by decide)
    grind
  · next hge => exact ⟨_, rfl, Rat.not_lt.mp hge⟩

/-! ## the floor of the rounded product -/

/-- for `0 < q < 2^52` the nearest double of `q` lies between `⌊q⌋` and `⌊q⌋ + 1` (both are doubles), and it is below
`⌊q⌋ + 1` as soon as `q` is more than `q / 2^53` away from it -/
theorem floor_roundDouble (q : Rat) (hq : 0 < q) (hlt : q < pow2 52) :
    q.floor ≤ (roundDouble q).floor ∧ (roundDouble q).floor ≤ q.floor + 1 ∧
    (q < (((q.floor + 1 : Int) : Rat) - q) * pow2 53 → (roundDouble q).floor = q.floor) := by
  obtain ⟨e, hrd, hx⟩ := roundDouble_spec q hq
  have he : e ≤ 0 := by
    apply Classical.byContradiction
    intro hne
    have h1 := pow2_le_one (-e) (by omega)
    have h2 := Rat.mul_le_mul_of_nonneg_left h1 (Rat.le_of_lt hq)
    grind
  have hK := pow2_neg_of_nonpos e he
  have hu := pow2_neg_mul e
  have hppos := pow2_pos e
  have hKpos := pow2_pos (-e)
  rw [hK] at hx hu hKpos hrd
  generalize ((2 : Nat) ^ (-e).toNat : Nat) = K at hx hu hKpos hrd
  generalize pow2 e = u at hu hppos hrd
  have hfl := Rat.floor_le q
  have hfu := Rat.lt_floor_add_one q
  generalize q.floor = n at hfl hfu ⊢
  have hcast : ((n + 1 : Int) : Rat) = (n : Rat) + 1 := by simp
  rw [hcast] at hfu ⊢
  -- integers on the grid
  have r1 : n * (K : Int) ≤ roundHalfEven (q * (K : Rat)) := rhe_ge_int _ _ (by
    push_cast
    exact Rat.mul_le_mul_of_nonneg_right hfl (Rat.le_of_lt hKpos))
  have r2 : roundHalfEven (q * (K : Rat)) ≤ (n + 1) * (K : Int) := rhe_le_int _ _ (by
    push_cast
    exact Rat.le_of_lt (Rat.mul_lt_mul_of_pos_right hfu hKpos))
  have r3 := rhe_le_add_half (q * (K : Rat))
  generalize roundHalfEven (q * (K : Rat)) = R at r1 r2 r3 hrd
  have r1' : (n : Rat) * (K : Rat) ≤ (R : Rat) := by exact_mod_cast r1
  have r2' : (R : Rat) ≤ ((n : Rat) + 1) * (K : Rat) := by exact_mod_cast r2
  -- scale back: `x · K · u = x`
  have back : ∀ x : Rat, x * (K : Rat) * u = x := fun x => by rw [Rat.mul_assoc, hu, Rat.mul_one]
  have s1 : (n : Rat) ≤ roundDouble q := by
    have := Rat.mul_le_mul_of_nonneg_right r1' (Rat.le_of_lt hppos)
    rwa [back, ← hrd] at this
  have s2 : roundDouble q ≤ (n : Rat) + 1 := by
    have := Rat.mul_le_mul_of_nonneg_right r2' (Rat.le_of_lt hppos)
    rwa [back, ← hrd] at this
  have f1 : n ≤ (roundDouble q).floor := Rat.le_floor_iff.mpr s1
  have f2 : (roundDouble q).floor ≤ n + 1 := by
    have := Rat.le_trans (Rat.floor_le (roundDouble q)) s2
    rw [← hcast] at this
    exact Rat.intCast_le_intCast.mp this
  refine ⟨f1, f2, ?_⟩
  intro hfar
  -- `(n + 1 - q) · K > 1/2`, so the rounded significand stays below `(n + 1) · K`
  have h53 : pow2 53 = 2 * pow2 52 := by decide +kernel
  have hd : q * (K : Rat) < ((n : Rat) + 1 - q) * pow2 53 * (K : Rat) := Rat.mul_lt_mul_of_pos_right hfar hKpos
  have hP := pow2_pos 52
  have hR : (R : Rat) < ((n : Rat) + 1) * (K : Rat) := by
    rw [h53] at hd
    have h1 : 1 * pow2 52 < (2 * (((n : Rat) + 1 - q) * (K : Rat))) * pow2 52 := by grind
    have h2 := Rat.lt_of_mul_lt_mul_right h1 (Rat.le_of_lt hP)
    grind
  have s3 : roundDouble q < (n : Rat) + 1 := by
    have := Rat.mul_lt_mul_of_pos_right hR hppos
    rwa [back, ← hrd] at this
  have f3 : (roundDouble q).floor < n + 1 := Rat.floor_lt_iff.mpr (by rw [hcast]; exact s3)
  omega

/-! ## `int(w * k)` in doubles and the floor of the exact product -/

open Model.Figure (truncMul Size goalOk goalOkTol nearBelow)

theorem sizeOf_den_pos (w : Rat) : 0 < (Model.EncodeFigure.sizeOf w).den := w.den_pos

/-- the product as a quotient of natural numbers -/
theorem mul_eq_div (w : Rat) (hw : 0 < w) (k : Nat) :
    w * (k : Rat) =
      (((Model.EncodeFigure.sizeOf w).num * k : Nat) : Rat) / (((Model.EncodeFigure.sizeOf w).den : Nat) : Rat) := by
  have h := eq_num_div_den w hw
  have hD : (0 : Rat) < ((w.den : Nat) : Rat) := Rat.natCast_pos.mpr w.den_pos
  show w * (k : Rat) = ((w.num.toNat * k : Nat) : Rat) / ((w.den : Nat) : Rat)
  rw [Rat.natCast_mul]
  conv =>
    lhs
    rw [h]
  rw [Rat.div_def, Rat.div_def]
  grind

/-- `m = ⌊M / D⌋` from `m · D ≤ M < (m + 1) · D` -/
theorem floor_div_nat (M D m : Nat) (hd : 0 < D) (h1 : m * D ≤ M) (h2 : M < (m + 1) * D) :
    ((M : Rat) / (D : Rat)).floor = (m : Int) := by
  have hD : (0 : Rat) < (D : Rat) := Rat.natCast_pos.mpr hd
  have lo : ((m : Int) : Rat) ≤ (M : Rat) / (D : Rat) :=
    Rat.not_lt.mp fun hlt => Rat.not_lt.mpr (by exact_mod_cast h1) ((Rat.div_lt_iff hD).mp hlt)
  have hi : (M : Rat) / (D : Rat) < (((m : Int) + 1 : Int) : Rat) :=
    (Rat.div_lt_iff hD).mpr (by exact_mod_cast h2)
  have f1 := Rat.le_floor_iff.mpr lo
  have f2 := Rat.floor_lt_iff.mpr hi
  omega

/-- the floor of the exact product is `truncMul` on the exact value of the float -/
theorem floor_mul_eq_truncMul (w : Rat) (hw : 0 < w) (k : Nat) :
    (w * (k : Rat)).floor = ((truncMul (Model.EncodeFigure.sizeOf w) k : Nat) : Int) := by
  have hd := sizeOf_den_pos w
  obtain ⟨h1, h2⟩ := Proofs.Figure.truncMul_floor (Model.EncodeFigure.sizeOf w) k hd
  rw [mul_eq_div w hw k]
  exact floor_div_nat _ _ _ hd h1 h2

theorem lt_pow2_52_of_lt_pow2_23 {q : Rat} (h : q < pow2 23) : q < pow2 52 :=
  Std.lt_trans h (by decide +kernel)

/-- **`int(w * k)` on doubles is the floor of the exact product or one more** (positive `w`, product below `2^52`) -/
theorem truncFMul_bounds (w : Rat) (hw : 0 < w) (k : Nat) (hk : 0 < k) (hlt : w * (k : Rat) < pow2 52) :
    truncMul (Model.EncodeFigure.sizeOf w) k ≤ truncFMul w k ∧
      truncFMul w k ≤ truncMul (Model.EncodeFigure.sizeOf w) k + 1 := by
  have hq : 0 < w * (k : Rat) := Rat.mul_pos hw (Rat.natCast_pos.mpr hk)
  obtain ⟨h1, h2, _⟩ := floor_roundDouble _ hq hlt
  rw [floor_mul_eq_truncMul w hw k] at h1 h2
  unfold truncFMul
  omega

/-- the exact product `num · k / den` is further than `q / 2^53` (at least half an ulp) below the next integer `g + 1`,
`g = ⌊q⌋`, stated on natural numbers: `num · k < ((g + 1) · den − num · k) · 2^53` -/
def farBelow (s : Size) (k : Nat) : Prop := s.num * k < ((truncMul s k + 1) * s.den - s.num * k) * 2 ^ 53

theorem far_aux (q D M m T P : Rat) (hqD : q * D = M) (hcast : T + M = (m + 1) * D) :
    (m + 1 - q) * P * D = T * P := by
  have h1 : (m + 1 - q) * P * D = ((m + 1) * D - q * D) * P := by grind
  rw [h1, hqD, ← hcast]
  grind

/-- … then `int(w * k)` on doubles IS the floor of the exact product -/
theorem truncFMul_eq_of_far (w : Rat) (hw : 0 < w) (k : Nat) (hk : 0 < k) (hlt : w * (k : Rat) < pow2 52)
    (hfar : farBelow (Model.EncodeFigure.sizeOf w) k) : truncFMul w k = truncMul (Model.EncodeFigure.sizeOf w) k := by
  have hq : 0 < w * (k : Rat) := Rat.mul_pos hw (Rat.natCast_pos.mpr hk)
  obtain ⟨_, _, h3⟩ := floor_roundDouble _ hq hlt
  have hfl := floor_mul_eq_truncMul w hw k
  suffices hs : w * (k : Rat) < ((((w * (k : Rat)).floor + 1 : Int) : Rat) - w * (k : Rat)) * pow2 53 by
    have := h3 hs
    rw [hfl] at this
    unfold truncFMul
    omega
  rw [hfl]
  have hd := sizeOf_den_pos w
  have hmul := mul_eq_div w hw k
  obtain ⟨h1, h2⟩ := Proofs.Figure.truncMul_floor (Model.EncodeFigure.sizeOf w) k hd
  unfold farBelow at hfar
  generalize (Model.EncodeFigure.sizeOf w).num * k = M at hfar hmul h1 h2
  generalize (Model.EncodeFigure.sizeOf w).den = D at hd hfar hmul h1 h2
  generalize truncMul (Model.EncodeFigure.sizeOf w) k = m at hfar h1 h2 ⊢
  generalize w * (k : Rat) = q at hmul ⊢
  have hD : (0 : Rat) < (D : Rat) := Rat.natCast_pos.mpr hd
  have hqD : q * (D : Rat) = (M : Rat) := by rw [hmul]; exact Rat.div_mul_cancel (Rat.ne_of_gt hD)
  have hcast : ((((m + 1) * D - M : Nat)) : Rat) + (M : Rat) = ((m : Rat) + 1) * (D : Rat) := by
    have hnat : ((m + 1) * D - M) + M = (m + 1) * D := by omega
    exact_mod_cast hnat
  have hfarR : (M : Rat) < (((m + 1) * D - M : Nat) : Rat) * pow2 53 := by
    rw [show pow2 53 = _ from pow2_nat 53]
    exact_mod_cast hfar
  have c : ((((m : Int) + 1 : Int)) : Rat) = (m : Rat) + 1 := by
    simp [Rat.intCast_natCast]
  rw [c]
  generalize ((((m + 1) * D - M : Nat)) : Rat) = T at hcast hfarR
  apply Rat.lt_of_mul_lt_mul_right (c := (D : Rat)) _ (Rat.le_of_lt hD)
  rw [far_aux q (D : Rat) (M : Rat) (m : Rat) T (pow2 53) hqD hcast, hqD]
  exact hfarR

/-- the oracle's `nearBelow` (exact product less than `2^-30` below an integer) is false and the product is below
`2^23`: `int(w * k)` on doubles is the floor of the exact product, the value `Props.C16.C16_goal_floor` describes -/
theorem truncFMul_eq_of_not_nearBelow (w : Rat) (hw : 0 < w) (k : Nat) (hk : 0 < k)
    (hlt : w * (k : Rat) < pow2 23) (hnb : nearBelow (Model.EncodeFigure.sizeOf w) k = false) :
    truncFMul w k = truncMul (Model.EncodeFigure.sizeOf w) k := by
  apply truncFMul_eq_of_far w hw k hk (lt_pow2_52_of_lt_pow2_23 hlt)
  have hd := sizeOf_den_pos w
  have hmul := mul_eq_div w hw k
  unfold farBelow truncMul
  unfold nearBelow at hnb
  dsimp only at hnb
  generalize (Model.EncodeFigure.sizeOf w).num * k = M at hnb hmul ⊢
  generalize (Model.EncodeFigure.sizeOf w).den = D at hd hnb hmul ⊢
  have hD : (0 : Rat) < (D : Rat) := Rat.natCast_pos.mpr hd
  -- `M < 2^23 · D`
  have hM : M < 2 ^ 23 * D := by
    rw [hmul] at hlt
    have := (Rat.div_lt_iff hD).mp hlt
    rw [show pow2 23 = _ from pow2_nat 23] at this
    exact_mod_cast this
  have hr := Nat.mod_lt M hd
  have hdm := Nat.div_add_mod M D
  -- the distance to the next integer, times `D`, is `D − M mod D`
  have hdist : (M / D + 1) * D - M = D - M % D := by
    rw [Nat.add_mul, Nat.one_mul, Nat.mul_comm (M / D) D]
    omega
  rw [hdist]
  simp only [Bool.and_eq_false_iff, decide_eq_false_iff_not, ne_eq, Decidable.not_not,
    Nat.not_lt] at hnb
  have e53 : (2 : Nat) ^ 53 = 2 ^ 23 * 2 ^ 30 := by decide
  rcases hnb with h0 | h1
  · have h0' : M % D = 0 := by simpa using h0
    rw [h0', Nat.sub_zero, e53]
    calc M < 2 ^ 23 * D := hM
      _ ≤ D * (2 ^ 23 * 2 ^ 30) := by
        rw [Nat.mul_comm D, Nat.mul_assoc]
        exact Nat.mul_le_mul_left _ (Nat.le_mul_of_pos_left _ (by decide))
  · calc M < 2 ^ 23 * D := hM
      _ ≤ 2 ^ 23 * ((D - M % D) * 2 ^ 30) := Nat.mul_le_mul_left _ h1
      _ = (D - M % D) * 2 ^ 53 := by rw [e53]; ac_rfl

/-- **the oracle of C16 accepts the encoder's goal**: for a positive size with `w · k < 2^23` the value `int(w * k)`
computed in doubles passes `goalOkTol` (the floor of the exact product, or one more when the exact product is within
`2^-30` below an integer) -/
theorem goalOkTol_truncFMul (w : Rat) (hw : 0 < w) (k : Nat) (hk : 0 < k) (hlt : w * (k : Rat) < pow2 23) :
    goalOkTol (Model.EncodeFigure.sizeOf w) k (truncFMul w k) = true := by
  obtain ⟨h1, h2⟩ := truncFMul_bounds w hw k hk (lt_pow2_52_of_lt_pow2_23 hlt)
  have hd := sizeOf_den_pos w
  unfold goalOkTol
  by_cases hnb : nearBelow (Model.EncodeFigure.sizeOf w) k = false
  · rw [truncFMul_eq_of_not_nearBelow w hw k hk hlt hnb, Proofs.Figure.goalOk_truncMul _ _ hd]
    rfl
  · have hnb' : nearBelow (Model.EncodeFigure.sizeOf w) k = true := by simpa using hnb
    rcases Nat.lt_or_ge (truncMul (Model.EncodeFigure.sizeOf w) k) (truncFMul w k) with hgt | hle
    · have e : truncFMul w k = truncMul (Model.EncodeFigure.sizeOf w) k + 1 := by omega
      rw [e, hnb', Nat.add_sub_cancel, Proofs.Figure.goalOk_truncMul _ _ hd]
      simp
    · have e : truncFMul w k = truncMul (Model.EncodeFigure.sizeOf w) k := by omega
      rw [e, Proofs.Figure.goalOk_truncMul _ _ hd]
      rfl

end Proofs.RoundDouble
