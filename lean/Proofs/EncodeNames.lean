import Model.Encode
import Proofs.EncodeLift
/-!
# Renaming the columns of a document (helpers of `Props/C02encnames.lean`)

`renameDoc ρ d` replaces every column name — the frame's columns and the names given in page_by / subline_by /
group_by — by its image; `InjOn ρ names` says that `ρ` keeps the listed names apart.  The lemmas say that the
name → position step of the encoder model (`removedIdx`: `List.idxOf` of every name of `columns_to_remove`) commutes
with such a renaming.
-/
namespace Proofs.EncodeNames
open Model.Encode Model.Broadcast Proofs.EncodeLift

/-- the document with every column name replaced by its image: the frame's columns and the names given in
page_by / subline_by / group_by -/
def renameDoc (ρ : Str → Str) (d : Doc) : Doc :=
  { d with
    cols := d.cols.map ρ,
    body := { d.body with
      pageBy := d.body.pageBy.map (fun l => l.map ρ),
      sublineBy := d.body.sublineBy.map (fun l => l.map ρ),
      groupBy := d.body.groupBy.map (fun l => l.map ρ) } }

/-- `ρ` keeps the listed names apart -/
def InjOn (ρ : Str → Str) (names : List Str) : Prop := ∀ a ∈ names, ∀ b ∈ names, ρ a = ρ b → a = b

theorem InjOn.mono {ρ : Str → Str} {l l' : List Str} (h : InjOn ρ l) (hs : ∀ x ∈ l', x ∈ l) : InjOn ρ l' :=
  fun a ha b hb e => h a (hs a ha) b (hs b hb) e

/-- the position of a name among the columns is the position of its image among the images -/
theorem idxOf_rename (ρ : Str → Str) (cols : List Str) (n : Str) (h : InjOn ρ (n :: cols)) :
    (cols.map ρ).idxOf (ρ n) = cols.idxOf n := by
  induction cols with
  | nil => rfl
  | cons c cs ih =>
    have hcs : InjOn ρ (n :: cs) := h.mono (List.cons_subset_cons n (List.subset_cons_self c cs))
    rw [List.map_cons, List.idxOf_cons, List.idxOf_cons, ih hcs]
    by_cases hc : c = n
    · subst hc; simp
    · have hne : ρ c ≠ ρ n := fun e =>
        hc (h c (List.mem_cons_of_mem _ List.mem_cons_self) n List.mem_cons_self e)
      rw [beq_false_of_ne hne, beq_false_of_ne hc]

theorem renameDoc_removedNames (ρ : Str → Str) (d : Doc) :
    removedNames (renameDoc ρ d).body = (removedNames d.body).map ρ := by
  have hs : (renameDoc ρ d).body.sublineByL = d.body.sublineByL.map ρ := by
    unfold Body.sublineByL renameDoc
    cases d.body.sublineBy <;> rfl
  have hpl : (renameDoc ρ d).body.pageByL = d.body.pageByL.map ρ := by
    unfold Body.pageByL renameDoc
    cases d.body.pageBy <;> rfl
  have hsome : (renameDoc ρ d).body.pageBy.isSome = d.body.pageBy.isSome := by
    unfold renameDoc
    cases d.body.pageBy <;> rfl
  have hrem : (renameDoc ρ d).body.pageByRemoved = d.body.pageByRemoved := rfl
  unfold removedNames
  rw [hs, hpl, hsome, hrem, List.map_append]
  split <;> rfl

/-- the name → position step on one list of names -/
theorem mapM_idx_rename (ρ : Str → Str) (cols names : List Str) (h : InjOn ρ (cols ++ names)) :
    ((names.map ρ).mapM fun n =>
      let i := (cols.map ρ).idxOf n
      if i < cols.length then (Except.ok i : Except String Nat) else .error "ValueError") =
    (names.mapM fun n =>
      let i := cols.idxOf n
      if i < cols.length then (Except.ok i : Except String Nat) else .error "ValueError") := by
  induction names with
  | nil => rfl
  | cons n ns ih =>
    have hns : InjOn ρ (cols ++ ns) := h.mono (List.append_subset.mpr
      ⟨List.subset_append_left _ _, List.subset_append_of_subset_right _ (List.subset_cons_self n ns)⟩)
    have hn : InjOn ρ (n :: cols) :=
      h.mono (List.cons_subset.mpr ⟨List.mem_append_right _ List.mem_cons_self, List.subset_append_left _ _⟩)
    simp only [List.map_cons, List.mapM_cons, idxOf_rename ρ cols n hn]
    rw [ih hns]

theorem dropCols_map {α β} (f : α → β) (row : List α) (removed : List Nat) :
    dropCols (row.map f) removed = (dropCols row removed).map f := by
  unfold dropCols
  rw [List.zipIdx_map, List.filter_map, List.map_map, List.map_map]
  rfl

end Proofs.EncodeNames
