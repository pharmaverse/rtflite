import Model.GroupBy
import Model.GroupBySpec
import Model.GroupByHist
import Proofs.GroupBy
/-! `Model.GroupBy.Hist`: the service that keeps nothing answers every call by itself; a service that remembers accepted
tables under a key does so too when the key is `AcceptSound` (`Inv`: every remembered key belongs to an accepted table);
the exact key is sound, and the sum key collides on `grouped` / `scattered`. -/
namespace Proofs.GroupByHist
open Model.GroupBy Model.GroupBy.Hist Proofs.GroupBy

theorem runFrom_service (cs : List Call) (s : Unit) : runFrom service s cs = cs.map answer := by
  induction cs generalizing s with
  | nil => rfl
  | cons c cs ih => simp only [runFrom, List.map_cons, ih]; rfl

theorem answer_ok {c : Call} {r : Frame} (h : answer c = .ok r) :
    ∃ s, enhanceGroupBy c.df c.gb = .ok s ∧ r = restorePageContext s c.df c.gb c.starts := by
  unfold answer at h
  cases hs : enhanceGroupBy c.df c.gb with
  | error e => simp [hs] at h
  | ok s => exact ⟨s, rfl, by simpa [hs] using h.symm⟩

theorem suppress_eq_hier (df : Frame) (gb : List Str) : suppress df gb = suppressHier df gb := by
  unfold suppress
  split
  · exact suppressSingle_eq_hier df _
  · rfl

/-- `enhance_group_by` on a consulted call: the validator's verdict, then the suppression -/
theorem enhance_consulted (df : Frame) (gb : List Str) (hc : Consulted df gb) :
    enhanceGroupBy df gb =
      match validateDataSorting df gb with
      | .error e => .error e
      | .ok () => .ok (suppress df gb) := by
  rw [enhance_eq df gb hc.1 hc.2, suppress_eq_hier]
  rcases validateDataSorting df gb with e | ⟨⟨⟩⟩ <;> rfl

/-- every remembered key is the key of a consulted table the scan accepted -/
def Inv {κ : Type} (key : Frame → List Str → κ) (seen : List κ) : Prop :=
  ∀ k ∈ seen, ∃ a ga, Consulted a ga ∧ key a ga = k ∧ validateDataSorting a ga = .ok ()

theorem enhanceMemo_consulted {κ : Type} [DecidableEq κ] (key : Frame → List Str → κ) (seen : List κ)
    (df : Frame) (gb : List Str) (hc : Consulted df gb) :
    enhanceMemo key seen df gb =
      if key df gb ∈ seen then (seen, .ok (suppress df gb)) else
      match validateDataSorting df gb with
      | .error e => (seen, .error e)
      | .ok () => (key df gb :: seen, .ok (suppress df gb)) := by
  unfold enhanceMemo
  rw [hc.1, hc.2]
  simp only [Bool.false_eq_true, if_false]
  split
  · rfl
  · cases validateDataSorting df gb with
    | error e => rfl
    | ok u => cases u; rfl

/-- a call on which the store is not consulted is answered as `enhance_group_by` answers it -/
theorem enhanceMemo_not_consulted {κ : Type} [DecidableEq κ] (key : Frame → List Str → κ) (seen : List κ)
    (df : Frame) (gb : List Str) (hc : ¬ Consulted df gb) :
    enhanceMemo key seen df gb = (seen, enhanceGroupBy df gb) := by
  unfold enhanceMemo enhanceGroupBy
  by_cases h0 : (gb = [] || height df = 0) = true
  · rw [if_pos h0, if_pos h0]
  · have h1 : (gb.any fun c => !(names df).contains c) = true := by
      simpa [Consulted, h0] using hc
    rw [if_neg h0, if_neg h0, if_pos h1, if_pos h1]

theorem enhanceMemo_sound {κ : Type} [DecidableEq κ] (key : Frame → List Str → κ) (hk : AcceptSound key)
    (seen : List κ) (hs : Inv key seen) (df : Frame) (gb : List Str) :
    Inv key (enhanceMemo key seen df gb).1 ∧ (enhanceMemo key seen df gb).2 = enhanceGroupBy df gb := by
  by_cases hc : Consulted df gb
  · rw [enhanceMemo_consulted key seen df gb hc, enhance_consulted df gb hc]
    by_cases hm : key df gb ∈ seen
    · -- a remembered key: the table it was remembered for was accepted, so this one is
      rw [if_pos hm]
      obtain ⟨a, ga, hca, hka, hva⟩ := hs _ hm
      rw [hk a ga df gb hca hc hka hva]
      exact ⟨hs, rfl⟩
    · rw [if_neg hm]
      cases hv : validateDataSorting df gb with
      | error e => exact ⟨hs, rfl⟩
      | ok u =>
        cases u
        refine ⟨?_, rfl⟩
        intro k hkm
        rcases List.mem_cons.mp hkm with rfl | hkm
        · exact ⟨df, gb, hc, rfl, hv⟩
        · exact hs k hkm
  · rw [enhanceMemo_not_consulted key seen df gb hc]
    exact ⟨hs, rfl⟩

theorem memo_step_sound {κ : Type} [DecidableEq κ] (key : Frame → List Str → κ) (hk : AcceptSound key)
    (seen : List κ) (hs : Inv key seen) (c : Call) :
    Inv key ((memoService key).step seen c).1 ∧ ((memoService key).step seen c).2 = answer c := by
  have h := enhanceMemo_sound key hk seen hs c.df c.gb
  refine ⟨h.1, ?_⟩
  simp only [memoService, answer, h.2]

theorem runFrom_memo {κ : Type} [DecidableEq κ] (key : Frame → List Str → κ) (hk : AcceptSound key)
    (cs : List Call) (seen : List κ) (hs : Inv key seen) :
    runFrom (memoService key) seen cs = cs.map answer := by
  induction cs generalizing seen with
  | nil => rfl
  | cons c cs ih =>
    have h := memo_step_sound key hk seen hs c
    simp only [runFrom, List.map_cons, h.2, ih _ h.1]

/-- a key that is not accept-sound shows in a history of two calls: the second is answered `ok` although the
scan of its own table rejects it -/
theorem memo_two_calls {κ : Type} [DecidableEq κ] (key : Frame → List Str → κ) (a : Frame) (ga : List Str)
    (b : Frame) (gb : List Str) (ha : Consulted a ga) (hb : Consulted b gb) (hkey : key a ga = key b gb)
    (hva : validateDataSorting a ga = .ok ()) :
    run (memoService key) [⟨a, ga, []⟩, ⟨b, gb, []⟩] =
      [.ok (restorePageContext (suppress a ga) a ga []), .ok (restorePageContext (suppress b gb) b gb [])] := by
  simp only [run, runFrom, memoService, enhanceMemo_consulted key _ a ga ha, enhanceMemo_consulted key _ b gb hb,
    hva, List.not_mem_nil, if_false, hkey, List.mem_cons, or_false, if_true]

/-! ### the exact key -/

theorem tuples_congr (a b : Frame) (cols : List Str) (hh : height a = height b)
    (hc : ∀ c ∈ cols, getCol a c = getCol b c) : tuples a cols = tuples b cols := by
  unfold tuples
  rw [hh]
  apply List.map_congr_left
  intro i _
  apply List.map_congr_left
  intro c hcm
  rw [hc c hcm]

theorem validate_congr (a b : Frame) (gb : List Str) (ha : Consulted a gb) (hb : Consulted b gb)
    (hh : height a = height b) (hc : ∀ c ∈ gb.eraseDups, getCol a c = getCol b c) :
    validateDataSorting a gb = validateDataSorting b gb := by
  obtain ⟨hne, -⟩ : gb ≠ [] ∧ height a ≠ 0 := by simpa using ha.1
  -- level 0 reads the first grouping column: there is one
  obtain ⟨g, rest, hu⟩ : ∃ g rest, gb.eraseDups = g :: rest := by
    cases gb with
    | nil => exact absurd rfl hne
    | cons g gs => exact ⟨g, _, List.eraseDups_cons⟩
  have hlev : levelOk a gb.eraseDups = levelOk b gb.eraseDups := by
    rw [hu] at hc ⊢
    funext i
    unfold levelOk
    split
    · rw [List.headD_cons, hc g List.mem_cons_self]
    · rw [tuples_congr a b _ hh (fun c hcm => hc c (List.mem_of_mem_take hcm))]
  rw [validate_eq a gb ha.1 ha.2, validate_eq b gb (hh ▸ ha.1) hb.2, hlev]

/-! ### the sum key: two tables with the same rows in another order -/

private def cA : Cell := some ['A']
private def cB : Cell := some ['B']

/-- the same four rows, grouped and scattered: equal sum keys, only the first is contiguous -/
def grouped : Frame := [(['g'], [cA, cA, cB, cB]), (['v'], [some ['1'], some ['2'], some ['3'], some ['4']])]
def scattered : Frame := [(['g'], [cA, cB, cA, cB]), (['v'], [some ['1'], some ['2'], some ['3'], some ['4']])]

theorem sumKey_collides (h : List Cell → Nat) : sumKey h grouped [['g']] = sumKey h scattered [['g']] := by
  have e1 : tuples grouped [['g']] = [[cA], [cA], [cB], [cB]] := by decide
  have e2 : tuples scattered [['g']] = [[cA], [cB], [cA], [cB]] := by decide
  have e3 : names grouped = names scattered := by decide
  have e4 : height grouped = height scattered := by decide
  unfold sumKey
  rw [e1, e2, e3, e4]
  simp only [List.map_cons, List.map_nil, List.sum_cons, List.sum_nil]
  have : h [cA] + (h [cA] + (h [cB] + (h [cB] + 0))) = h [cA] + (h [cB] + (h [cA] + (h [cB] + 0))) := by omega
  rw [this]

end Proofs.GroupByHist
