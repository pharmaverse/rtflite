import Model.TextNodes
import Proofs.Rtf
import Proofs.Emit
/-!
`printNodes (lexNodes s) = s` for every `s` (the claim of the doc comment of `Model/TextNodes.lean`).
-/
namespace Proofs.LexPrint
open Model.TextNodes
open Model.Rtf (Node printNode printNodes isLetter isDigit digitsValRev mkParam intDigits natDigits natDigitsAux)

/-! ### the printer inverts the digit reader on canonical digit strings -/

/-- one round of `natDigitsAux` takes off the lowest digit -/
theorem natDigitsAux_digit {d : Char} (hd : isDigit d = true) (fuel n : Nat) (acc : List Char) :
    natDigitsAux (fuel + 1) ((d.toNat - 48) + 10 * n) acc =
      if n = 0 then d :: acc else natDigitsAux fuel n (d :: acc) := by
  rw [Proofs.Rtf.isDigit_iff] at hd
  have hlt : d.toNat - 48 < 10 := by omega
  simp only [natDigitsAux, Nat.add_mul_div_left _ _ (Nat.zero_lt_succ 9), Nat.div_eq_of_lt hlt,
    Nat.zero_add, Nat.add_mul_mod_self_left, Nat.mod_eq_of_lt hlt, Nat.add_sub_cancel' hd.1,
    Char.ofNat_toNat]

theorem digitsValRev_pos {m : Char} (hm : 48 < m.toNat) : ∀ lo : List Char, 0 < digitsValRev (lo ++ [m])
  | [] => Nat.add_pos_left (Nat.sub_pos_of_lt hm) _
  | _ :: lo => Nat.add_pos_right _ (Nat.mul_pos (Nat.zero_lt_succ 9) (digitsValRev_pos hm lo))

/-- `m` is the most significant digit; as it is not `'0'`, no quotient on the way is `0` -/
theorem natDigitsAux_read {m : Char} (hm : isDigit m = true) (hnz : 48 < m.toNat) :
    ∀ (lo : List Char) (fuel : Nat) (acc : List Char), lo.all isDigit = true →
      digitsValRev (lo ++ [m]) < fuel →
      natDigitsAux fuel (digitsValRev (lo ++ [m])) acc = (lo ++ [m]).reverse ++ acc
  | _, 0, _, _, hf => by omega
  | [], fuel + 1, acc, _, _ => natDigitsAux_digit hm fuel 0 acc
  | d :: lo, fuel + 1, acc, hd, hf => by
    simp only [List.all_cons, Bool.and_eq_true] at hd
    have hp := digitsValRev_pos hnz lo
    simp only [List.cons_append, digitsValRev] at hf ⊢
    rw [natDigitsAux_digit hd.1, if_neg (Nat.ne_of_gt hp),
      natDigitsAux_read hm hnz lo fuel _ hd.2 (by omega)]
    simp only [List.reverse_cons, List.append_assoc, List.cons_append, List.nil_append]

theorem natDigits_zero : natDigits (digitsValRev ['0']) = ['0'] := by decide

theorem canon_cases {neg : Bool} {rev : List Char} (h : canonDigits neg rev = true) :
    (rev = ['0'] ∧ neg = false) ∨ ∃ lo m, rev = lo ++ [m] ∧ m ≠ '0' := by
  unfold canonDigits at h
  split at h
  · cases h
  next heq => exact .inl ⟨List.reverse_eq_cons_iff.mp heq, by simpa using h⟩
  next d tl _ heq => exact .inr ⟨_, d, List.reverse_eq_cons_iff.mp heq, by simpa using h⟩

theorem intDigits_read (neg : Bool) (rev : List Char) (hc : canonDigits neg rev = true)
    (hd : rev.all isDigit = true) :
    intDigits (mkParam neg rev) = (if neg then ['-'] else []) ++ rev.reverse := by
  rcases canon_cases hc with ⟨rfl, rfl⟩ | ⟨lo, m, rfl, hm⟩
  · decide
  · simp only [List.all_append, List.all_cons, List.all_nil, Bool.and_true, Bool.and_eq_true] at hd
    have hnz : 48 < m.toNat := by
      have := Proofs.Rtf.isDigit_iff.mp hd.2
      have : m.toNat ≠ 48 := fun e => hm ((Char.toNat_inj (d := '0')).mp e)
      omega
    have hr : natDigits (digitsValRev (lo ++ [m])) = (lo ++ [m]).reverse := by
      rw [natDigits, natDigitsAux_read hd.2 hnz lo _ [] hd.1 (Nat.lt_succ_self _), List.append_nil]
    cases neg with
    | false => exact hr
    | true =>
      obtain ⟨k, hk⟩ := Nat.exists_eq_add_one_of_ne_zero (Nat.ne_of_gt (digitsValRev_pos hnz lo))
      rw [Proofs.Rtf.mkParam_negSucc _ k hk]
      show '-' :: natDigits (k + 1) = _
      rw [← hk, hr]
      rfl

/-! ### the printed form of a machine state -/

def modeText : Mode → List Char
  | .ground txt => txt.reverse
  | .bs => ['\\']
  | .word rev => '\\' :: rev.reverse
  | .num name neg rev => '\\' :: name ++ (if neg then ['-'] else []) ++ rev.reverse
  | .hex1 => ['\\', '\'']
  | .hex2 a => ['\\', '\'', a]

/-- the enclosing groups, outermost first, each followed by its opening brace
(`= stack.reverse.flatMap fun lvl => printNodes lvl.reverse ++ ['{']`) -/
def stackText : List (List Node) → List Char
  | [] => []
  | top :: rest => stackText rest ++ (printNodes top.reverse ++ ['{'])

theorem stackText_eq (stack : List (List Node)) :
    stackText stack = stack.reverse.flatMap fun lvl => printNodes lvl.reverse ++ ['{'] := by
  induction stack with
  | nil => rfl
  | cons top rest ih => simp [stackText, ih]

/-- what has been read so far, given the pending text of the mode -/
def readText (stack : List (List Node)) (cur : List Node) (text : List Char) : List Char :=
  stackText stack ++ (printNodes cur.reverse ++ text)

def render (st : St) : List Char := readText st.stack st.cur (modeText st.mode)

/-- a parameter under way has only digits, and none yet only after a `-` -/
def Inv : Mode → Prop
  | .num _ neg rev => rev.all isDigit = true ∧ (rev = [] → neg = true)
  | _ => True

/-- `st`, unless it has given up, has read `s` -/
def Reads (st : St) (s : List Char) : Prop := st.ok = true → render st = s ∧ Inv st.mode

theorem reads_ite {p : Prop} [Decidable p] {a b : St} {s : List Char} (ha : p → Reads a s)
    (hb : ¬p → Reads b s) : Reads (if p then a else b) s := by
  split
  · exact ha ‹_›
  · exact hb ‹_›

theorem printNodes_snoc (n : Node) (cur : List Node) :
    printNodes (n :: cur).reverse = printNodes cur.reverse ++ printNode n := by
  rw [List.reverse_cons, Proofs.Emit.printNodes_append]
  simp [printNodes]

theorem printNodes_flush (cur : List Node) (txt : List Char) :
    printNodes (flush cur txt).reverse = printNodes cur.reverse ++ txt.reverse := by
  unfold flush
  cases txt with
  | nil => simp
  | cons a t =>
    simp only [List.isEmpty_cons, Bool.false_eq_true, if_false]
    rw [printNodes_snoc]
    simp [printNode]

theorem readText_snoc (stack : List (List Node)) (cur : List Node) (n : Node) (text : List Char) :
    readText stack (n :: cur) text = readText stack cur (printNode n ++ text) := by
  simp only [readText, printNodes_snoc, List.append_assoc]

theorem readText_flush (stack : List (List Node)) (cur : List Node) (txt text : List Char) :
    readText stack (flush cur txt) text = readText stack cur (txt.reverse ++ text) := by
  simp only [readText, printNodes_flush, List.append_assoc]

theorem readText_append (stack : List (List Node)) (cur : List Node) (a b : List Char) :
    readText stack cur (a ++ b) = readText stack cur a ++ b := by
  simp only [readText, List.append_assoc]

theorem printNode_word (rev : List Char) (sp : Bool) :
    printNode (.cw rev.reverse none sp) = modeText (.word rev) ++ if sp then [' '] else [] := by
  simp only [printNode, modeText, List.append_nil, List.cons_append]

/-- a canonical parameter is printed as it was read -/
theorem printNode_num {neg : Bool} {rev : List Char} (hc : canonDigits neg rev = true)
    (hd : rev.all isDigit = true) (name : List Char) (sp : Bool) :
    printNode (.cw name (some (paramOf neg rev)) sp) =
      modeText (.num name neg rev) ++ if sp then [' '] else [] := by
  simp only [printNode, modeText, paramOf, intDigits_read neg rev hc hd, List.append_assoc]

/-! ### one step appends one character -/

/-- a character arriving in ground state -/
theorem groundStep_reads (st : St) (txt : List Char) (c : Char) :
    Reads (groundStep st txt c) (readText st.stack st.cur txt.reverse ++ [c]) := by
  obtain ⟨stack, cur, mode, ok⟩ := st
  rw [← readText_append]
  refine reads_ite (fun h => ?_) fun _ => ?_
  · exact fun _ => ⟨by simp only [h, render, modeText, readText, stackText, printNodes_flush, printNodes,
      List.reverse_nil, List.append_assoc, List.append_nil], trivial⟩
  refine reads_ite (fun h => ?_) fun _ => ?_
  · cases stack with
    | nil => exact nofun
    | cons top rest =>
      exact fun _ => ⟨by simp only [h, render, modeText, readText, stackText, printNodes_snoc, printNode,
        printNodes_flush, List.reverse_nil, List.append_assoc, List.nil_append, List.append_nil,
        List.cons_append], trivial⟩
  refine reads_ite (fun h => ?_) fun _ => ?_
  · exact fun _ => ⟨by simp only [h, render, modeText, readText_flush], trivial⟩
  refine reads_ite (fun h => ?_) fun _ => ?_
  · exact fun _ => ⟨by simp only [h, render, modeText, readText_snoc, readText_flush, printNode, List.reverse_nil,
      List.append_nil], trivial⟩
  · exact fun _ => ⟨by simp only [render, modeText, List.reverse_cons], trivial⟩

/-! Outside ground state a step does one of three things. -/

variable {stack : List (List Node)} {cur : List Node} {m m' : Mode} {n : Node} {c : Char}

/-- the control sequence under way grows by `c` -/
theorem reads_mode (h : modeText m' = modeText m ++ [c]) (hi : Inv m') :
    Reads ⟨stack, cur, m', true⟩ (render ⟨stack, cur, m, true⟩ ++ [c]) :=
  fun _ => ⟨by simp only [render, h, readText_append], hi⟩

/-- `c` completes the node `n` -/
theorem reads_emit (h : printNode n = modeText m ++ [c]) :
    Reads ⟨stack, n :: cur, .ground [], true⟩ (render ⟨stack, cur, m, true⟩ ++ [c]) :=
  fun _ => ⟨by simp only [render, modeText, readText_snoc, h, List.reverse_nil, List.append_nil, readText_append],
    trivial⟩

/-- the mode's text is the node `n` and the text run `txt`, and `c` arrives after them -/
theorem reads_ground {txt : List Char} (h : printNode n ++ txt.reverse = modeText m) :
    Reads (groundStep ⟨stack, n :: cur, m', true⟩ txt c) (render ⟨stack, cur, m, true⟩ ++ [c]) := by
  have := groundStep_reads ⟨stack, n :: cur, m', true⟩ txt c
  rwa [readText_snoc, h] at this

theorem step_reads {st : St} {s : List Char} (hst : Reads st s) (c : Char) :
    Reads (step st c) (s ++ [c]) := by
  obtain ⟨stack, cur, mode, ok⟩ := st
  unfold step
  cases ok with
  | false => exact nofun
  | true =>
    obtain ⟨rfl, hinv⟩ := hst rfl
    refine reads_ite nofun fun _ => ?_
    cases mode with
    | ground txt => exact groundStep_reads _ txt c
    | bs =>
      refine reads_ite (fun _ => reads_mode rfl trivial) fun _ => ?_
      refine reads_ite (fun h => reads_mode (h ▸ rfl) trivial) fun _ => ?_
      exact reads_emit rfl
    | word rev =>
      refine reads_ite (fun _ => reads_mode (by simp [modeText]) trivial) fun _ => ?_
      refine reads_ite (fun h => reads_mode (by simp [modeText, h]) ⟨rfl, fun _ => rfl⟩) fun _ => ?_
      refine reads_ite (fun h => reads_mode (by simp [modeText]) ⟨by simp [h], nofun⟩) fun _ => ?_
      refine reads_ite (fun h => reads_emit (by simp [printNode_word, h])) fun _ => ?_
      exact reads_ground (by simp [printNode_word])
    | num name neg rev =>
      obtain ⟨hdig, hneg⟩ := hinv
      refine reads_ite (fun h => reads_mode (by simp [modeText]) ⟨by simp [h, hdig], nofun⟩) fun _ => ?_
      refine reads_ite (fun h => ?_) fun _ => ?_
      · cases List.isEmpty_iff.mp h
        cases hneg rfl
        exact reads_ground (by simp [modeText, printNode])
      refine reads_ite (fun _ => nofun) fun hc => ?_
      rw [Bool.not_eq_true, Bool.not_eq_false'] at hc
      refine reads_ite (fun h => reads_emit (by simp [printNode_num hc hdig, h])) fun _ => ?_
      exact reads_ground (by simp [printNode_num hc hdig])
    | hex1 => exact reads_mode rfl trivial
    | hex2 a => exact reads_emit rfl

/-! ### the whole scan -/

theorem foldl_reads (s : List Char) : ∀ {st : St} {r : List Char}, Reads st r →
    Reads (s.foldl step st) (r ++ s) := by
  induction s with
  | nil => exact fun h => by rwa [List.append_nil]
  | cons c cs ih =>
    intro st r h
    rw [List.append_cons]
    exact ih (step_reads h c)

theorem finish_reads {st : St} {s : List Char} (hst : Reads st s) (ns : List Node)
    (h : finish st = some ns) : printNodes ns = s := by
  obtain ⟨stack, cur, mode, ok⟩ := st
  unfold finish at h
  cases ok with
  | false => cases h
  | true =>
    cases stack with
    | cons top rest => cases h
    | nil =>
      obtain ⟨rfl, hinv⟩ := hst rfl
      show _ = printNodes cur.reverse ++ modeText mode
      cases mode with
      | ground txt =>
        cases h
        exact printNodes_flush cur txt
      | bs => cases h
      | hex1 => cases h
      | hex2 a => cases h
      | word rev =>
        cases h
        simp only [printNodes_snoc, printNode_word, Bool.false_eq_true, if_false, List.append_nil]
      | num name neg rev =>
        obtain ⟨hdig, hneg⟩ := hinv
        cases rev with
        | nil =>
          cases hneg rfl
          cases h
          simp only [printNodes_snoc, printNode, modeText, if_true, Bool.false_eq_true, if_false,
            List.reverse_nil, List.append_nil, List.append_assoc, List.cons_append]
        | cons d ds =>
          obtain ⟨hc, h⟩ := Option.ite_none_right_eq_some.mp h
          cases h
          simp only [printNodes_snoc, printNode_num hc hdig, Bool.false_eq_true, if_false,
            List.append_nil]

/-- the claim of the doc comment of `Model/TextNodes.lean` -/
theorem print_lexNodes (s : List Char) : printNodes (lexNodes s) = s := by
  unfold lexNodes
  split
  next h =>
    rw [List.isEmpty_iff.mp h]
    rfl
  split
  next ns hf =>
    have h0 : Reads {} [] := fun _ => ⟨rfl, trivial⟩
    exact finish_reads (foldl_reads s h0) ns hf
  · simp [printNodes, printNode]

end Proofs.LexPrint
