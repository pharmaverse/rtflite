import Model.Paginate
import Proofs.Paginate
/-! Helper lemmas for `Props.C04.C04_d_no_mixing`: the metadata `mkMeta` derives for one row, and what it means that it
demands no break. -/
namespace Proofs.PaginateGroups
open Model.Paginate Proofs.Paginate

/-- the metadata of one row, given its two change flags (the body of the `map` in `mkMeta`) -/
def mkRow {κ} (hasPageBy hasSubline : Bool) (r : RowIn κ) (p s : Bool) : RowMeta :=
  { total := r.dataRows + (if hasPageBy && p then r.pagebyRows else 0)
              + (if hasSubline && s then r.sublineRows else 0),
    grp := hasPageBy && p, sub := hasSubline && s }

theorem mkMeta_getElem? {κ} [DecidableEq κ] (hp hs : Bool) (rows : List (RowIn κ)) (i : Nat) (r : RowIn κ)
    (pc sc : Bool) (hr : rows[i]? = some r) (hpc : (changes (rows.map (·.pkey)))[i]? = some pc)
    (hsc : (changes (rows.map (·.skey)))[i]? = some sc) : (mkMeta hp hs rows)[i]? = some (mkRow hp hs r pc sc) := by
  unfold mkMeta
  rw [List.getElem?_map, List.getElem?_zip_eq_some (z := (r, pc, sc)) |>.mpr
    ⟨hr, List.getElem?_zip_eq_some (z := (pc, sc)) |>.mpr ⟨hpc, hsc⟩⟩]
  rfl

theorem mkMeta_total_pos {κ} [DecidableEq κ] (hp hs : Bool) (rows : List (RowIn κ))
    (hpos : ∀ r ∈ rows, 1 ≤ r.dataRows) : ∀ m ∈ mkMeta hp hs rows, 1 ≤ m.total := by
  intro m hm
  obtain ⟨⟨r, p, s⟩, hx, rfl⟩ := List.mem_map.mp hm
  have := hpos r (List.of_mem_zip hx).1
  show 1 ≤ (mkRow hp hs r p s).total
  simp only [mkRow]
  omega

/-- a row whose metadata demands no break continues the groups of the row before it -/
theorem keys_of_not_demands {κ} [DecidableEq κ] (hp hs np : Bool) (a b : RowIn κ)
    (h : demands np (mkRow hp hs b (decide (b.pkey ≠ a.pkey)) (decide (b.skey ≠ a.skey))) = false) :
    (hs = true → a.skey = b.skey) ∧ (hp = true → np = true → a.pkey = b.pkey) := by
  simp only [demands, mkRow, Bool.or_eq_false_iff, Bool.and_eq_false_iff, decide_eq_false_iff_not,
    Decidable.not_not] at h
  obtain ⟨h1, h2⟩ := h
  refine ⟨fun hS => ?_, fun hP hN => ?_⟩
  · rcases h1 with h1 | h1
    · rw [hS] at h1; cases h1
    · exact h1.symm
  · rcases h2 with h2 | h2 | h2
    · rw [hN] at h2; cases h2
    · rw [hP] at h2; cases h2
    · exact h2.symm

end Proofs.PaginateGroups
