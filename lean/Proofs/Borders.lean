import Model.Borders
import Proofs.Broadcast
/-! `Model.Borders.applyBorders` cell by cell (core Lean only): `applyRow` overwrites one row of a well-formed matrix,
`applyBorders` is three such stages on the top matrix (`top0`, `top1`, `top2`) and at most one on the bottom matrix, and
what `_encode` then reads at page row `i`, column `c` is `topSpec` / `bottomSpec`. -/
namespace Proofs.Borders
open Model.Broadcast Model.Borders Proofs.Broadcast

/-- `updateCell` folded over a list `l` of columns of one row: the cells `(row, c)`, `c ∈ l`, get `style c`, every other
cell keeps its value -/
theorem foldUpdate {h w row : Nat} (hh : 0 < h) (hw : 0 < w) (hrow : row < h) (style : Nat → String)
    (l : List Nat) (hl : ∀ c ∈ l, c < w) (m : Mat String) (hm : Good m) :
    Good (l.foldl (fun acc c => acc.updateCell h w row c (style c)) m) ∧
    ∀ i c, i < h → c < w →
      (l.foldl (fun acc c => acc.updateCell h w row c (style c)) m).iloc i c =
        if i = row ∧ c ∈ l then some (style c) else m.iloc i c := by
  induction l generalizing m with
  | nil => simp; exact hm
  | cons c0 l ih =>
    have hc0 := hl c0 (by simp)
    have hm' := updateCell_good hm hh hw row c0 (style c0)
    obtain ⟨g, e⟩ := ih (fun c hc => hl c (by simp [hc])) _ hm'
    refine ⟨g, ?_⟩
    intro i c hi hc
    simp only [List.foldl_cons]
    rw [e i c hi hc, updateCell_iloc hm _ hrow hc0 hi hc]
    by_cases h1 : i = row <;> by_cases h2 : c ∈ l <;> by_cases h3 : c = c0 <;> simp [h1, h2, h3]

theorem applyRow_good {m : Mat String} (hm : Good m) {h w row : Nat} (hh : 0 < h) (hw : 0 < w)
    (hrow : row < h) (style : Nat → String) : Good (applyRow m h w row style) :=
  (foldUpdate hh hw hrow style (List.range w) (fun _ hc => List.mem_range.mp hc) m hm).1

theorem applyRow_iloc {m : Mat String} (hm : Good m) {h w row i c : Nat} (hrow : row < h)
    (style : Nat → String) (hi : i < h) (hc : c < w) :
    (applyRow m h w row style).iloc i c = if i = row then some (style c) else m.iloc i c := by
  have := (foldUpdate (by omega) (by omega) hrow style (List.range w)
    (fun _ hc => List.mem_range.mp hc) m hm).2 i c hi hc
  unfold applyRow
  rw [this]
  simp [List.mem_range, hc]

/-! ## the pieces of applyBorders -/

/-- the page's rows of the user's `border_top` / `border_bottom` -/
def top0 (b : BorderIn) : Mat String := b.top.pageRows b.start b.height
def bot0 (b : BorderIn) : Mat String := b.bottom.pageRows b.start b.height

/-- after the first rule: the page's `border_first` on the first row of a first page without header row -/
def top1 (b : BorderIn) : Mat String :=
  if b.isFirst && !b.hasHeaders && b.pageFirst != ""
    then applyRow (top0 b) b.height b.width 0 (fun _ => b.pageFirst) else top0 b

/-- after the second rule: the body's `border_first` on the first row under a header row or on a later page -/
def top2 (b : BorderIn) : Mat String :=
  if ((b.isFirst && b.hasHeaders) || !b.isFirst) && b.bodyFirst.length > 0
    then applyRow (top1 b) b.height b.width 0 (bodyFirstStyle b) else top1 b

theorem applyBorders_top (b : BorderIn) (h : b.height ≠ 0) : (applyBorders b).top = top2 b := by
  unfold applyBorders
  simp only [if_neg h]
  cases closingStyle b with
  | none => rfl
  | some s => cases b.fnTableHere <;> cases b.srcTableHere <;> rfl

theorem applyBorders_none (b : BorderIn) (h : b.height ≠ 0) (hs : closingStyle b = none) :
    applyBorders b = { top := top2 b, bottom := bot0 b, fnOverride := none, srcOverride := none } := by
  unfold applyBorders
  simp only [if_neg h, hs]
  rfl

theorem applyBorders_data (b : BorderIn) (h : b.height ≠ 0) (s : String) (hs : closingStyle b = some s)
    (hf : b.fnTableHere = false) (hsrc : b.srcTableHere = false) :
    applyBorders b = BorderOut.mk (top2 b)
      (applyRow (bot0 b) b.height b.width (b.height - 1) (fun _ => s)) none none := by
  unfold applyBorders
  simp only [if_neg h, hs, hf, hsrc]
  rfl

theorem applyBorders_src (b : BorderIn) (h : b.height ≠ 0) (s : String) (hs : closingStyle b = some s)
    (hsrc : b.srcTableHere = true) :
    applyBorders b = { top := top2 b, bottom := bot0 b, fnOverride := none, srcOverride := some s } := by
  unfold applyBorders
  simp only [if_neg h, hs, hsrc, Bool.or_true, Bool.not_true, Bool.false_eq_true, if_false, if_true]
  rfl

theorem applyBorders_fn (b : BorderIn) (h : b.height ≠ 0) (s : String) (hs : closingStyle b = some s)
    (hf : b.fnTableHere = true) (hsrc : b.srcTableHere = false) :
    applyBorders b = { top := top2 b, bottom := bot0 b, fnOverride := some s, srcOverride := none } := by
  unfold applyBorders
  simp only [if_neg h, hs, hsrc, hf, Bool.or_false, Bool.not_true, Bool.false_eq_true, if_false]
  rfl

/-! ## the stages cell by cell -/

theorem top0_good {b : BorderIn} (hg : Good b.top) (hh : 0 < b.height) : Good (top0 b) :=
  pageRows_good hg b.start hh

theorem bot0_good {b : BorderIn} (hg : Good b.bottom) (hh : 0 < b.height) : Good (bot0 b) :=
  pageRows_good hg b.start hh

theorem top0_iloc {b : BorderIn} (hg : Good b.top) {i : Nat} (hi : i < b.height) (c : Nat) :
    (top0 b).iloc i c = b.top.iloc (b.start + i) c := pageRows_iloc hg b.start hi c

theorem bot0_iloc {b : BorderIn} (hg : Good b.bottom) {i : Nat} (hi : i < b.height) (c : Nat) :
    (bot0 b).iloc i c = b.bottom.iloc (b.start + i) c := pageRows_iloc hg b.start hi c

theorem top1_good {b : BorderIn} (hg : Good b.top) (hh : 0 < b.height) (hw : 0 < b.width) :
    Good (top1 b) := by
  unfold top1
  split
  · exact applyRow_good (top0_good hg hh) hh hw hh _
  · exact top0_good hg hh

theorem top1_iloc {b : BorderIn} (hg : Good b.top) {i c : Nat} (hi : i < b.height) (hc : c < b.width) :
    (top1 b).iloc i c =
      if (b.isFirst && !b.hasHeaders && b.pageFirst != "") = true ∧ i = 0 then some b.pageFirst
      else b.top.iloc (b.start + i) c := by
  have hh : 0 < b.height := by omega
  unfold top1
  split
  · rename_i h
    rw [applyRow_iloc (top0_good hg hh) hh _ hi hc, top0_iloc hg hi]
    simp only [h, true_and]
  · rename_i h
    rw [top0_iloc hg hi, if_neg (fun h' => h h'.1)]

theorem top2_iloc {b : BorderIn} (hg : Good b.top) {i c : Nat} (hi : i < b.height) (hc : c < b.width) :
    (top2 b).iloc i c =
      if (((b.isFirst && b.hasHeaders) || !b.isFirst) && b.bodyFirst.length > 0) = true ∧ i = 0
        then some (bodyFirstStyle b c)
      else (top1 b).iloc i c := by
  have hh : 0 < b.height := by omega
  unfold top2
  split
  · rename_i h
    rw [applyRow_iloc (top1_good hg hh (by omega)) hh _ hi hc]
    simp only [h, true_and]
  · rename_i h
    rw [if_neg (fun h' => h h'.1)]

/-! ## what `_encode` reads, spelled out -/

/-- the top border of page row `i`, column `c`: on the first row the body's `border_first` (under a header row or on
a later page), else the page's `border_first` (first page without header row); the user's `border_top` otherwise -/
def topSpec (b : BorderIn) (i c : Nat) : Option String :=
  if (((b.isFirst && b.hasHeaders) || !b.isFirst) && b.bodyFirst.length > 0) = true ∧ i = 0
    then some (bodyFirstStyle b c)
  else if (b.isFirst && !b.hasHeaders && b.pageFirst != "") = true ∧ i = 0 then some b.pageFirst
  else b.top.iloc (b.start + i) c

theorem topAt_applyBorders {b : BorderIn} (hg : Good b.top) {i c : Nat} (hi : i < b.height) (hc : c < b.width) :
    topAt (applyBorders b) i c = topSpec b i c := by
  rw [topAt, applyBorders_top b (by omega), top2_iloc hg hi hc, top1_iloc hg hi hc, topSpec]

/-- the bottom border of page row `i`, column `c`: the closing style on the last row when no table-rendered
footnote / source follows on the page; the user's `border_bottom` otherwise -/
def bottomSpec (b : BorderIn) (i c : Nat) : Option String :=
  match closingStyle b with
  | some s =>
    if b.fnTableHere = false ∧ b.srcTableHere = false ∧ i = b.height - 1 then some s
    else b.bottom.iloc (b.start + i) c
  | none => b.bottom.iloc (b.start + i) c

theorem bottomAt_applyBorders {b : BorderIn} (hg : Good b.bottom) {i c : Nat} (hi : i < b.height)
    (hc : c < b.width) : bottomAt (applyBorders b) i c = bottomSpec b i c := by
  have hh : 0 < b.height := by omega
  have hne : b.height ≠ 0 := by omega
  unfold bottomSpec
  cases hs : closingStyle b with
  | none => rw [applyBorders_none b hne hs]; exact bot0_iloc hg hi c
  | some s =>
    cases h1 : b.srcTableHere
    · cases hf : b.fnTableHere
      · rw [applyBorders_data b hne s hs hf h1]
        show (applyRow (bot0 b) b.height b.width (b.height - 1) (fun _ => s)).iloc i c = _
        rw [applyRow_iloc (bot0_good hg hh) (by omega) _ hi hc, bot0_iloc hg hi]
        simp only [true_and]
      · rw [applyBorders_fn b hne s hs hf h1]
        simpa [bottomAt] using bot0_iloc hg hi c
    · rw [applyBorders_src b hne s hs h1]
      simpa [bottomAt] using bot0_iloc hg hi c

end Proofs.Borders
