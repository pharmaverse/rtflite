import Model.EncodeMulti
import Model.EncodeDomainMore
import Proofs.Encode
import Proofs.EncodeTables
import Proofs.EncodeDoc
/-!
Helper lemmas for `Props/C01encmore.lean`, multi-section path: every element of every section is good
(`Proofs.Encode.encodePages_ok` per section document, for the document-wide colour context), hence `docOk (encodeM …)`
by `Proofs.EncodeDoc.docOk_of_preamble`.
-/
namespace Proofs.EncodeMulti
open Model.Rtf Model.Emit Model.Encode Model.EncodeDomain Model.EncodeMulti Model.EncodeDomainMore Generated
open Proofs.Emit Proofs.Encode Proofs.EncodeTables Proofs.EncodeDoc

theorem encodeSections_ok {measure : Measure} {k : ColorCtx} {d : MDoc} {elems : List Elem} {near : Nat}
    (h : encodeSections measure k d = .ok (elems, near)) (hd : ∀ sd ∈ sectionDocs d, inDomain sd = true) :
    ∀ e ∈ elems, ElemOk e := by
  unfold encodeSections at h
  peel h as parts hparts
  cases pure_ok h
  intro e he
  obtain ⟨part, hpart, hep⟩ := List.mem_flatMap.mp he
  obtain ⟨sd, hsd, hr⟩ := mapM_mem hparts part hpart
  exact encodePages_ok (show encodePages measure k sd = .ok (part.1, part.2) from hr) (hd sd hsd) e hep

theorem encodeWithM_docOk {measure : Measure} {d : MDoc} {x : DocG × Nat} (h : encodeWithM measure d = .ok x)
    (hd : inDomainMulti d = true) : docOk x.1 = true := by
  simp only [inDomainMulti, Bool.and_eq_true, List.all_eq_true] at hd
  obtain ⟨⟨hsec, hph⟩, hpf⟩ := hd
  unfold encodeWithM at h
  dsimp only at h
  peel h as y hy
  peel h as head hhead
  cases pure_ok h
  exact docOk_of_preamble hhead hph hpf
    (encodeSections_ok (show encodeSections measure _ d = .ok (y.1, y.2) from hy) hsec)

theorem encodeM_docOk {measure : Measure} {d : MDoc} {g : DocG} (h : encodeM measure d = .ok g)
    (hd : inDomainMulti d = true) : docOk g = true := by
  unfold encodeM at h
  obtain ⟨x, hx, rfl⟩ := map_ok h
  exact encodeWithM_docOk hx hd

/-- a single frame under a nested header list: the single-section encoder on the concatenated list -/
theorem encodeWithNested1_docOk {measure : Measure} {d : Doc} {hs : List (List (Option Header))} {x : DocG × Nat}
    (h : encodeWithNested1 measure d hs = .ok x) (hd : inDomain { d with headers := hs.flatten } = true) :
    docOk x.1 = true :=
  encodeWith_docOk h hd

end Proofs.EncodeMulti
