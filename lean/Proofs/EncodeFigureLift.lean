import Model.EncodeFigure
import Model.Figure
import Proofs.Encode
import Proofs.EncodeFigure
import Proofs.Figure
import Proofs.RoundDouble
/-!
# The figure-only encoder as a rendering of the abstract page loop

Helper lemmas for `Props/C16enc.lean`.  `Model.Figure.figureLoop` (the model `Props/C16.lean` is about) produces a list
of abstract `Piece`s (title, subline, picture, `\par`, footnote, source, page break); `Model.EncodeFigure.encodeWithF`
produces the blocks of the real document.  Here:

* `cfgOf`, `renderPiece`      the configuration of the abstract loop that belongs to an `FDoc`, and the blocks every
                              abstract piece stands for (the encodings of the document's own components);
* `figurePieces_render`       one loop iteration of the encoder = the rendering of `pageParts` of the abstract loop;
* `encodeWithF_render`        the blocks of the document = the rendering of `figureLoop (cfgOf d) picts` followed by the
                              closing newlines, where `picts[j] = pictOf fmt_j bytes_j (getDim widths j) (getDim heights j)`.
-/
namespace Proofs.EncodeFigureLift
open Model.Rtf Model.Emit Model.Encode Model.EncodeMulti Model.EncodeFigure Proofs.Encode Proofs.EncodeFigure
open Model.Figure (Pict Piece Cfg figureLoop loopFrom pageParts pageBody getDim fmtOfSuffix)

/-- the placement type of the abstract loop -/
def figPl : Model.Layout.Placement → Model.Figure.Placement
  | .first => .first
  | .last => .last
  | .all => .all

theorem shows_figPl (p : Model.Layout.Placement) (a b : Bool) : Model.Figure.shows (figPl p) a b = p.shows a b := by
  cases p <;> rfl

/-- the configuration of the abstract page loop for a figure document.  The title slot is always configured: the
encoder writes the (possibly empty) title and a newline on every page `page_title` selects. -/
def cfgOf (d : FDoc) : Cfg :=
  { pageTitle := figPl d.page.pageTitle, pageFootnote := figPl d.page.pageFootnote,
    pageSource := figPl d.page.pageSource, hasTitle := true, hasSubline := d.subline.isSome,
    hasFootnote := d.footnote.isSome, hasSource := d.source.isSome }

/-- the colour context of the figure document -/
def ctxF (d : FDoc) : ColorCtx := ctxOfColors (colorDocF d)

/-- the title slot: the encoded title followed by a newline -/
def titleBlocks (d : FDoc) : List BlockG :=
  (match textElem (ctxF d) d.title with
   | .ok t => t.flatten
   | .error _ => []) ++ [BlockG.plain [Node.nl]]

def sublineBlocks (d : FDoc) : List BlockG :=
  match textElem (ctxF d) d.subline with
  | .ok es => es.flatten
  | .error _ => []

/-- the footnote, always paragraph-style -/
def footnoteBlocks (d : FDoc) : List BlockG :=
  match d.footnote with
  | some f =>
    (match renderFoot (ctxF d) (pageOnly d.page) { f with asTable := false } none with
     | .ok es => joinElems es
     | .error _ => [])
  | none => []

/-- the source, with its own `as_table` -/
def sourceBlocks (d : FDoc) : List BlockG :=
  match d.source with
  | some f =>
    (match renderFoot (ctxF d) (pageOnly d.page) f none with
     | .ok es => joinElems es
     | .error _ => [])
  | none => []

/-- `generate_page_break` -/
def breakBlocks (d : FDoc) : List BlockG :=
  match pageBreak d.page with
  | .ok pb => [BlockG.plain pb]
  | .error _ => []

/-- the blocks an abstract piece stands for -/
def renderPiece (d : FDoc) : Piece → List BlockG
  | .title => titleBlocks d
  | .subline => sublineBlocks d
  | .pict p => [BlockG.plain (pictNodes d.align p)]
  | .par => [BlockG.plain [cwSp "par"]]
  | .footnote => footnoteBlocks d
  | .source => sourceBlocks d
  | .pageBreak => breakBlocks d

theorem flatMap_ite_single {α β : Type} (c : Bool) (x : α) (f : α → List β) :
    (if c = true then [x] else []).flatMap f = if c = true then f x else [] := by
  cases c <;> simp

/-- the rendering of one abstract loop iteration -/
theorem pageParts_render (d : FDoc) (num i : Nat) (p : Pict) :
    (pageParts (cfgOf d) num i p).flatMap (renderPiece d) =
      (if d.page.pageTitle.shows (i == 0) (i + 1 == num) = true then titleBlocks d else []) ++
      (if (d.subline.isSome && d.page.pageTitle.shows (i == 0) (i + 1 == num)) = true then sublineBlocks d else []) ++
      [BlockG.plain (pictNodes d.align p), BlockG.plain [cwSp "par"]] ++
      (if (d.footnote.isSome && d.page.pageFootnote.shows (i == 0) (i + 1 == num)) = true
        then footnoteBlocks d else []) ++
      (if (d.source.isSome && d.page.pageSource.shows (i == 0) (i + 1 == num)) = true then sourceBlocks d else []) ++
      (if (i + 1 == num) = true then [] else breakBlocks d) := by
  unfold pageParts pageBody cfgOf
  simp only [List.flatMap_append, shows_figPl, Bool.true_and, flatMap_ite_single]
  congr 1
  cases (i + 1 == num) <;> simp [renderPiece]

/-- what loop iteration `i` returns for a file of format `fmt` with `bytes`: the rendering of `pageParts` of the abstract
loop, for the picture `pictOf fmt bytes w h` at the size `getDim` selects for position `i` -/
def RendersPage (d : FDoc) (num i : Nat) (fmt : Model.Figure.Fmt) (bytes : List Nat) (r : List BlockG × Nat) : Prop :=
  ∃ w h, getDim d.widths i = some w ∧ getDim d.heights i = some h ∧
    r.1 = (pageParts (cfgOf d) num i (pictOf fmt bytes w h)).flatMap (renderPiece d)

/-- **one loop iteration of the encoder is the rendering of `pageParts`** of the abstract loop -/
theorem figurePieces_render {d : FDoc} {title : List Elem} {num i : Nat} {fmt : Model.Figure.Fmt}
    {bytes : List Nat} (htitle : textElem (ctxF d) d.title = .ok title) :
    Post (RendersPage d num i fmt bytes) (figurePieces (ctxF d) d title num i fmt bytes) := by
  rw [figurePieces_eq]
  refine post_bind ?_ fun s (hs : s = if (d.subline.isSome && d.page.pageTitle.shows (i == 0) (i + 1 == num)) = true
    then sublineBlocks d else []) => ?_
  · exact post_ite (post_map fun es hes => by simp only [sublineBlocks, hes]) (post_pure rfl)
  refine post_bind ?_ fun w (hw : getDim d.widths i = some w) => ?_
  · cases getDim d.widths i with
    | none => exact post_throw
    | some w => exact post_pure rfl
  refine post_bind ?_ fun h (hh : getDim d.heights i = some h) => ?_
  · cases getDim d.heights i with
    | none => exact post_throw
    | some h => exact post_pure rfl
  refine post_bind ?_ fun fn (hfn : fn = if (d.footnote.isSome && d.page.pageFootnote.shows (i == 0) (i + 1 == num)) = true
    then footnoteBlocks d else []) => ?_
  · unfold footnoteBlocks
    cases d.footnote with
    | none => exact post_pure rfl
    | some f =>
      simp only [Option.isSome_some, Bool.true_and]
      exact post_ite (post_map fun es hes => by simp only [hes]) (post_pure rfl)
  refine post_bind ?_ fun src (hsrc : src = if (d.source.isSome && d.page.pageSource.shows (i == 0) (i + 1 == num)) = true
    then sourceBlocks d else []) => ?_
  · unfold sourceBlocks
    cases d.source with
    | none => exact post_pure rfl
    | some f =>
      simp only [Option.isSome_some, Bool.true_and]
      exact post_ite (post_map fun es hes => by simp only [hes]) (post_pure rfl)
  refine post_bind ?_ fun brk (hbrk : brk = if (i + 1 == num) = true then [] else breakBlocks d) => ?_
  · refine post_ite (post_pure rfl) (post_bind (Q := fun ns => pageBreak d.page = .ok ns) (fun ns hns => hns) ?_)
    exact fun ns hns => post_pure (by rw [breakBlocks, hns])
  refine post_pure ⟨w, h, hw, hh, ?_⟩
  rw [pageParts_render, ← hs, ← hfn, ← hsrc, ← hbrk, titleBlocks, htitle]

/-! ## the whole loop -/

/-- the loop of the encoder from position `k0` on is the rendering of the abstract loop from `k0` on -/
theorem loop_render {d : FDoc} {title : List Elem} {num : Nat} (htitle : textElem (ctxF d) d.title = .ok title) :
    ∀ (files : List (Model.Figure.Fmt × List Nat)) (k0 : Nat) (pieces : List (List BlockG × Nat)),
      ((files.zipIdx k0).mapM fun (x : (Model.Figure.Fmt × List Nat) × Nat) =>
        figurePieces (ctxF d) d title num x.2 x.1.1 x.1.2) = .ok pieces →
      ∃ picts : List Pict, picts.length = files.length ∧
        (∀ j x, files[j]? = some x → ∃ w h, getDim d.widths (k0 + j) = some w ∧ getDim d.heights (k0 + j) = some h ∧
          picts[j]? = some (pictOf x.1 x.2 w h)) ∧
        pieces.flatMap (·.1) = (loopFrom (cfgOf d) num k0 picts).flatMap (renderPiece d)
  | [], k0, pieces, h => by
    simp only [List.zipIdx_nil, List.mapM_nil] at h
    cases pure_ok h
    exact ⟨[], rfl, fun j x hx => by simp at hx, rfl⟩
  | x :: files, k0, pieces, h => by
    rw [List.zipIdx_cons, List.mapM_cons] at h
    peel h as pc hpc
    peel h as rest hrest
    cases pure_ok h
    obtain ⟨w, hh, hw, hhh, hpc1⟩ := figurePieces_render (num := num) (i := k0) (fmt := x.1) (bytes := x.2) htitle pc hpc
    obtain ⟨picts, hlen, heach, hflat⟩ := loop_render htitle files (k0 + 1) rest hrest
    refine ⟨pictOf x.1 x.2 w hh :: picts, by simp [hlen], ?_, ?_⟩
    · intro j y hy
      cases j with
      | zero =>
        simp only [List.getElem?_cons_zero, Option.some.injEq] at hy
        subst hy
        exact ⟨w, hh, hw, hhh, rfl⟩
      | succ j =>
        simp only [List.getElem?_cons_succ] at hy ⊢
        obtain ⟨w', h', g1, g2, g3⟩ := heach j y hy
        rw [Nat.add_right_comm] at g1 g2
        exact ⟨w', h', g1, g2, g3⟩
    · rw [List.flatMap_cons, hpc1, hflat, loopFrom, List.flatMap_append]

/-- the pictures of a figure document: one per file, in order; picture `j` is `pictOf` of the file's format (from its
suffix) and bytes at the size `getDim` selects for position `j` -/
structure PictsOf (d : FDoc) (picts : List Pict) : Prop where
  length : picts.length = d.figs.length
  each : ∀ j f, d.figs[j]? = some f → ∃ fmt w h, fmtOfSuffix f.suffix = some fmt ∧
    getDim d.widths j = some w ∧ getDim d.heights j = some h ∧ picts[j]? = some (pictOf fmt f.bytes w h)

theorem PictsOf.ne_nil {d : FDoc} {picts : List Pict} (hP : PictsOf d picts) (hne : d.figs ≠ []) : picts ≠ [] :=
  fun h0 => hne (List.eq_nil_of_length_eq_zero (by rw [← hP.length, h0]; rfl))

/-- **the document of the figure-only encoder is the rendering of the abstract loop**: preamble, then the pieces of
`figureLoop (cfgOf d) picts` rendered with the document's own components, then the closing newlines -/
theorem encodeWithF_render {d : FDoc} {g : DocG} {n : Nat} (h : encodeWithF d = .ok (some g, n)) :
    d.figs ≠ [] ∧ ∃ picts, PictsOf d picts ∧ preambleF (ctxF d) d = .ok g.head ∧
      g.blocks = (figureLoop (cfgOf d) picts).flatMap (renderPiece d) ++ [BlockG.plain [Node.nl, Node.nl]] := by
  rcases encodeWithF_inv h with ⟨_, hx⟩ | ⟨files, title, head, pieces, hne, hfiles, htitle, hhead, hpieces, hx⟩
  · cases hx
  obtain rfl : g = _ := Option.some.inj hx
  have hall := mapM_ok hfiles
  have hflen := all2_length hall
  obtain ⟨picts, hlen, heach, hflat⟩ := loop_render (num := files.length) htitle files 0 pieces hpieces
  refine ⟨fun h0 => by simp [h0] at hne, picts, ⟨by rw [hlen, hflen], ?_⟩, hhead, ?_⟩
  · intro j f hf
    obtain ⟨x, hx, hfx⟩ := all2_get hall j f hf
    split at hfx
    · next fmt hfmt =>
      cases pure_ok hfx
      obtain ⟨w, hh, g1, g2, g3⟩ := heach j _ hx
      rw [Nat.zero_add] at g1 g2
      exact ⟨fmt, w, hh, hfmt, g1, g2, g3⟩
    · exact (throw_ok hfx).elim
  · rw [hflat, figureLoop, hlen]

/-! ## one picture -/

theorem pictOf_fmt (fmt : Model.Figure.Fmt) (bytes : List Nat) (w h : Rat) : (pictOf fmt bytes w h).fmt = fmt := by
  unfold pictOf
  dsimp only
  split <;> rfl

theorem pictOf_goals (fmt : Model.Figure.Fmt) (bytes : List Nat) (w h : Rat) :
    (pictOf fmt bytes w h).wgoal = truncFMul w 1440 ∧ (pictOf fmt bytes w h).hgoal = truncFMul h 1440 := by
  unfold pictOf
  dsimp only
  split <;> exact ⟨rfl, rfl⟩

theorem pictOf_pixels_some (fmt : Model.Figure.Fmt) (bytes : List Nat) (w h : Rat) (t : Nat × Nat)
    (ht : Model.Figure.imageDims fmt bytes = some t) :
    (pictOf fmt bytes w h).picw = t.1 ∧ (pictOf fmt bytes w h).pich = t.2 := by
  unfold pictOf
  dsimp only
  rw [ht]
  simp [Model.Figure.encodeFigure, ht]

theorem pictOf_pixels_none (fmt : Model.Figure.Fmt) (bytes : List Nat) (w h : Rat)
    (ht : Model.Figure.imageDims fmt bytes = none) :
    (pictOf fmt bytes w h).picw = truncFMul w 96 ∧ (pictOf fmt bytes w h).pich = truncFMul h 96 := by
  unfold pictOf
  dsimp only
  rw [ht]
  exact ⟨rfl, rfl⟩

/-! ## the C16 oracle on the encoder's pages -/

open Model.Figure Proofs.Figure in
/-- the page of figure `i` satisfies every clause of the oracle (the goals with the oracle's float tolerance) -/
theorem pageOk_encoder (cfg : Cfg) (n i : Nat) (sfx : List Char) (f : Fmt) (bs : List Nat)
    (tr : Option (Nat × Nat)) (w h : Rat)
    (hf : fmtOfSuffix sfx = some f) (hb : ∀ b ∈ bs, b < 256)
    (hw : 0 < w ∧ w * ((1440 : Nat) : Rat) < pow2 23) (hh : 0 < h ∧ h * ((1440 : Nat) : Rat) < pow2 23)
    (ht : ∀ t, tr = some t → HeaderStates sfx bs t) :
    pageOk cfg n i (⟨sfx, bs, tr, Model.EncodeFigure.sizeOf w, Model.EncodeFigure.sizeOf h⟩ : Want)
      (obsPage (pageBody cfg n i (pictOf f bs w h))) = true := by
  have g := pictOf_goals f bs w h
  refine pageOk_pageBody cfg n i _ _ ?_ ?_ (fun t htr => ?_) ?_ ?_
  · rw [pictOf_payload]
    exact unhex_hexLines bs hb
  · rw [pictOf_fmt]
    exact wantBlip_of_fmt sfx f hf
  · have := pictOf_pixels_some f bs w h t (imageDims_of_header sfx f bs t hf (ht t htr))
    exact Prod.ext this.1 this.2
  · rw [g.1]
    exact Proofs.RoundDouble.goalOkTol_truncFMul w hw.1 1440 (by decide) hw.2
  · rw [g.2]
    exact Proofs.RoundDouble.goalOkTol_truncFMul h hh.1 1440 (by decide) hh.2

/-- the demands of the property on a figure document, with the header truths of the files given -/
def wantsOf (d : FDoc) (truths : List (Option (Nat × Nat))) : List Model.Figure.Want :=
  Model.Figure.wantsFrom (d.widths.map Model.EncodeFigure.sizeOf) (d.heights.map Model.EncodeFigure.sizeOf) 0
    ((d.figs.zip truths).map fun x => (({ suffix := x.1.suffix, bytes := x.1.bytes } : Model.Figure.FigSrc), x.2))

open Model.Figure Proofs.Figure in
theorem pagesOk_encoder (cfg : Cfg) (n : Nat) (ws hs : List Rat)
    (hw : ∀ w ∈ ws, 0 < w ∧ w * ((1440 : Nat) : Rat) < pow2 23)
    (hh : ∀ h ∈ hs, 0 < h ∧ h * ((1440 : Nat) : Rat) < pow2 23) :
    ∀ (figs : List FigFile) (truths : List (Option (Nat × Nat))) (picts : List Pict) (i : Nat),
      truths.length = figs.length → picts.length = figs.length →
      (∀ j f, figs[j]? = some f → ∃ fmt w h, fmtOfSuffix f.suffix = some fmt ∧ getDim ws (i + j) = some w ∧
        getDim hs (i + j) = some h ∧ picts[j]? = some (pictOf fmt f.bytes w h)) →
      (∀ f ∈ figs, ∀ b ∈ f.bytes, b < 256) →
      (∀ (j : Nat) (f : FigFile) (t : Nat × Nat), figs[j]? = some f → truths[j]? = some (some t) → HeaderStates f.suffix f.bytes t) →
      pagesOkFrom cfg n i
        (wantsFrom (ws.map Model.EncodeFigure.sizeOf) (hs.map Model.EncodeFigure.sizeOf) i
          ((figs.zip truths).map fun x => (({ suffix := x.1.suffix, bytes := x.1.bytes } : FigSrc), x.2)))
        ((bodiesFrom cfg n i picts).map obsPage) = true
  | [], truths, picts, i, h1, h2, _, _, _ => by
    have : picts = [] := List.eq_nil_of_length_eq_zero (by simpa using h2)
    subst this
    simp [wantsFrom, bodiesFrom, pagesOkFrom]
  | f :: figs, [], _, _, h1, _, _, _, _ => by simp at h1
  | f :: figs, _ :: _, [], _, _, h2, _, _, _ => by simp at h2
  | f :: figs, tr :: truths, p :: picts, i, h1, h2, hp, hb, ht => by
    obtain ⟨fmt, w, h, hfmt, hgw, hgh, hpic⟩ := hp 0 f rfl
    rw [Nat.add_zero] at hgw hgh
    simp only [List.getElem?_cons_zero, Option.some.injEq] at hpic
    subst hpic
    have ih := pagesOk_encoder cfg n ws hs hw hh figs truths picts (i + 1) (by simpa using h1) (by simpa using h2)
      (fun j g hg => by
        obtain ⟨fmt', w', h', a1, a2, a3, a4⟩ := hp (j + 1) g (by simpa using hg)
        rw [Nat.add_right_comm]
        exact ⟨fmt', w', h', a1, a2, a3, by simpa using a4⟩)
      (fun g hg => hb g (by simp [hg]))
      (fun j g t hg htj => ht (j + 1) g t (by simpa using hg) (by simpa using htj))
    have hpage := pageOk_encoder cfg n i f.suffix fmt f.bytes tr w h hfmt (hb f (by simp))
      (hw w (getDim_mem ws i w hgw)) (hh h (getDim_mem hs i h hgh))
      (fun t htr => ht 0 f t rfl (by rw [htr]; rfl))
    simp only [List.zip_cons_cons, List.map_cons, wantsFrom, getDim_map, hgw, hgh, Option.map_some, bodiesFrom,
      pagesOkFrom, hpage, ih, Bool.and_self]

end Proofs.EncodeFigureLift
