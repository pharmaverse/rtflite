import Model.EncodeMulti
import Proofs.Encode
import Proofs.EncodeLift
import Proofs.EncodeAttrs
import Proofs.Borders
/-!
# The multi-section encoder as a list of single-section encodes

Helper lemmas for `Props/C02encm.lean`:

* `encodeWithM_sections` `encodeWithM` = `encodePages` on every `sectionDoc`, in order, with the document-wide colour
                         context; the output blocks are the chunks of all sections joined by newlines;
* `encodeWithM_traces`   … with a plan and a rendering trace per section (`Proofs.EncodeLift`);
* `encodeWithM_runs`     … with a `Proofs.EncodeAttrs.Run` per section (for the C07 / C08 / C09 theorems);
* `sectionDocs_getElem?` the `i`-th section document;
* `bottom_untouched`     with no closing style (`closingStyle = none`) `_apply_pagination_borders` leaves every bottom
                         border of the page as the user gave it and hands no override to footnote / source.
-/
namespace Proofs.EncodeMultiLift
open Model.Rtf Model.Emit Model.Encode Model.EncodeMulti Model.Layout Proofs.Encode Proofs.EncodeLift
open Proofs.EncodeAttrs (Run encodePages_run)

/-- the colour context of a multi-section document -/
def ctxM (d : MDoc) : ColorCtx := ctxOfColors (colorDocM d)

/-- **structure of `encodeWithM`**: every section document is encoded by `encodePages` with the document-wide colour
context, in order; the blocks are all chunks joined by newlines, followed by the closing newlines.  Stated for any
kind of witness `c` of a successful `encodePages` (`key c` the section document, `val c` its result, `Q c`). -/
theorem encodeWithM_sections {measure : Measure} {d : MDoc} {x : DocG × Nat} {γ : Type} {key : γ → Doc}
    {val : γ → List Elem × Nat} {Q : γ → Prop}
    (hf : ∀ sd r, encodePages measure (ctxM d) sd = .ok r → ∃ c, key c = sd ∧ val c = r ∧ Q c)
    (h : encodeWithM measure d = .ok x) :
    ∃ T : List γ, T.map key = sectionDocs d ∧ (∀ c ∈ T, Q c) ∧
      x.1.blocks = joinElems (T.flatMap fun c => (val c).1) ++ [BlockG.plain [Node.nl, Node.nl, Node.nl, Node.nl]] := by
  unfold encodeWithM at h
  dsimp only at h
  peel h as y hy
  peel h as head hhead
  cases pure_ok h
  unfold encodeSections at hy
  peel hy as parts hparts
  cases pure_ok hy
  obtain ⟨T, h1, rfl, h3⟩ := mapM_witness hf hparts
  exact ⟨T, h1, h3, by rw [List.flatMap_map]⟩

/-- `encodeWithM_sections` with a plan and a rendering trace for every section -/
theorem encodeWithM_traces {measure : Measure} {d : MDoc} {x : DocG × Nat} (h : encodeWithM measure d = .ok x) :
    ∃ T : List (Doc × (Plan × Trace)), T.map Prod.fst = sectionDocs d ∧
      (∀ t ∈ T, plan measure t.1 = .ok t.2.1 ∧ Renders (ctxM d) t.1 t.2.1 t.2.2) ∧
      x.1.blocks = joinElems (T.flatMap fun t => t.2.2.elems) ++
        [BlockG.plain [Node.nl, Node.nl, Node.nl, Node.nl]] := by
  refine encodeWithM_sections (val := fun t : Doc × (Plan × Trace) => (t.2.2.elems, t.2.1.near)) (fun sd r hr => ?_) h
  obtain ⟨pl, R, a1, a2, a3, a4⟩ := encodePages_trace.mp hr
  exact ⟨(sd, pl, R), rfl, by rw [← a3, ← a4], a1, a2⟩

/-- `encodeWithM_sections` with a `Run` (all intermediate values of `encodePages`) for every section -/
theorem encodeWithM_runs {measure : Measure} {d : MDoc} {x : DocG × Nat} (h : encodeWithM measure d = .ok x) :
    ∃ Rs : List (Sigma fun sd : Doc => Run measure (ctxM d) sd), Rs.map (·.1) = sectionDocs d ∧
      x.1.blocks = joinElems (Rs.flatMap fun r => r.2.ess.flatten) ++
        [BlockG.plain [Node.nl, Node.nl, Node.nl, Node.nl]] := by
  obtain ⟨Rs, h1, _, h3⟩ := encodeWithM_sections (γ := Sigma fun sd : Doc => Run measure (ctxM d) sd) (key := (·.1))
    (val := fun r => (r.2.ess.flatten, r.2.near)) (Q := fun _ => True)
    (fun sd r hr => by
      obtain ⟨R, a1, a2⟩ := encodePages_run hr
      exact ⟨⟨sd, R⟩, rfl, by rw [← a2, a1], trivial⟩) h
  exact ⟨Rs, h1, h3⟩

/-! ## the section documents -/

theorem sectionDocs_length (d : MDoc) : (sectionDocs d).length = d.sections.length := by
  unfold sectionDocs
  rw [List.length_map, List.length_zipIdx]

theorem sectionDocs_getElem? (d : MDoc) (i : Nat) :
    (sectionDocs d)[i]? = d.sections[i]?.map fun s => sectionDoc d d.sections.length i s := by
  unfold sectionDocs
  rw [List.getElem?_map, List.getElem?_zipIdx]
  cases d.sections[i]? with
  | none => rfl
  | some s => simp

/-! ## no closing style: the bottom borders stay the user's -/

open Model.Borders Proofs.Borders Model.Broadcast in
theorem bottom_untouched (b : BorderIn) (hne : b.height ≠ 0) (hg : Proofs.Broadcast.Good b.bottom)
    (hs : closingStyle b = none) :
    (∀ i c, i < b.height → bottomAt (applyBorders b) i c = b.bottom.iloc (b.start + i) c) ∧
    (applyBorders b).fnOverride = none ∧ (applyBorders b).srcOverride = none := by
  rw [applyBorders_none b hne hs]
  exact ⟨fun i c hi => bot0_iloc hg hi c, rfl, rfl⟩

end Proofs.EncodeMultiLift
