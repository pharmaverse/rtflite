import Model.Assemble
/-! Helper lemmas for C17 (`assemble_rtf`). Core Lean only. -/
namespace Proofs.Assemble
open Model.Assemble

-- `decide` compares outcomes of `assembleLines` (`Except Err File`) in the examples and witnesses of `Props/C17.lean`
deriving instance DecidableEq for Except

/-! ## the font-table scan -/

/-- lines without `fcharset` before the font table only advance the index -/
theorem scanFont_none_pre (pre xs : File) (hp : ∀ l ∈ pre, hasFc l = false) :
    ∀ i, scanFont i none (pre ++ xs) = scanFont (i + pre.length) none xs := by
  induction pre with
  | nil =>
    intro i
    rfl
  | cons l pre ih =>
    intro i
    have hl : hasFc l = false := hp l List.mem_cons_self
    simp only [List.cons_append, scanFont, hl, Bool.false_eq_true, if_false, List.length_cons]
    rw [ih (fun x hx => hp x (List.mem_cons_of_mem _ hx)), Nat.add_assoc, Nat.add_comm 1]

theorem scanFont_none_all (xs : File) (hp : ∀ l ∈ xs, hasFc l = false) :
    ∀ i, scanFont i none xs = none := by
  intro i
  rw [← List.append_nil xs, scanFont_none_pre xs [] hp]
  rfl

theorem scanFont_cons_fc {l : Line} (h : hasFc l = true) (i : Nat) (last : Option Nat) (ls : File) :
    scanFont i last (l :: ls) = scanFont (i + 1) (some i) ls := by
  simp only [scanFont, h, if_true]

/-- from the first font-table line at index `i` the loop runs through the font table and stops at the line
`c` after it, whatever it remembered before -/
theorem scanFont_font (font : File) (c : Line) (r : File) (hc : hasFc c = false) :
    ∀ l i last, (∀ x ∈ l :: font, hasFc x = true) →
      scanFont i last (l :: font ++ c :: r) = some (i + font.length) := by
  induction font with
  | nil =>
    intro l i last hf
    simp [scanFont_cons_fc (hf l List.mem_cons_self), scanFont, hc]
  | cons l' font ih =>
    intro l i last hf
    rw [List.cons_append, scanFont_cons_fc (hf l List.mem_cons_self),
      ih l' (i + 1) _ (fun x hx => hf x (List.mem_cons_of_mem _ hx)), List.length_cons, Nat.add_assoc,
      Nat.add_comm 1]

/-- the conditions of `Shaped.ok`, unpacked -/
structure Ok (s : Shaped) : Prop where
  pre : ∀ l ∈ s.pre, hasFc l = false
  fontNe : s.font ≠ []
  font : ∀ l ∈ s.font, hasFc l = true
  close : hasFc s.close = false
  last : stripsToBrace s.last = true

theorem ok_iff (s : Shaped) : s.ok = true ↔ Ok s := by
  simp only [Shaped.ok, Bool.and_eq_true, List.all_eq_true, Bool.not_eq_true', and_assoc]
  exact ⟨fun ⟨h1, h2, h3, h4, h5⟩ => ⟨h1, by simpa using h2, h3, h4, h5⟩,
    fun h => ⟨h.pre, by simpa using h.fontNe, h.font, h.close, h.last⟩⟩

theorem allOk_iff {ss : List Shaped} : (∀ t ∈ ss, t.ok = true) ↔ ∀ t ∈ ss, Ok t :=
  ⟨fun h t ht => (ok_iff t).mp (h t ht), fun h t ht => (ok_iff t).mpr (h t ht)⟩

theorem file_nested (s : Shaped) : s.file = s.pre ++ (s.font ++ (s.close :: (s.mid ++ [s.last]))) := by
  simp [Shaped.file, List.append_assoc]

theorem scanFont_shaped (s : Shaped) (h : Ok s) :
    scanFont 0 none s.file = some (s.pre.length + s.font.length - 1) := by
  obtain ⟨l, font', hfont⟩ := List.exists_cons_of_ne_nil h.fontNe
  rw [file_nested, scanFont_none_pre _ _ h.pre, hfont,
    scanFont_font font' _ _ h.close l _ _ (hfont ▸ h.font)]
  simp

/-- the body starts after the line `c` that follows the last font-table line; what follows the first `}` of
`c` is the leftover -/
theorem findBodyStart_of_scan (a : File) (c : Line) (b : File) (k : Nat) (hk : a.length = k + 1)
    (h : scanFont 0 none (a ++ c :: b) = some k) :
    findBodyStart (a ++ c :: b) = (a.length + 1, leftoverOf c) := by
  have hlt : k + 1 < (a ++ c :: b).length := by
    rw [List.length_append, List.length_cons]
    omega
  unfold findBodyStart
  rw [h]
  simp only
  rw [if_pos hlt, ← hk, List.getD_eq_getElem?_getD, List.getElem?_append_right (Nat.le_refl _), Nat.sub_self,
    hk]
  rfl

theorem findBodyStart_shaped (s : Shaped) (h : Ok s) :
    findBodyStart s.file = (s.pre.length + s.font.length + 1, leftoverOf s.close) := by
  have hpos : 0 < s.font.length := List.length_pos_iff.mpr h.fontNe
  have hs := scanFont_shaped s h
  rw [file_nested, ← List.append_assoc] at hs ⊢
  rw [findBodyStart_of_scan _ _ _ _ (by rw [List.length_append]; omega) hs, List.length_append]

/-! ## slices -/

theorem slice_zero_length {α} (l : List α) : slice l 0 l.length = l := by
  simp [slice]

theorem slice_init {α} (a : List α) (x : α) : slice (a ++ [x]) 0 ((a ++ [x]).length - 1) = a := by
  simp [slice]

theorem slice_from {α} (a b : List α) (n e : Nat) (hn : n = a.length) (he : e = (a ++ b).length) :
    slice (a ++ b) n e = b := by
  subst hn he
  rw [slice, List.take_of_length_le (Nat.le_refl _), List.drop_left]

theorem slice_from_init {α} (a b : List α) (x : α) (n e : Nat) (hn : n = a.length)
    (he : e = (a ++ (b ++ [x])).length - 1) :
    slice (a ++ (b ++ [x])) n e = b := by
  subst hn he
  have : (a ++ (b ++ [x])).length - 1 = (a ++ b).length := by simp
  rw [this, ← List.append_assoc, slice, List.take_left']
  · simp
  · rfl

/-! ## one loop iteration on shaped inputs -/

theorem file_eq_init (s : Shaped) : s.file = s.init ++ [s.last] := by
  simp [Shaped.file, Shaped.init, List.append_assoc]

theorem part_first_last (f : File) : part true true f = .ok f := by
  simp [part, slice_zero_length, pure, Except.pure]

theorem file_split (s : Shaped) :
    s.file = (s.pre ++ s.font ++ [s.close]) ++ (s.mid ++ [s.last]) := by
  simp [Shaped.file, List.append_assoc]

/-- one loop iteration on a shaped input: the first input gives its lines, a later one its body (without the
last line), followed by the last line (last input) or `\page` -/
theorem part_shaped (s : Shaped) (h : Ok s) (first last : Bool) :
    part first last s.file =
      .ok ((if first then s.init else s.body) ++ [if last then s.last else pageCmd]) := by
  have hl : s.file.getLast? = some s.last := by rw [file_eq_init]; simp
  cases first <;> cases last
  · simp only [part, Bool.false_eq_true, if_false, findBodyStart_shaped s h, hl, h.last, if_true]
    rw [file_split, slice_from_init _ _ _ _ _ (by simp; omega) rfl]
    simp [Shaped.body, pure, Except.pure, List.append_assoc]
  · simp only [part, Bool.false_eq_true, if_false, if_true, findBodyStart_shaped s h]
    rw [file_split, slice_from _ _ _ _ (by simp; omega) rfl]
    simp [Shaped.body, pure, Except.pure, List.append_assoc]
  · simp only [part, if_true, Bool.false_eq_true, if_false, hl, h.last, List.nil_append]
    rw [file_eq_init, slice_init]
    rfl
  · simp only [part_first_last, if_true, file_eq_init]

/-! ## the whole loop -/

theorem lastOf_mem (s : Shaped) (rest : List Shaped) : lastOf s rest ∈ s :: rest := by
  induction rest generalizing s with
  | nil => simp [lastOf]
  | cons t rest ih =>
    have := ih t
    simp only [lastOf]
    exact List.mem_cons_of_mem _ this

/-- the loop from the input `t` on; `first` says whether `t` is the first input -/
theorem assembleAux_shaped (first : Bool) (t : Shaped) (rest : List Shaped) (h : ∀ s ∈ t :: rest, Ok s) :
    assembleAux first ((t :: rest).map Shaped.file) =
      .ok ((if first then t.init else t.body) ++ tailLines rest ++ [(lastOf t rest).last]) := by
  induction rest generalizing t first with
  | nil =>
    simp only [List.map_cons, List.map_nil, assembleAux, tailLines, List.flatMap_nil, List.append_nil,
      lastOf]
    exact part_shaped t (h t (by simp)) first true
  | cons u rest ih =>
    have hu := ih false u (fun s hs => h s (List.mem_cons_of_mem _ hs))
    simp only [List.map_cons] at hu ⊢
    simp only [assembleAux, part_shaped t (h t (by simp)) first false, hu]
    simp [tailLines, lastOf, List.append_assoc]

/-! ## brace structure -/

theorem runB_append (s : BState) (a b : List Char) : runB s (a ++ b) = runB (runB s a) b := by
  simp [runB, List.foldl_append]

theorem inside_append (s : BState) (a b : List Char) :
    inside s (a ++ b) = (inside s a && inside (runB s a) b) := by
  induction a generalizing s with
  | nil => simp [inside, runB]
  | cons c a ih => simp [inside, runB, ih, Bool.and_assoc]

/-- white space is none of `\\`, `{`, `}`: outside an escape it leaves the scanner state alone -/
theorem bstep_space (s : BState) (c : Char) (hs : s.esc = false) (h : isPySpace c = true) :
    bstep s c = s := by
  have h1 : c ≠ '\\' := by rintro rfl; exact absurd h (by decide)
  have h2 : c ≠ '{' := by rintro rfl; exact absurd h (by decide)
  have h3 : c ≠ '}' := by rintro rfl; exact absurd h (by decide)
  simp [bstep, hs, h1, h2, h3]

theorem runB_blank (s : BState) (ws : List Char) (hs : s.esc = false)
    (h : ∀ c ∈ ws, isPySpace c = true) : runB s ws = s := by
  induction ws with
  | nil => rfl
  | cons c ws ih =>
    have hc := bstep_space s c hs (h c (by simp))
    simp only [runB, List.foldl_cons, hc]
    exact ih (fun x hx => h x (by simp [hx]))

theorem inside_blank (s : BState) (ws : List Char) (hs : s.esc = false) (hd : 1 ≤ s.depth)
    (h : ∀ c ∈ ws, isPySpace c = true) : inside s ws = true := by
  induction ws with
  | nil => rfl
  | cons c ws ih =>
    have hc := bstep_space s c hs (h c (by simp))
    simp only [inside, hc, hd, decide_true, Bool.true_and]
    exact ih (fun x hx => h x (by simp [hx]))

/-- when what `dropWhile p` leaves satisfies `p` throughout, the whole list does -/
theorem all_of_dropWhile {α} (p : α → Bool) (l : List α) (h : ∀ a ∈ l.dropWhile p, p a = true) :
    ∀ a ∈ l, p a = true := by
  induction l with
  | nil => exact h
  | cons b l ih =>
    by_cases hb : p b = true
    · rw [List.dropWhile_cons_of_pos hb] at h
      intro a ha
      rcases List.mem_cons.mp ha with rfl | ha
      · exact hb
      · exact ih h a ha
    · rwa [List.dropWhile_cons_of_neg hb] at h

theorem strip_nil (l : Line) (h : strip l = []) : ∀ c ∈ l, isPySpace c = true := by
  simp only [strip, rstrip, lstrip, List.reverse_eq_nil_iff] at h
  have h1 := all_of_dropWhile isPySpace _ (fun a ha => by rw [h] at ha; cases ha)
  exact all_of_dropWhile isPySpace l fun a ha => h1 a (List.mem_reverse.mpr ha)

/-- a line that strips to `}` is white space, `}`, white space -/
theorem strips_form (l : Line) (h : stripsToBrace l = true) :
    ∃ a b, l = a ++ '}' :: b ∧ (∀ c ∈ a, isPySpace c = true) ∧ (∀ c ∈ b, isPySpace c = true) := by
  simp only [stripsToBrace, strip, rstrip, lstrip, beq_iff_eq, List.reverse_eq_iff] at h
  -- `l` is its leading blanks and the rest; the rest reversed is its leading blanks and `}`
  have hm : '}' :: ((l.dropWhile isPySpace).reverse.takeWhile isPySpace).reverse = l.dropWhile isPySpace := by
    have := congrArg List.reverse
      (List.takeWhile_append_dropWhile (p := isPySpace) (l := (l.dropWhile isPySpace).reverse))
    simpa [h] using this
  refine ⟨l.takeWhile isPySpace, ((l.dropWhile isPySpace).reverse.takeWhile isPySpace).reverse, ?_,
    List.all_eq_true.mp List.all_takeWhile, fun c hc => ?_⟩
  · rw [hm, List.takeWhile_append_dropWhile]
  · exact List.all_eq_true.mp List.all_takeWhile c (List.mem_reverse.mp hc)

theorem upto_after (l : Line) : uptoFirstBrace l ++ afterFirstBrace l = l := by
  induction l with
  | nil => rfl
  | cons c cs ih =>
    by_cases hc : c = '}'
    · simp [uptoFirstBrace, afterFirstBrace, hc]
    · simp [uptoFirstBrace, afterFirstBrace, hc, ih]

theorem wellFormed_snoc (init : File) (last : Line) :
    wellFormedDoc (init ++ [last]) = true ↔
      stripsToBrace last = true ∧ inside s0 init.flatten = true ∧ runB s0 init.flatten = s1 := by
  simp [wellFormedDoc, and_assoc]

/-- the part of an input after the first that is copied is balanced on its own, at depth 1 -/
theorem body_balanced (s : Shaped) (hb : s.headBalanced = true) (hw : wellFormedDoc s.file = true) :
    inside s1 s.body.flatten = true ∧ runB s1 s.body.flatten = s1 := by
  rw [file_eq_init, wellFormed_snoc] at hw
  obtain ⟨_, hin, hrun⟩ := hw
  have hhead : runB s0 s.headChars = s1 := by simpa [Shaped.headBalanced] using hb
  have hinit : s.init.flatten = s.headChars ++ (afterFirstBrace s.close ++ s.mid.flatten) := by
    simp only [Shaped.init, Shaped.headChars, List.flatten_append, List.flatten_cons,
      List.append_assoc]
    congr 2
    rw [← List.append_assoc, upto_after]
  rw [hinit, inside_append, hhead] at hin
  rw [hinit, runB_append, hhead] at hrun
  simp only [Bool.and_eq_true] at hin
  have hin := hin.2
  by_cases hs : strip (afterFirstBrace s.close) = []
  · have hws := strip_nil _ hs
    have hbody : s.body.flatten = s.mid.flatten := by simp [Shaped.body, leftoverOf, hs]
    rw [inside_append, runB_blank s1 _ rfl hws] at hin
    rw [runB_append, runB_blank s1 _ rfl hws] at hrun
    simp only [Bool.and_eq_true] at hin
    rw [hbody]
    exact ⟨hin.2, hrun⟩
  · have hbody : s.body.flatten = afterFirstBrace s.close ++ s.mid.flatten := by
      simp [Shaped.body, leftoverOf, hs]
    rw [hbody]
    exact ⟨hin, hrun⟩

/-- text that stays inside and returns to the state it started in can be repeated -/
theorem balanced_append {s : BState} {a b : List Char} (ha : inside s a = true ∧ runB s a = s)
    (hb : inside s b = true ∧ runB s b = s) : inside s (a ++ b) = true ∧ runB s (a ++ b) = s := by
  rw [inside_append, runB_append, ha.1, ha.2, hb.1, hb.2]
  exact ⟨rfl, rfl⟩

theorem tail_balanced (rest : List Shaped)
    (h : ∀ t ∈ rest, t.headBalanced = true ∧ wellFormedDoc t.file = true) :
    inside s1 (tailLines rest).flatten = true ∧ runB s1 (tailLines rest).flatten = s1 := by
  induction rest with
  | nil => exact ⟨rfl, rfl⟩
  | cons t rest ih =>
    have hfl : (tailLines (t :: rest)).flatten =
        pageCmd ++ (t.body.flatten ++ (tailLines rest).flatten) := by
      simp [tailLines, List.flatten_append]
    rw [hfl]
    exact balanced_append (a := pageCmd) (by decide)
      (balanced_append (body_balanced t (h t (by simp)).1 (h t (by simp)).2)
        (ih (fun x hx => h x (by simp [hx]))))

theorem expected_wellFormed (s : Shaped) (rest : List Shaped)
    (hok : ∀ t ∈ s :: rest, Ok t) (hw : wellFormedDoc s.file = true)
    (h : ∀ t ∈ rest, t.headBalanced = true ∧ wellFormedDoc t.file = true) :
    wellFormedDoc (expected (s :: rest)) = true := by
  rw [file_eq_init, wellFormed_snoc] at hw
  obtain ⟨_, hin, hrun⟩ := hw
  obtain ⟨hti, htr⟩ := tail_balanced rest h
  simp only [expected]
  rw [wellFormed_snoc]
  refine ⟨(hok _ (lastOf_mem s rest)).last, ?_, ?_⟩
  · rw [List.flatten_append, inside_append, hin, hrun, hti]
    rfl
  · rw [List.flatten_append, runB_append, hrun, htr]

/-! ## `decompose` is the cut the theorems talk about -/

/-- cutting `x ++ y :: z` where `p` holds throughout `x` and fails at `y` -/
theorem span_cut {α} (p : α → Bool) (x : List α) (y : α) (z : List α)
    (hx : ∀ a ∈ x, p a = true) (hy : p y = false) :
    (x ++ y :: z).takeWhile p = x ∧ (x ++ y :: z).dropWhile p = y :: z := by
  have hy' : ¬ p y = true := by simp [hy]
  rw [List.takeWhile_append_of_pos hx, List.dropWhile_append_of_pos hx, List.takeWhile_cons_of_neg hy',
    List.dropWhile_cons_of_neg hy', List.append_nil]
  exact ⟨rfl, rfl⟩

theorem decompose_file (s : Shaped) (h : Ok s) : decompose s.file = some s := by
  obtain ⟨l, font', hfont⟩ := List.exists_cons_of_ne_nil h.fontNe
  obtain ⟨t1, d1⟩ := span_cut (fun l => !hasFc l) s.pre l (font' ++ s.close :: (s.mid ++ [s.last]))
    (fun a ha => by simp [h.pre a ha]) (by simp [h.font l (by simp [hfont])])
  obtain ⟨t2, d2⟩ := span_cut hasFc s.font s.close (s.mid ++ [s.last]) h.font h.close
  rw [← List.cons_append, ← hfont] at t1 d1
  unfold decompose
  simp only [file_nested, t1, d1, t2, d2, List.getLast?_append, List.getLast?_singleton, Option.some_or,
    List.dropLast_concat]
  rw [if_pos ((ok_iff _).mpr h)]

/-! ## each later input sits in the output as one block, right after a `\page` line -/

theorem tailLines_append (a b : List Shaped) : tailLines (a ++ b) = tailLines a ++ tailLines b := by
  simp [tailLines, List.flatMap_append]

theorem lastOf_append_cons (s : Shaped) (r1 : List Shaped) (t : Shaped) (r2 : List Shaped) :
    lastOf s (r1 ++ t :: r2) = lastOf t r2 := by
  induction r1 generalizing s with
  | nil => rfl
  | cons a r1 ih => exact ih a

theorem expected_split (s : Shaped) (r1 : List Shaped) (t : Shaped) (r2 : List Shaped) :
    expected (s :: (r1 ++ t :: r2)) =
      (s.init ++ tailLines r1) ++ (pageCmd :: t.body) ++ (tailLines r2 ++ [(lastOf t r2).last]) := by
  simp only [expected, tailLines_append, lastOf_append_cons]
  simp [tailLines, List.append_assoc]

/-! ## closure: the output has the input shape again -/

theorem assembled_file (s : Shaped) (rest : List Shaped) :
    (assembled s rest).file = expected (s :: rest) := by
  simp [assembled, Shaped.file, expected, Shaped.init, List.append_assoc]

theorem assembled_ok (s : Shaped) (rest : List Shaped) (h : ∀ t ∈ s :: rest, Ok t) :
    Ok (assembled s rest) := by
  have hs := h s (by simp)
  exact ⟨hs.pre, hs.fontNe, hs.font, hs.close, (h _ (lastOf_mem s rest)).last⟩

theorem expected_nested (s : Shaped) (rest more : List Shaped) :
    expected (assembled s rest :: more) = expected (s :: (rest ++ more)) := by
  have hl : (lastOf (assembled s rest) more).last = (lastOf s (rest ++ more)).last := by
    cases more with
    | nil => simp [lastOf, assembled]
    | cons m more =>
      rw [lastOf_append_cons]
      rfl
  simp only [expected, hl, tailLines_append]
  simp [assembled, Shaped.init, List.append_assoc]

/-! ## the call over the file system -/

theorem filterMap_eq_map {α} (fs : α → Option File) (inputs : List α) :
    inputs.filterMap fs = (inputs.map fs).filterMap id := by
  rw [List.filterMap_map]
  rfl

theorem filter_none_nil {α} (fs : α → Option File) (inputs : List α) (cs : List File)
    (h : inputs.map fs = cs.map some) :
    inputs.filter (fun p => (fs p).isNone) = [] ∧ inputs.filterMap fs = cs := by
  constructor
  · rw [List.filter_eq_nil_iff]
    intro p hp hn
    obtain ⟨c, _, hc⟩ := List.mem_map.mp (h ▸ List.mem_map_of_mem (f := fs) hp)
    rw [← hc] at hn
    cases hn
  · rw [filterMap_eq_map, h, List.filterMap_map]
    exact List.filterMap_some

/-! ## names: the outcome is a function of the contents found under the listed names -/

/-- how a call ended, without the names: 0 returned, 1 FileNotFoundError, 2 IndexError -/
def Result.kind {α : Type} : Result α → Nat
  | .returned => 0
  | .fileNotFound _ => 1
  | .indexError => 2

/-- the name-free part of the outcome, computed from the contents alone -/
def kindOf (cs : List (Option File)) : Nat × Option File :=
  if cs.isEmpty then (0, none) else
  if cs.any Option.isNone then (1, none) else
  if (cs.filterMap id).isEmpty then (0, none) else
  match assembleLines (cs.filterMap id) with
  | .error _ => (2, none)
  | .ok ls => (0, some ls)

theorem filter_isNone_isEmpty {α} (fs : α → Option File) (inputs : List α) :
    (inputs.filter (fun p => (fs p).isNone)).isEmpty = !(inputs.map fs).any Option.isNone := by
  induction inputs with
  | nil => rfl
  | cons p inputs ih =>
    cases hp : fs p with
    | none => simp [hp]
    | some f => simpa [hp] using ih

theorem assembleRtf_kind {α : Type} (fs : α → Option File) (inputs : List α) :
    (Result.kind (assembleRtf fs inputs).result, (assembleRtf fs inputs).written) = kindOf (inputs.map fs) := by
  simp only [assembleRtf, kindOf, ← filterMap_eq_map, filter_isNone_isEmpty, Bool.not_not, List.isEmpty_map]
  split
  · rfl
  split
  · rfl
  split
  · rfl
  cases assembleLines (inputs.filterMap fs) <;> rfl

theorem kind_returned {α : Type} (r : Result α) : r = .returned ↔ Result.kind r = 0 := by
  cases r <;> simp [Result.kind]

theorem kind_indexError {α : Type} (r : Result α) : r = .indexError ↔ Result.kind r = 2 := by
  cases r <;> simp [Result.kind]

theorem read_append_of_not_key {α : Type} [DecidableEq α] (decoys d : Fs α) (p : α)
    (h : ∀ e ∈ decoys, e.1 ≠ p) : Fs.read (decoys ++ d) p = Fs.read d p := by
  induction decoys with
  | nil => rfl
  | cons e decoys ih =>
    obtain ⟨q, f⟩ := e
    have hq : q ≠ p := h (q, f) (by simp)
    have hr := ih (fun e he => h e (by simp [he]))
    simp only [List.cons_append, Fs.read, hq, if_false, hr]

end Proofs.Assemble
