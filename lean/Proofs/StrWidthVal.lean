import Model.StrWidth
import Proofs.StrWidth
/-! Helper lemmas for the value-level model of `get_string_width` (C20, `Props/C20val.lean`); core Lean only. -/
namespace Proofs.StrWidthVal
open Model.StrWidth Proofs.StrWidth Generated

/-! ## the documented names / numbers are exactly the generated tables -/

theorem spec_tables :
    fontPaths.map (·.1) = specFontNames ∧
    fontNumberToName = (List.range 10).map (fun k => (k + 1, specFontNames.getD k "")) := by
  decide +kernel

theorem fontPaths_none {s : String} (h : s ∉ specFontNames) : fontPaths.lookup s = none := by
  rw [← spec_tables.1] at h
  exact List.lookup_eq_none_iff.mpr fun p hp => bne_iff_ne.mpr fun hs => h (List.mem_map.mpr ⟨p, hp, hs.symm⟩)

theorem fontPaths_some {s : String} (h : s ∈ specFontNames) : ∃ p, fontPaths.lookup s = some p := by
  rw [← spec_tables.1] at h
  obtain ⟨p, hp, hs⟩ := List.mem_map.mp h
  exact Option.isSome_iff_exists.mp (List.lookup_isSome_iff.mpr ⟨p, hp, beq_iff_eq.mpr hs.symm⟩)

/-- a supported font number resolves to a documented name -/
def okName (i : Int) : Bool :=
  match fontName (.num i) with
  | .ok nm => specFontNames.contains nm
  | .error _ => false

theorem fontName_supported {i : Int} (h1 : 1 ≤ i) (h10 : i ≤ 10) :
    ∃ nm, fontName (.num i) = .ok nm ∧ nm ∈ specFontNames := by
  have : i = 1 ∨ i = 2 ∨ i = 3 ∨ i = 4 ∨ i = 5 ∨ i = 6 ∨ i = 7 ∨ i = 8 ∨ i = 9 ∨ i = 10 := by omega
  have hk : okName i = true := by
    rcases this with h | h | h | h | h | h | h | h | h | h <;> subst h <;> decide +kernel
  unfold okName at hk
  cases hn : fontName (.num i) with
  | ok nm => exact ⟨nm, rfl, by simpa [hn] using hk⟩
  | error e => simp [hn] at hk

/-! ## the font stage by class -/

theorem fontPathV_free {v : Val} (h : v.hashable = false) : fontPathV v = .error .typeError := by
  cases v <;> simp_all [Val.hashable, fontPathV, fontKeyV, Val.pyInt?, strKeyLookup]

theorem fontPathV_int_supported {i : Int} (h1 : 1 ≤ i) (h10 : i ≤ 10) : ∃ p, fontPathV (.int i) = .ok p := by
  obtain ⟨nm, hn, hs⟩ := fontName_supported h1 h10
  obtain ⟨p, hp⟩ := fontPaths_some hs
  exact ⟨p, by simp [fontPathV, fontKeyV, Val.pyInt?, hn, strKeyLookup, Val.hashable, Val.str?, hp]⟩

theorem fontPathV_int_unsupported {i : Int} (h : i < 1 ∨ 10 < i) : fontPathV (.int i) = .error .valueError := by
  simp [fontPathV, fontKeyV, Val.pyInt?, fontName_unsupported h]

/-- the font stage by value class: an `int` (or `bool`) is a font number, a hashable `str` a font name of the
typed model; any other hashable value is no key of the path table -/
theorem fontPathV_eq (v : Val) : fontPathV v =
    match v.pyInt? with
    | some n => fontPath (.num n)
    | none =>
      if v.hashable then
        match v.str? with
        | some s => fontPath (.name s)
        | none => .error .valueError
      else .error .typeError := by
  have hname : ∀ s, (match strKeyLookup fontPaths (.str s) with
      | .error e => .error e
      | .ok (some p) => .ok p
      | .ok none => .error .valueError) = fontPath (.name s) := by
    intro s
    simp only [strKeyLookup, Val.hashable, Val.str?, fontPath, fontName, bind, Except.bind, if_true]
    cases fontPaths.lookup s <;> rfl
  cases v with
  | int i | bool b =>
    simp only [fontPathV, fontKeyV, Val.pyInt?, fontPath, bind, Except.bind]
    cases fontName (.num _) with
    | error e => rfl
    | ok nm => exact hname nm
  | str s | npStr s => exact hname s
  | tuple hh => cases hh <;> rfl
  | _ => rfl

/-- a hashable value is either accepted or refused with `ValueError` — never anything else -/
theorem fontPathV_hashable {v : Val} (h : v.hashable = true) :
    (∃ p, fontPathV v = .ok p) ∨ fontPathV v = .error .valueError := by
  have hp : ∀ a, (∃ p, fontPath a = .ok p) ∨ fontPath a = .error .valueError := fun a => by
    cases ha : fontPath a with
    | ok p => exact .inl ⟨p, rfl⟩
    | error e => exact .inr (fontPath_error ha ▸ rfl)
  rw [fontPathV_eq, h]
  cases v.pyInt? with
  | some n => exact hp _
  | none =>
    cases v.str? with
    | some s => exact hp _
    | none => exact .inr rfl

theorem fontPathV_supported {v : Val} (h : fontClass v = .supported) : ∃ p, fontPathV v = .ok p := by
  cases v with
  | int i =>
    by_cases hi : 1 ≤ i ∧ i ≤ 10
    · exact fontPathV_int_supported hi.1 hi.2
    · simp [fontClass, Val.hashable, hi] at h
  | str s =>
    by_cases hs : s ∈ specFontNames
    · obtain ⟨p, hp⟩ := fontPaths_some hs
      exact ⟨p, by simp [fontPathV, fontKeyV, Val.pyInt?, strKeyLookup, Val.hashable, Val.str?, hp]⟩
    · simp [fontClass, Val.hashable, hs] at h
  | tuple hh => cases hh <;> simp [fontClass, Val.hashable, Val.num?] at h
  | _ =>
    exfalso
    revert h
    simp only [fontClass, Val.hashable, Val.num?]
    repeat' split
    all_goals simp

theorem fontPathV_unsupported {v : Val} (h : fontClass v = .unsupported) : fontPathV v = .error .valueError := by
  cases v with
  | int i =>
    by_cases hi : 1 ≤ i ∧ i ≤ 10
    · simp [fontClass, Val.hashable, hi] at h
    · exact fontPathV_int_unsupported (by omega)
  | bool b =>
    cases b
    · exact (by simpa [fontPathV, fontKeyV, Val.pyInt?] using fontPathV_int_unsupported (i := 0) (by omega))
    · exfalso
      revert h
      decide +kernel
  | str s | npStr s =>
    by_cases hs : s ∈ specFontNames
    · simp [fontClass, Val.hashable, hs] at h
    · have := fontPaths_none hs
      simp [fontPathV, fontKeyV, Val.pyInt?, strKeyLookup, Val.hashable, Val.str?, this]
  | tuple hh =>
    cases hh
    · simp [fontClass, Val.hashable] at h
    · simp [fontPathV, fontKeyV, Val.pyInt?, strKeyLookup, Val.hashable, Val.str?]
  | list => simp [fontClass, Val.hashable] at h
  | ndarray => simp [fontClass, Val.hashable] at h
  | _ => simp [fontPathV, fontKeyV, Val.pyInt?, strKeyLookup, Val.hashable, Val.str?]

/-! ## the unit stage by class -/

theorem convertV_free {u : Val} (h : u.hashable = false) (dpi : Val) (px : Rat) :
    convertV u dpi px = .raises .typeError := by
  simp [convertV, h]

theorem unit_str_cases (s : String) : s ∈ specUnits ↔ (s = "px" ∨ s = "in" ∨ s = "mm") := by
  simp only [specUnits, List.mem_cons, List.not_mem_nil, or_false]
  constructor
  · rintro (h | h | h) <;> simp [h]
  · rintro (h | h | h) <;> simp [h]

theorem convertV_str_unsupported {s : String} (hs : s ∉ specUnits) (u : Val) (hu : u.str? = some s)
    (hh : u.hashable = true) (dpi : Val) (px : Rat) : convertV u dpi px = .raises .valueError := by
  have := (not_congr (unit_str_cases s)).mp hs
  simp only [not_or] at this
  simp [convertV, hh, hu, this.1, this.2.1, this.2.2]

/-- an unsupported unit is a `ValueError` **whatever the dpi value is** (it is never looked at) -/
theorem convertV_unsupported {u : Val} (h : unitClass u = .unsupported) (dpi : Val) (px : Rat) :
    convertV u dpi px = .raises .valueError := by
  cases u with
  | str s | npStr s =>
    by_cases hs : s ∈ specUnits
    · simp [unitClass, Val.hashable, hs] at h
    · exact convertV_str_unsupported hs _ rfl rfl dpi px
  | tuple hh =>
    cases hh
    · simp [unitClass, Val.hashable] at h
    · simp [convertV, Val.hashable, Val.str?]
  | list => simp [unitClass, Val.hashable] at h
  | ndarray => simp [unitClass, Val.hashable] at h
  | _ => simp [convertV, Val.hashable, Val.str?]

theorem unitClass_str {u : Val} (h : unitClass u = .supported ∨ unitClass u = .lenient) :
    ∃ s, u.str? = some s ∧ u.hashable = true ∧ s ∈ specUnits := by
  cases u with
  | str s | npStr s =>
    by_cases hs : s ∈ specUnits
    · exact ⟨s, rfl, rfl, hs⟩
    · simp [unitClass, Val.hashable, hs] at h
  | tuple hh => cases hh <;> simp [unitClass, Val.hashable] at h
  | _ => simp [unitClass, Val.hashable] at h

/-! ## the size, text and dpi stages inside the statement's quantifier -/

/-- a value of a numeric domain is an `int`, a `float` or a numpy scalar whose number lies in the range; the
size and dpi stages go straight to their test of that number -/
theorem numIn_num {lo hi : Rat} {v : Val} (h : numIn lo hi v = true) :
    ∃ q np, v.num? = some (q, np) ∧ lo ≤ q ∧ q ≤ hi ∧
      sizeStage v = (if q ≤ 0 then .raises .valueError else if pillowSize q then .ok q else .unmodelled) ∧
      dpiStage v = (if q = 0 then (if np then .unmodelled else .raises .zeroDivisionError)
        else if floatRange q then .ok q else .unmodelled) := by
  cases v with
  | int i | npInt i | float q | npFloat q =>
    simp only [numIn, Bool.and_eq_true, decide_eq_true_eq] at h
    exact ⟨_, _, rfl, h.1, h.2, rfl, rfl⟩
  | _ => cases h

theorem sizeStage_domain {v : Val} (h : sizeInDomain v = true) :
    ∃ q np, v.num? = some (q, np) ∧ sizeStage v = .ok q ∧ 0 < q := by
  obtain ⟨q, np, hq, h4, h48, hs, _⟩ := numIn_num h
  have hpos : (0 : Rat) < q := Std.lt_of_lt_of_le (by decide +kernel) h4
  have hp : pillowSize q = true := by
    simp only [pillowSize, Bool.and_eq_true, decide_eq_true_eq]
    exact ⟨Rat.le_trans (by decide +kernel) h4, Rat.le_trans h48 (by decide +kernel)⟩
  exact ⟨q, np, hq, by rw [hs, if_neg (Rat.not_le.mpr hpos), if_pos hp], hpos⟩

theorem textStage_domain {v : Val} (h : textInDomain v = true) : ∃ s, v = .str s ∧ textStage v = .ok s.toList := by
  cases v <;> simp_all [textInDomain, textStage]

theorem dpiStage_domain {v : Val} (h : dpiInDomain v = true) :
    ∃ d np, v.num? = some (d, np) ∧ dpiStage v = .ok d ∧ 0 < d := by
  obtain ⟨q, np, hq, h36, h600, _, hs⟩ := numIn_num h
  have hpos : (0 : Rat) < q := Std.lt_of_lt_of_le (by decide +kernel) h36
  have hne : q ≠ 0 := fun h0 => absurd (h0 ▸ hpos) (by decide +kernel)
  have hr : floatRange q = true := by
    simp only [floatRange, floatRange.rabs', Rat.not_lt.mpr (Rat.le_of_lt hpos), if_false, Bool.and_eq_true,
      decide_eq_true_eq]
    exact ⟨Rat.le_trans (by decide +kernel) h36, Rat.le_trans h600 (by decide +kernel)⟩
  exact ⟨q, np, hq, by rw [hs, if_neg hne, if_pos hr], hpos⟩

/-- a supported (or accepted lenient) unit converts whenever the dpi is a number of the domain -/
theorem convertV_supported {u dpi : Val} (h : unitClass u = .supported ∨ unitClass u = .lenient)
    (hd : dpiInDomain dpi = true) (px : Rat) : ∃ w, convertV u dpi px = .ok w := by
  obtain ⟨s, hs, hh, hm⟩ := unitClass_str h
  obtain ⟨d, _, _, hdpi, hpos⟩ := dpiStage_domain hd
  have hne : d ≠ 0 := fun h0 => by rw [h0] at hpos; exact absurd hpos (by decide +kernel)
  rcases (unit_str_cases s).mp hm with h | h | h <;> subst h <;>
    simp [convertV, hh, hs, hdpi, Stage.bind, Stage.ofExcept, convert, hne]

/-! ## the whole call -/

theorem gswV_font_error (measure : String → Rat → List Char → Rat) {font : Val} {e : Err}
    (h : fontPathV font = .error e) (text size unit dpi : Val) :
    getStringWidthV measure text font size unit dpi = .raises e := by
  simp only [getStringWidthV, h]

/-- inside the statement's quantifier the size and the text pass: once the font is resolved, the outcome is the
conversion of the measured width -/
theorem gswV_domain (measure : String → Rat → List Char → Rat) {text size : Val} (font unit dpi : Val)
    (ht : textInDomain text = true) (hs : sizeInDomain size = true) :
    ∃ q t, ∀ p, fontPathV font = .ok p →
      getStringWidthV measure text font size unit dpi = convertV unit dpi (measure p q t) := by
  obtain ⟨q, _, _, hq, _⟩ := sizeStage_domain hs
  obtain ⟨s, _, hts⟩ := textStage_domain ht
  exact ⟨q, s.toList, fun p hp => by simp only [getStringWidthV, hp, hq, hts, Stage.bind]⟩

/-- a hashable unit on the statement's domain converts or is refused with `ValueError` -/
theorem convertV_hashable {u dpi : Val} (hu : u.hashable = true) (hd : dpiInDomain dpi = true) (px : Rat) :
    (∃ w, convertV u dpi px = .ok w) ∨ convertV u dpi px = .raises .valueError := by
  cases hc : unitClass u with
  | unsupported => exact .inr (convertV_unsupported hc dpi px)
  | free =>
    -- `unitClass` answers `free` for unhashable values only
    simp [unitClass, hu] at hc
    split at hc <;> (try split at hc) <;> simp at hc
  | supported => exact .inl (convertV_supported (.inl hc) hd px)
  | lenient => exact .inl (convertV_supported (.inr hc) hd px)

end Proofs.StrWidthVal
