import Model.Interleave
import Model.InterleaveLru
/-!
Lemmas behind C15: the frame lemma, the simulation between a thread inside an arbitrary
interleaving and the same thread alone, monotonicity of outputs, execution without preemption
(with the facts about `objMemoProg` it is applied to);
at the end (`Proofs.InterleaveLru`) the invariant of two lookups on a shared store of capacity 2.
-/
namespace Proofs.Interleave
open Model.Interleave

/-! ## basic facts about `exec` and `step` -/

theorem exec_prog (m : CtxMode) (e : Ev) (t : Thread) (s : Shared) :
    (exec m e t s).1.prog = t.prog := by
  cases e <;> cases m <;> rfl

theorem exec_out_append (m : CtxMode) (e : Ev) (t : Thread) (s : Shared) :
    ∃ o, (exec m e t s).1.out = t.out ++ o := by
  cases e <;> cases m <;> first
    | exact ⟨[], (List.append_nil _).symm⟩
    | exact ⟨_, rfl⟩

theorem step_eq (m : CtxMode) (i : Nat) (σ : State) (t : Thread) (e : Ev) (rest : List Ev)
    (h : σ.threads[i]? = some t) (hp : t.prog = e :: rest) :
    step m i σ = { threads := σ.threads.set i (exec m e { t with prog := rest } σ.sh).1,
                   sh := (exec m e { t with prog := rest } σ.sh).2 } := by
  unfold step
  simp only [h, hp]

theorem step_done (m : CtxMode) (i : Nat) (σ : State) (t : Thread)
    (h : σ.threads[i]? = some t) (hp : t.prog = []) : step m i σ = σ := by
  unfold step
  simp only [h, hp]

theorem step_absent (m : CtxMode) (i : Nat) (σ : State) (h : σ.threads[i]? = none) :
    step m i σ = σ := by
  unfold step
  simp only [h]

/-- every step is a stutter or the execution of the next event of the scheduled thread -/
theorem step_cases (m : CtxMode) (i : Nat) (σ : State) :
    step m i σ = σ ∨ ∃ t e rest, σ.threads[i]? = some t ∧ t.prog = e :: rest ∧
      step m i σ = { threads := σ.threads.set i (exec m e { t with prog := rest } σ.sh).1,
                     sh := (exec m e { t with prog := rest } σ.sh).2 } := by
  fun_cases step m i σ
  · exact Or.inl rfl
  · exact Or.inl rfl
  · next t ht e rest hp _ => exact Or.inr ⟨t, e, rest, ht, hp, rfl⟩

theorem lt_of_getElem? {α} {l : List α} {i : Nat} {a : α} (h : l[i]? = some a) : i < l.length :=
  (List.getElem?_eq_some_iff.mp h).1

/-- **Frame lemma.**  A step of thread `j` leaves the local state (rest of the program, own
colour cell, recorded outputs) of every other thread `i` untouched — in both modes. -/
theorem step_frame (m : CtxMode) (i j : Nat) (σ : State) (h : i ≠ j) :
    (step m j σ).threads[i]? = σ.threads[i]? := by
  rcases step_cases m j σ with e | ⟨_, _, _, _, _, e⟩ <;> rw [e]
  exact List.getElem?_set_ne (Ne.symm h)

theorem step_length (m : CtxMode) (j : Nat) (σ : State) :
    (step m j σ).threads.length = σ.threads.length := by
  rcases step_cases m j σ with e | ⟨_, _, _, _, _, e⟩ <;> rw [e]
  exact List.length_set

theorem run_length (m : CtxMode) (sched : List Nat) (σ : State) :
    (run m sched σ).threads.length = σ.threads.length := by
  induction sched generalizing σ with
  | nil => rfl
  | cons j js ih => simp [run, ih, step_length]

theorem run_append (m : CtxMode) (a b : List Nat) (σ : State) :
    run m (a ++ b) σ = run m b (run m a σ) := by
  induction a generalizing σ with
  | nil => rfl
  | cons j js ih => simp [run, ih]

theorem run_frame (m : CtxMode) (i : Nat) (sched : List Nat) (σ : State) (h : i ∉ sched) :
    (run m sched σ).threads[i]? = σ.threads[i]? := by
  induction sched generalizing σ with
  | nil => rfl
  | cons j js ih =>
    simp only [List.mem_cons, not_or] at h
    simp only [run]
    rw [ih _ h.2, step_frame m i j σ h.1]

/-! ## the registry: what an event does to it, and which entries a program reads -/

theorem regGet_regSet (r : Registry) (n k : Name) (c : Cls) :
    regGet (regSet r n c) k = if n = k then some c else regGet r k := rfl

theorem exec_reg (m : CtxMode) (e : Ev) (t : Thread) (s : Shared) (k : Name) :
    regGet (exec m e t s).2.reg k =
      match e with
      | .register n c => if n = k then some c else regGet s.reg k
      | _ => regGet s.reg k := by
  cases e <;> cases m <;> rfl

/-- a name the rest of a program reads before writing it is read that way by the whole program,
unless the first event writes it -/
theorem freeGets_cons_cases {e : Ev} {rest : List Ev} {n : Name} (hn : n ∈ freeGets rest) :
    n ∈ freeGets (e :: rest) ∨ ∃ c, e = .register n c := by
  cases e with
  | register n' c' =>
    by_cases h : n' = n
    · exact Or.inr ⟨c', by rw [h]⟩
    · exact Or.inl (by simp [freeGets, hn, Ne.symm h])
  | getStrategy n' => exact Or.inl (by simp [freeGets, hn])
  | _ => exact Or.inl (by simpa [freeGets] using hn)

/-- two registries that agree on what a program reads before writing still do, on what is left of
it, after its first event -/
theorem exec_reg_agree (m : CtxMode) (e : Ev) (rest : List Ev) (t t' : Thread) (s s' : Shared)
    (h : ∀ n ∈ freeGets (e :: rest), regGet s.reg n = regGet s'.reg n) :
    ∀ n ∈ freeGets rest, regGet (exec m e t s).2.reg n = regGet (exec m e t' s').2.reg n := by
  intro n hn
  rw [exec_reg, exec_reg]
  rcases freeGets_cons_cases (e := e) hn with h1 | ⟨c, rfl⟩
  · rw [h n h1]
  · simp only [↓reduceIte]

theorem canonicalB_tail {canon : Name → Cls} {e : Ev} {es : List Ev}
    (h : canonicalB canon (e :: es) = true) : canonicalB canon es = true := by
  simp [canonicalB] at h ⊢
  exact h.2

theorem canonicalB_head_register {canon : Name → Cls} {n : Name} {c : Cls} {es : List Ev}
    (h : canonicalB canon (.register n c :: es) = true) : c = canon n := by
  simp [canonicalB] at h
  exact h.1

/-- a canonical event leaves a canonical binding canonical -/
theorem exec_reg_canon {canon : Name → Cls} {m : CtxMode} {e : Ev} {rest : List Ev} {t : Thread}
    {s : Shared} {n : Name} (hc : canonicalB canon (e :: rest) = true)
    (h : regGet s.reg n = some (canon n)) : regGet (exec m e t s).2.reg n = some (canon n) := by
  rw [exec_reg]
  cases e with
  | register n' c' =>
    simp only [canonicalB_head_register hc]
    split
    · rename_i hn
      rw [hn]
    · exact h
  | _ => exact h

/-- … and a canonical program finds canonical, after its first event, every entry the rest of it
reads before writing -/
theorem exec_reg_free {canon : Name → Cls} {m : CtxMode} {e : Ev} {rest : List Ev} {t : Thread}
    {s : Shared} (hc : canonicalB canon (e :: rest) = true)
    (h : ∀ n ∈ freeGets (e :: rest), regGet s.reg n = some (canon n)) :
    ∀ n ∈ freeGets rest, regGet (exec m e t s).2.reg n = some (canon n) := by
  intro n hn
  rcases freeGets_cons_cases (e := e) hn with h1 | ⟨c, rfl⟩
  · exact exec_reg_canon hc (h n h1)
  · rw [exec_reg, canonicalB_head_register hc]
    simp only [↓reduceIte]

theorem step_canonical (canon : Name → Cls) (m : CtxMode) (j : Nat) (σ : State)
    (h : ∀ t ∈ σ.threads, canonicalB canon t.prog = true) :
    ∀ t ∈ (step m j σ).threads, canonicalB canon t.prog = true := by
  rcases step_cases m j σ with e | ⟨tj, e, rest, hj, hp, e'⟩
  · rw [e]
    exact h
  · rw [e']
    intro t ht
    rcases List.mem_or_eq_of_mem_set ht with h1 | h1
    · exact h t h1
    · rw [h1, exec_prog]
      exact canonicalB_tail (hp ▸ h tj (List.mem_of_getElem? hj))

/-! ## `Local` mode: the thread's next state depends on the shared state only through the
registry entries it reads -/

theorem exec_local_thread (e : Ev) (t : Thread) (s s' : Shared)
    (h : ∀ n, e = .getStrategy n → regGet s.reg n = regGet s'.reg n) :
    (exec .Local e t s).1 = (exec .Local e t s').1 := by
  cases e with
  | getStrategy n => simp only [exec, h n rfl]
  | _ => rfl

/-! ## the simulation -/

/-- thread `i` of the pool `σ` and the only thread of `τ` are in the same local state; every
registry entry the rest of their program will read without writing it first is already
canonical in both registries; all pending registrations of the pool are canonical -/
structure Sim (canon : Name → Cls) (i : Nat) (σ τ : State) : Prop where
  thr : ∃ t, σ.threads[i]? = some t ∧ τ.threads = [t] ∧
    ∀ n ∈ freeGets t.prog, regGet σ.sh.reg n = some (canon n) ∧ regGet τ.sh.reg n = some (canon n)
  can : ∀ t' ∈ σ.threads, canonicalB canon t'.prog = true

theorem sim_other (canon : Name → Cls) (i j : Nat) (σ τ : State) (hij : i ≠ j)
    (h : Sim canon i σ τ) : Sim canon i (step .Local j σ) τ := by
  obtain ⟨⟨t, hi, hτ, hfree⟩, hcan⟩ := h
  refine ⟨⟨t, (step_frame .Local i j σ hij).trans hi, hτ, fun n hn => ⟨?_, (hfree n hn).2⟩⟩,
    step_canonical canon .Local j σ hcan⟩
  rcases step_cases .Local j σ with e | ⟨tj, e, rest, hj, hp, e'⟩
  · rw [e]
    exact (hfree n hn).1
  · rw [e']
    exact exec_reg_canon (hp ▸ hcan tj (List.mem_of_getElem? hj)) (hfree n hn).1

theorem sim_self (canon : Name → Cls) (i : Nat) (σ τ : State)
    (h : Sim canon i σ τ) : Sim canon i (step .Local i σ) (step .Local 0 τ) := by
  have hcan' := step_canonical canon .Local i σ h.can
  obtain ⟨⟨t, hi, hτ, hfree⟩, hcan⟩ := h
  have hτ0 : τ.threads[0]? = some t := by simp [hτ]
  cases hp : t.prog with
  | nil =>
    rw [step_done _ _ _ _ hi hp, step_done _ _ _ _ hτ0 hp]
    exact ⟨⟨t, hi, hτ, hfree⟩, hcan⟩
  | cons e rest =>
    have hci : canonicalB canon (e :: rest) = true := hp ▸ hcan t (List.mem_of_getElem? hi)
    rw [hp] at hfree
    -- the thread reads the same thing from both registries
    have hsame : (exec .Local e { t with prog := rest } σ.sh).1 =
        (exec .Local e { t with prog := rest } τ.sh).1 := by
      apply exec_local_thread
      intro n hn
      have : n ∈ freeGets (e :: rest) := by rw [hn]; simp [freeGets]
      rw [(hfree n this).1, (hfree n this).2]
    refine ⟨⟨(exec .Local e { t with prog := rest } σ.sh).1, ?_, ?_, ?_⟩, hcan'⟩
    · rw [step_eq .Local i σ t e rest hi hp]
      exact List.getElem?_set_self (lt_of_getElem? hi)
    · rw [step_eq .Local 0 τ t e rest hτ0 hp, hτ, hsame]
      rfl
    · intro n hn
      rw [exec_prog] at hn
      rw [step_eq .Local i σ t e rest hi hp, step_eq .Local 0 τ t e rest hτ0 hp]
      exact ⟨exec_reg_free hci (fun k hk => (hfree k hk).1) n hn,
        exec_reg_free hci (fun k hk => (hfree k hk).2) n hn⟩

/-- the simulation survives any schedule: the pool runs `sched`, the lone thread runs as many
steps as `sched` gives to thread `i` -/
theorem sim_run (canon : Name → Cls) (i : Nat) (sched : List Nat) (σ τ : State)
    (h : Sim canon i σ τ) :
    Sim canon i (run .Local sched σ) (run .Local (List.replicate (sched.count i) 0) τ) := by
  induction sched generalizing σ τ with
  | nil => simpa [run] using h
  | cons j js ih =>
    by_cases hji : j = i
    · subst hji
      simp only [List.count_cons_self, List.replicate_succ, run]
      exact ih _ _ (sim_self canon j σ τ h)
    · have : (j :: js).count i = js.count i := by simp [hji]
      rw [this]
      simp only [run]
      exact ih _ _ (sim_other canon i j σ τ (Ne.symm hji) h)

theorem sim_init (canon : Name → Cls) (r₀ r₀' : Registry) (progs : List (List Ev)) (i : Nat)
    (p : List Ev) (hp : progs[i]? = some p)
    (hcan : ∀ q ∈ progs, canonicalB canon q = true) (hfree : freeGets p = []) :
    Sim canon i (init r₀ progs) (init r₀' [p]) := by
  refine ⟨⟨{ prog := p, ctx := none, out := [] }, ?_, rfl, ?_⟩, ?_⟩
  · simp [init, hp]
  · intro n hn
    simp [hfree] at hn
  · intro t' ht'
    simp only [init, List.mem_map] at ht'
    obtain ⟨q, hq, rfl⟩ := ht'
    exact hcan q hq

/-! ## outputs only grow -/

theorem isPrefixB_eq : ∀ a b : List Out, isPrefixB a b = a.isPrefixOf b
  | [], _ => by rw [isPrefixB, List.isPrefixOf_nil_left]
  | _ :: _, [] => rfl
  | x :: xs, y :: ys => by rw [isPrefixB, List.isPrefixOf_cons_cons, isPrefixB_eq xs ys]

theorem outOf_step_prefix (m : CtxMode) (j i : Nat) (σ : State) :
    outOf σ i <+: outOf (step m j σ) i := by
  rcases step_cases m j σ with e | ⟨t, e, rest, hj, hp, e'⟩
  · rw [e]
    exact List.prefix_refl _
  · rw [e']
    by_cases hij : j = i
    · subst hij
      obtain ⟨o, ho⟩ := exec_out_append m e { t with prog := rest } σ.sh
      simp only [outOf, hj, List.getElem?_set_self (lt_of_getElem? hj), ho]
      exact List.prefix_append _ _
    · simp only [outOf, List.getElem?_set_ne hij]
      exact List.prefix_refl _

theorem outOf_run_prefix (m : CtxMode) (sched : List Nat) (i : Nat) (σ : State) :
    outOf σ i <+: outOf (run m sched σ) i := by
  induction sched generalizing σ with
  | nil => exact List.prefix_refl _
  | cons j js ih => exact List.IsPrefix.trans (outOf_step_prefix m j i σ) (ih _)

/-! ## a thread run without preemption -/

/-- a block of a schedule that gives thread `i` exactly the steps of its remaining program -/
theorem run_block (m : CtxMode) (i : Nat) (es : List Ev) (σ : State) (t : Thread)
    (h : σ.threads[i]? = some t) (hp : t.prog = es) :
    run m (List.replicate es.length i) σ =
      { threads := σ.threads.set i (runEvents m es t σ.sh).1, sh := (runEvents m es t σ.sh).2 } := by
  induction es generalizing σ t with
  | nil =>
    simp only [List.length_nil, List.replicate_zero, run, runEvents]
    obtain ⟨hlt, rfl⟩ := List.getElem?_eq_some_iff.mp h
    rw [List.set_getElem_self hlt]
  | cons e rest ih =>
    simp only [List.length_cons, List.replicate_succ, run, runEvents]
    rw [step_eq m i σ t e rest h hp,
      ih _ (exec m e { t with prog := rest } σ.sh).1 (List.getElem?_set_self (lt_of_getElem? h))
        (exec_prog ..), List.set_set]

theorem runEvents_prog (m : CtxMode) (es : List Ev) (t : Thread) (s : Shared) (hp : t.prog = es) :
    (runEvents m es t s).1.prog = [] := by
  induction es generalizing t s with
  | nil => exact hp
  | cons e rest ih => exact ih _ _ (exec_prog ..)

theorem run_replicate_done (m : CtxMode) (k i : Nat) (σ : State) (t : Thread)
    (h : σ.threads[i]? = some t) (hp : t.prog = []) : run m (List.replicate k i) σ = σ := by
  induction k with
  | zero => rfl
  | succ k ih => rw [List.replicate_succ, run, step_done m i σ t h hp, ih]

/-- a thread as `init` creates it: the whole program ahead, no colour context of its own, nothing recorded -/
def fresh (p : List Ev) : Thread := { prog := p, ctx := none, out := [] }

/-- the lone thread after its whole program -/
theorem soloState_length (m : CtxMode) (r₀ : Registry) (p : List Ev) :
    soloState m r₀ p p.length =
      { threads := [(runEvents m p (fresh p) { reg := r₀, cell := none }).1],
        sh := (runEvents m p (fresh p) { reg := r₀, cell := none }).2 } :=
  run_block m 0 p (init r₀ [p]) (fresh p) rfl rfl

theorem solo_eq_runEvents (m : CtxMode) (r₀ : Registry) (p : List Ev) :
    solo m r₀ p = (runEvents m p (fresh p) { reg := r₀, cell := none }).1.out := by
  unfold solo
  rw [soloState_length]
  rfl

theorem soloState_saturates (m : CtxMode) (r₀ : Registry) (p : List Ev) (k : Nat)
    (hk : p.length ≤ k) : soloState m r₀ p k = soloState m r₀ p p.length := by
  obtain ⟨d, rfl⟩ := Nat.exists_eq_add_of_le hk
  have e : soloState m r₀ p (p.length + d) = run m (List.replicate d 0) (soloState m r₀ p p.length) := by
    unfold soloState
    rw [← List.replicate_append_replicate, run_append]
  rw [e, soloState_length]
  exact run_replicate_done m d 0 _ _ rfl (runEvents_prog m p (fresh p) _ rfl)

/-- what a lone thread has produced after `k` steps is an initial part of its complete output -/
theorem soloState_out_prefix (m : CtxMode) (r₀ : Registry) (p : List Ev) (k : Nat) :
    outOf (soloState m r₀ p k) 0 <+: solo m r₀ p := by
  unfold solo
  rcases Nat.le_total k p.length with h | h
  · obtain ⟨d, hd⟩ := Nat.exists_eq_add_of_le h
    have : soloState m r₀ p p.length = run m (List.replicate d 0) (soloState m r₀ p k) := by
      unfold soloState
      rw [hd, ← List.replicate_append_replicate, run_append]
    rw [this]
    exact outOf_run_prefix m _ 0 _
  · rw [soloState_saturates m r₀ p k h]
    exact List.prefix_refl _

/-! ## sequential execution (no preemption) — used to show that a process-global colour cell is
invisible to single-threaded use -/

theorem runEvents_global_cell (es : List Ev) (t : Thread) (s : Shared) :
    (runEvents .Global es t s).2.cell = cellAfter s.cell es := by
  induction es generalizing t s with
  | nil => rfl
  | cons e rest ih =>
    cases e <;> exact ih _ _

/-- the program `es` cannot tell the shared states `s` and `s'` apart: it finds the same colour
cell in both or writes the cell before reading it, and it finds the same registry entries under
the names it reads before writing them -/
def Agree (es : List Ev) (s s' : Shared) : Prop :=
  (s.cell = s'.cell ∨ opensWithReset es = true) ∧ ∀ n ∈ freeGets es, regGet s.reg n = regGet s'.reg n

/-- then its first event computes the same thread, and what is left of it cannot tell the two
resulting states apart -/
theorem exec_global_agree (e : Ev) (rest : List Ev) (t : Thread) (s s' : Shared)
    (h : Agree (e :: rest) s s') :
    (exec .Global e t s).1 = (exec .Global e t s').1 ∧
      Agree rest (exec .Global e t s).2 (exec .Global e t s').2 := by
  obtain ⟨hc, hr⟩ := h
  have hreg := exec_reg_agree .Global e rest t t s s' hr
  cases e with
  | register n c => exact ⟨rfl, hc, hreg⟩
  | getStrategy n =>
    refine ⟨?_, hc, hreg⟩
    simp only [exec]
    rw [hr n (by simp [freeGets])]
  | setCtx p => exact ⟨rfl, Or.inl rfl, hreg⟩
  | clearCtx => exact ⟨rfl, Or.inl rfl, hreg⟩
  | emit v => exact ⟨rfl, hc, hreg⟩
  | lookup c =>
    have hc : s.cell = s'.cell := hc.resolve_right (by simp [opensWithReset])
    refine ⟨?_, Or.inl hc, hreg⟩
    simp only [exec, hc]
  | fetch p c =>
    have hc : s.cell = s'.cell := hc.resolve_right (by simp [opensWithReset])
    refine ⟨?_, Or.inl ?_, hreg⟩ <;> simp only [exec, hc]

/-- in `Global` mode the thread that results from running a whole program depends on the
shared state only through the cell it finds — not even that if it resets the cell first — and
the registry entries it reads before writing -/
theorem runEvents_global_thread (es : List Ev) (t : Thread) (s s' : Shared) (h : Agree es s s') :
    (runEvents .Global es t s).1 = (runEvents .Global es t s').1 := by
  induction es generalizing t s s' with
  | nil => rfl
  | cons e rest ih =>
    obtain ⟨h1, h2⟩ := exec_global_agree e rest { t with prog := rest } s s' h
    simp only [runEvents]
    rw [h1]
    exact ih _ _ _ h2

theorem seqScheduleFrom_ge (k : Nat) (progs : List (List Ev)) :
    ∀ x ∈ seqScheduleFrom k progs, k ≤ x := by
  induction progs generalizing k with
  | nil =>
    intro x hx
    simp [seqScheduleFrom] at hx
  | cons p ps ih =>
    intro x hx
    simp only [seqScheduleFrom, List.mem_append, List.mem_replicate] at hx
    rcases hx with ⟨_, rfl⟩ | hx
    · exact Nat.le_refl _
    · exact Nat.le_of_succ_le (ih (k + 1) x hx)

/-- Sequential execution in `Global` mode, for a block of threads that starts at position `k` of the pool (the
induction moves `k`): every thread produces its solo output if the programs read only registry entries they wrote and either
find the cell empty and leave it empty, or reset it before they read it (whatever it holds at
the start and whatever they leave in it). -/
theorem seq_global (r₀' : Registry) (progs : List (List Ev)) :
    ∀ (k : Nat) (σ : State),
      (∀ j q, progs[j]? = some q → σ.threads[k + j]? = some (fresh q)) →
      (∀ q ∈ progs, freeGets q = []) →
      ((σ.sh.cell = none ∧ ∀ q ∈ progs, cellAfter none q = none) ∨
        ∀ q ∈ progs, opensWithReset q = true) →
      ∀ i p, progs[i]? = some p →
        outOf (run .Global (seqScheduleFrom k progs) σ) (k + i) = solo .Global r₀' p := by
  induction progs with
  | nil =>
    intro k σ _ _ _ i p hp
    simp at hp
  | cons p0 ps ih =>
    intro k σ hthr hfree hcell i p hp
    have hk : σ.threads[k]? = some (fresh p0) := by simpa using hthr 0 p0 rfl
    simp only [seqScheduleFrom, run_append]
    rw [run_block .Global k p0 σ (fresh p0) hk rfl]
    cases i with
    | zero =>
      simp only [List.getElem?_cons_zero, Option.some.injEq] at hp
      subst hp
      have hnot : k ∉ seqScheduleFrom (k + 1) ps := by
        intro hmem
        have := seqScheduleFrom_ge (k + 1) ps k hmem
        omega
      simp only [outOf, Nat.add_zero]
      rw [run_frame .Global k _ _ hnot]
      simp only [List.getElem?_set_self (lt_of_getElem? hk)]
      rw [solo_eq_runEvents]
      congr 1
      apply runEvents_global_thread
      refine ⟨?_, fun n hn => ?_⟩
      · exact hcell.elim (fun h => Or.inl h.1) (fun h => Or.inr (h p0 (by simp)))
      · rw [hfree p0 (by simp)] at hn
        simp at hn
    | succ i =>
      rw [show k + (i + 1) = k + 1 + i by omega]
      refine ih (k + 1) _ (fun j q hq => ?_) (fun q hq => hfree q (List.mem_cons_of_mem _ hq)) ?_ i p
        (by simpa using hp)
      · rw [List.getElem?_set_ne (by omega), show k + 1 + j = k + (j + 1) by omega]
        exact hthr (j + 1) q (by simpa using hq)
      · exact hcell.elim
          (fun h => Or.inl ⟨by rw [runEvents_global_cell, h.1]; exact h.2 p0 List.mem_cons_self,
            fun q hq => h.2 q (List.mem_cons_of_mem _ hq)⟩)
          (fun h => Or.inr fun q hq => h q (List.mem_cons_of_mem _ hq))

/-! ## a memo kept on an object (`objMemoProg`) -/

theorem freeGets_replicate_fetch (p : Palette) (c : Color) (n : Nat) :
    freeGets (List.replicate n (Ev.fetch p c)) = [] := by
  induction n with
  | zero => rfl
  | succ k ih => simp [List.replicate_succ, freeGets, ih]

theorem freeGets_objMemoProg (p : Palette) (c : Color) (n : Nat) :
    freeGets (objMemoProg p c n) = [] := by
  simp [objMemoProg, freeGets, freeGets_replicate_fetch]

theorem opensWithReset_objMemoProg (p : Palette) (c : Color) (n : Nat) :
    opensWithReset (objMemoProg p c n) = true := by
  simp [objMemoProg, opensWithReset]

theorem canonicalB_objMemoProg (canon : Name → Cls) (p : Palette) (c : Color) (n : Nat) :
    canonicalB canon (objMemoProg p c n) = true := by
  simp [objMemoProg, canonicalB]

end Proofs.Interleave

/-! ## two lookups on a least-recently-used store of capacity 2 (`Model.InterleaveLru`) -/
namespace Proofs.InterleaveLru
open Model.InterleaveLru

/-- `k` survives the next `trim 2`: it is the most recent entry, or the most recent but `k'` -/
def Prot (c : Cache) (k k' : Nat) : Prop := ∃ pre, c = pre ++ [k] ∨ c = pre ++ [k, k']

theorem prot_touch_self (c : Cache) (k k' : Nat) : Prot (touch c k) k k' := ⟨_, Or.inl rfl⟩

theorem prot_touch_other {c : Cache} {k k' : Nat} (h : Prot c k' k) : Prot (touch c k) k' k := by
  by_cases hk : k' = k
  · subst hk
    exact prot_touch_self c k' k'
  · obtain ⟨pre, rfl | rfl⟩ := h
    · exact ⟨pre.filter (· ≠ k), Or.inr (by simp [touch, List.filter_append, hk])⟩
    · exact ⟨pre.filter (· ≠ k), Or.inr (by simp [touch, List.filter_append, hk])⟩

theorem prot_trim {c : Cache} {k k' : Nat} (h : Prot c k k') : Prot (trim 2 c) k k' := by
  obtain ⟨pre, rfl | rfl⟩ := h
  · refine ⟨pre.drop (pre.length - 1), Or.inl ?_⟩
    rw [trim, List.length_append, List.drop_append_of_le_length (by simp)]
    rfl
  · refine ⟨[], Or.inr ?_⟩
    rw [trim, List.length_append]
    exact List.drop_left' rfl

theorem prot_contains {c : Cache} {k k' : Nat} (h : Prot c k k') : c.contains k = true := by
  obtain ⟨pre, rfl | rfl⟩ := h <;> simp

/-- what an event does to the cache, and to the reads recorded by its thread -/
def cacheAfter (c : Cache) : Ev → Cache
  | .touch k => touch c k
  | .trim => trim 2 c
  | .read _ => c

def outAfter (c : Cache) (o : List Bool) : Ev → List Bool
  | .read k => o ++ [c.contains k]
  | _ => o

/-- a thread somewhere in its lookup under `k` (the other thread's key being `k'`): between its `touch` and its
`read` the key is protected, and a read it has made was a hit -/
def Good (k k' : Nat) (c : Cache) (p : List Ev) (o : List Bool) : Prop :=
  (p = lookupProg k ∧ o = []) ∨ ((p = [.trim, .read k] ∨ p = [.read k]) ∧ o = [] ∧ Prot c k k') ∨
    (p = [] ∧ o = [true])

theorem Good.mono {k k' : Nat} {c c' : Cache} {p : List Ev} {o : List Bool} (h : Good k k' c p o)
    (hc : Prot c k k' → Prot c' k k') : Good k k' c' p o :=
  h.imp id (Or.imp (fun ⟨hp, ho, hprot⟩ => ⟨hp, ho, hc hprot⟩) id)

/-- the next event of a thread leaves it `Good`, and leaves the other thread's key protected if it was -/
theorem Good.advance {k k' : Nat} {c : Cache} {e : Ev} {rest : List Ev} {o : List Bool}
    (h : Good k k' c (e :: rest) o) :
    Good k k' (cacheAfter c e) rest (outAfter c o e) ∧ (Prot c k' k → Prot (cacheAfter c e) k' k) := by
  rcases h with ⟨hp, rfl⟩ | ⟨hp | hp, rfl, hprot⟩ | ⟨hp, _⟩
  · obtain ⟨rfl, rfl⟩ := List.cons.inj hp
    exact ⟨Or.inr (Or.inl ⟨Or.inl rfl, rfl, prot_touch_self c k k'⟩), prot_touch_other⟩
  · obtain ⟨rfl, rfl⟩ := List.cons.inj hp
    exact ⟨Or.inr (Or.inl ⟨Or.inr rfl, rfl, prot_trim hprot⟩), prot_trim⟩
  · obtain ⟨rfl, rfl⟩ := List.cons.inj hp
    refine ⟨Or.inr (Or.inr ⟨rfl, ?_⟩), id⟩
    rw [outAfter, prot_contains hprot]
    rfl
  · cases hp

/-- the two threads are `Good`, each for its own key -/
def Inv (k₁ k₂ : Nat) (σ : State) : Prop :=
  ∃ p₁ p₂ o₁ o₂, σ.progs = [p₁, p₂] ∧ σ.outs = [o₁, o₂] ∧ Good k₁ k₂ σ.cache p₁ o₁ ∧ Good k₂ k₁ σ.cache p₂ o₂

theorem inv_step {k₁ k₂ : Nat} {σ : State} (h : Inv k₁ k₂ σ) (i : Nat) : Inv k₁ k₂ (step 2 i σ) := by
  obtain ⟨c, ps, os⟩ := σ
  obtain ⟨p₁, p₂, o₁, o₂, rfl, rfl, g₁, g₂⟩ := h
  match i, p₁, p₂, g₁, g₂ with
  | 0, e :: rest, p₂, g₁, g₂ =>
    have ha := g₁.advance
    have e1 : step 2 0 ⟨c, [e :: rest, p₂], [o₁, o₂]⟩ = ⟨cacheAfter c e, [rest, p₂], [outAfter c o₁ e, o₂]⟩ := by
      cases e <;> rfl
    rw [e1]
    exact ⟨_, _, _, _, rfl, rfl, ha.1, g₂.mono ha.2⟩
  | 1, p₁, e :: rest, g₁, g₂ =>
    have ha := g₂.advance
    have e1 : step 2 1 ⟨c, [p₁, e :: rest], [o₁, o₂]⟩ = ⟨cacheAfter c e, [p₁, rest], [o₁, outAfter c o₂ e]⟩ := by
      cases e <;> rfl
    rw [e1]
    exact ⟨_, _, _, _, rfl, rfl, g₁.mono ha.2, ha.1⟩
  | 0, [], p₂, g₁, g₂ => exact ⟨_, _, _, _, rfl, rfl, g₁, g₂⟩
  | 1, p₁, [], g₁, g₂ => exact ⟨_, _, _, _, rfl, rfl, g₁, g₂⟩
  | _ + 2, p₁, p₂, g₁, g₂ => exact ⟨_, _, _, _, rfl, rfl, g₁, g₂⟩

theorem inv_run {k₁ k₂ : Nat} (sched : List Nat) : ∀ {σ : State}, Inv k₁ k₂ σ → Inv k₁ k₂ (run 2 sched σ) := by
  induction sched with
  | nil => exact id
  | cons i is ih => exact fun h => ih (inv_step h i)

/-- **Two lookups, capacity 2**: whatever the cache held, whatever the two keys, under every schedule of any length no
read fails: between a thread's `touch` and its `read` the only key that can enter the cache is the other thread's, so
the thread's own is one of the two most recent entries when `trim` runs. -/
theorem two_lookups_safe (c₀ : Cache) (k₁ k₂ : Nat) (sched : List Nat) :
    allHits (run 2 sched (init c₀ [lookupProg k₁, lookupProg k₂])) = true := by
  obtain ⟨p₁, p₂, o₁, o₂, _, ho, g₁, g₂⟩ :=
    inv_run sched (show Inv k₁ k₂ (init c₀ _) from ⟨_, _, _, _, rfl, rfl, Or.inl ⟨rfl, rfl⟩, Or.inl ⟨rfl, rfl⟩⟩)
  have hit : ∀ {k k' c p o}, Good k k' c p o → o.all id = true := by
    rintro k k' c p o (⟨_, rfl⟩ | ⟨_, rfl, _⟩ | ⟨_, rfl⟩) <;> rfl
  rw [allHits, ho]
  simp [hit g₁, hit g₂]

end Proofs.InterleaveLru
