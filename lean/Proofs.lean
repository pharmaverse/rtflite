import Proofs.AsciiString
import Proofs.Assemble
import Proofs.Borders
import Proofs.Broadcast
import Proofs.BroadcastAttr
import Proofs.Color
import Proofs.ColorFull
import Proofs.ColorTable
import Proofs.ColorTableCodes
import Proofs.ColorTableNames
import Proofs.ConvNodes
import Proofs.Convert
import Proofs.Emit
import Proofs.Encode
import Proofs.EncodeAttrs
import Proofs.EncodeAux
import Proofs.EncodeColor
import Proofs.EncodeDoc
import Proofs.EncodeFigure
import Proofs.EncodeFigureLift
import Proofs.EncodeGroup
import Proofs.EncodeLayout
import Proofs.EncodeLift
import Proofs.EncodeLiftRows
import Proofs.EncodeMulti
import Proofs.EncodeMultiLift
import Proofs.EncodeNames
import Proofs.EncodeOwnWidth
import Proofs.EncodePages
import Proofs.EncodeSegments
import Proofs.EncodeTables
import Proofs.EncodeText
import Proofs.EncodeTotalBase
import Proofs.EncodeTotalDoc
import Proofs.EncodeTotalFig
import Proofs.EncodeTotalIff
import Proofs.EncodeTotalMore
import Proofs.EncodeTotalPage
import Proofs.EncodeTotalPrep
import Proofs.EncodeTotalRows
import Proofs.EscNodes
import Proofs.Escape
import Proofs.Export
import Proofs.Figure
import Proofs.FigurePos
import Proofs.FontTable
import Proofs.GroupBy
import Proofs.GroupByHist
import Proofs.InsertionSort
import Proofs.Interleave
import Proofs.Layout
import Proofs.LayoutHeadings
import Proofs.LayoutRoles
import Proofs.LexNodes
import Proofs.LexPrint
import Proofs.Memo
import Proofs.Nodup
import Proofs.Paginate
import Proofs.PaginateGroups
import Proofs.PyStr
import Proofs.RoundDouble
import Proofs.Rtf
import Proofs.StrWidth
import Proofs.StrWidthVal
import Proofs.TextInput
import Proofs.Validate
import Proofs.ValidateHist
import Proofs.Widths
import Proofs.World
import Proofs.WorldFiles
