import Model.World
import Model.Memo
import Model.WorldMemo
import Proofs.World
import Proofs.Memo
import Props.C14
/-!
# C14, process-global stores (caches)

`Props/C14.lean` proves purity for the process state the code has (colour context, strategy registry, caller-owned
objects).  This file is about the state a *cache* adds — a keyed store in front of a stateless function, filled by
whichever request comes first — and says exactly when it is harmless:

* `C14memo_pure_iff`        a store keeps every answer history-independent **iff** its key determines the stored value;
* `C14memo_world_purity`    with such a store in the world (filled by the measurements of every encode, failing
                            ones included, and by direct calls) the target's outcome AND every answer its
                            measurements get are those of the fresh process, after any history;
* `C14memo_halfpoint_*`     loaded fonts keyed by (file, `int(2·size)`) — sizes 9.50 and 9.70 share `\fs19` — are
                            not of that kind: after one request at 9.50 a request at 9.70 is answered with the
                            9.50 font; lifted to the world, a target encoded after one direct measurement gets
                            another answer than in the fresh process.  Same for a key that forgets the font file.

rtflite has no such store today (`Op.measure` is a no-op of `Model.World.step`); the harness ties that to the code
by histories whose documents use one font file at nearby sizes with cell texts a fraction of a percent from a
wrap edge, so that any answer that is not the stateless one moves a page break (`harness/props/c14.py`,
`gen_measured`).
-/
namespace Props.C14memo
open Model.Memo Model.World Proofs.Memo Proofs.WorldMemo

variable {ρ κ ν : Type} [DecidableEq κ]

/-- With a faithful key, whatever was requested before, a request is answered with what it computes. -/
theorem C14memo_pure (S : Spec ρ κ ν) (hF : Faithful S) (hist : List ρ) (r : ρ) :
    (ask S (askAll S [] hist).1 r).2 = S.compute r :=
  (ask_sound S hF _ (askAll_sound S hF hist [] (sound_nil S)).1 r).2

/-- With a faithful key the store is invisible: a whole history is answered as if there were none. -/
theorem C14memo_transparent (S : Spec ρ κ ν) (hF : Faithful S) (hist : List ρ) :
    (askAll S [] hist).2 = hist.map S.compute :=
  (askAll_sound S hF hist [] (sound_nil S)).2

/-- Exactly then: history-independence of every answer is equivalent to the key determining the value. -/
theorem C14memo_pure_iff (S : Spec ρ κ ν) :
    (∀ (hist : List ρ) (r : ρ), (ask S (askAll S [] hist).1 r).2 = S.compute r) ↔ Faithful S := by
  constructor
  · intro h r r' hk
    have h1 := h [r] r'
    simp only [askAll, ask, find, if_pos hk] at h1
    exact h1
  · intro hF hist r
    exact C14memo_pure S hF hist r

/-- The world with such a store: after any history of operations (encodes measure through the store, failing ones
too) and direct measurements, the target's modelled outcome and the answers to its own measurements are the fresh
process's. -/
theorem C14memo_world_purity (S : Spec ρ κ ν) (hF : Faithful S) (q : Reqs ρ) (T : Table) (w₀ : World)
    (ops : List (MOp ρ)) (c : Ctor) :
    encodeCtorM S q T (runM S q T (freshM w₀) ops) c = encodeCtorM S q T (freshM w₀) c := by
  apply encodeCtorM_congr S q T c (runM_fixed S q T ops (freshM w₀))
  intro rs
  exact (askAll_sound S hF rs _ (runM_sound S hF q T ops (freshM w₀) (sound_nil S))).2.trans
    (askAll_sound S hF rs [] (sound_nil S)).2.symm

/-- Keyed by the exact request: faithful. -/
theorem C14memo_exact_faithful : Faithful exactKey := fun _ _ h => h

/-- Loaded fonts keyed by (file, `int(2·size)`): after a request at 9.50 pt the request at 9.70 pt gets the 9.50 font. -/
theorem C14memo_halfpoint_witness :
    (ask halfPointKey (askAll halfPointKey [] [(0, 950)]).1 (0, 970)).2 = (0, 950) := by decide

theorem C14memo_halfpoint_not_faithful : ¬ Faithful halfPointKey := by
  intro h
  have := h (0, 950) (0, 970) (by decide)
  exact absurd this (by decide)

/-- A key that forgets the font file: the same size in another font is answered with the first font. -/
theorem C14memo_sizeonly_not_faithful : ¬ Faithful sizeOnlyKey := by
  intro h
  have := h (0, 900) (1, 900) (by decide)
  exact absurd this (by decide)

/-- a figure document always constructs; its measurements are put in by `q` -/
def anyCtor : Ctor := { kind := .figure, secs := [], headers := .default, others := [] }

/-- In the world: with the half-point key, ONE direct measurement at 9.50 pt before the target changes what the
target's own measurement at 9.70 pt is answered with — the class of change the harness looks for. -/
theorem C14memo_world_halfpoint_witness :
    encodeCtorM halfPointKey (fun _ _ _ => [(0, 970)]) [] (runM halfPointKey (fun _ _ _ => [(0, 970)]) []
        (freshM (fresh [] [])) [.ask (0, 950)]) anyCtor
      ≠ encodeCtorM halfPointKey (fun _ _ _ => [(0, 970)]) [] (freshM (fresh [] [])) anyCtor := by
  decide

/-- … and so does one failing or successful encode of another document that measured at 9.50 pt. -/
theorem C14memo_world_halfpoint_encode_witness :
    let q : Reqs FontReq := fun _ _ d => if d.others = [] then [(0, 970)] else [(0, 950)]
    let other : Ctor := { anyCtor with others := [7] }
    encodeCtorM halfPointKey q [] (runM halfPointKey q [] (freshM (fresh [] []))
        [.op (.construct 0 other), .op (.encode 0)]) anyCtor
      ≠ encodeCtorM halfPointKey q [] (freshM (fresh [] [])) anyCtor := by
  decide

/-- Non-vacuity of `C14memo_world_purity`: the exact key on the same history gives the fresh answers. -/
example :
    (encodeCtorM exactKey (fun _ _ _ => [(0, 970)]) [] (runM exactKey (fun _ _ _ => [(0, 970)]) []
        (freshM (fresh [] [])) [.ask (0, 950)]) anyCtor).2 = [(0, 970)] := by decide

end Props.C14memo
