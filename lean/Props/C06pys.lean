import Generated.PyPageSettings
import Generated.PyEncodePageSettings
import Generated.PyPageBreak
import Generated.PyPageMargin
import Props.C06pyb
/-!
# C06 — translator tie for the page settings of the document start

`Generated.Py.PageSettings.run` is regenerated on every run from `RTFSyntaxGenerator.generate_page_settings`
(`rtf/syntax.py`), `Generated.Py.EncodePageSettings.run` from `RTFEncodingService.encode_page_settings`, which hands the
page's width, height, margin and orientation to it.  Proved here: for a page with six margins the string is the printed
`Model.Encode.pageSettings pg` (`\landscape ` exactly for the orientation "landscape"); fewer than six margins raise
`IndexError`; and `C06py_break_restates_settings`: the page break (`Props/C06pyb.lean`) carries, character for
character, the paper-size words and the margin words of the page settings — C06's "every page restates the paper size
and margins the document opened with", for the functions as they read now.
-/
-- the `simp` sets below serve several cases at once, or every way the regenerated function may be cut into steps: a
-- lemma that one of them does not call for is not a defect
set_option linter.unusedSimpArgs false
namespace Props.C06pys
open Model.Rtf Model.Emit Model.Encode Generated.Py Generated.Py.PageSettings Props.C01py Props.C01pyc

/-- the orientation string of a landscape page -/
def landscapeName : List Nat := cps "landscape".toList

/-- what the function computes for six margins (the loop unfolds on the six elements: no local of the function is
named, so the proof survives a reordering of its statements) -/
theorem run_eq (i2t : Rat → Int) (width height : Rat) (a b c d e f : Rat) (o : Option (List Nat)) :
    run i2t width height [a, b, c, d, e, f] o =
      .ok (C06pyb.paperStr i2t width height ++
        (if o = some landscapeName then cps "\\landscape ".toList else []) ++ [10] ++
        C06pym.marginStr i2t a b c d e f) := by
  have el : ([108, 97, 110, 100, 115, 99, 97, 112, 101] : List Nat) = landscapeName := by decide
  simp [PageSettings.run, loop1, List.foldlM, el, pyIndex, bind, Except.bind, pure, Except.pure, C06pyb.paperStr,
    C06pym.marginStr, cps, List.map_append]

/-- **six margins: the translated `generate_page_settings` prints the model's page settings** -/
theorem C06py_page_settings_translated (pg : Page) (h6 : pg.margin.length = 6) (o : Option (List Nat))
    (ho : pg.landscape = decide (o = some landscapeName)) :
    ∃ ns, pageSettings pg = .ok ns ∧
      run Model.Encode.twip pg.width pg.height pg.margin o = .ok (cps (printNodes ns)) := by
  -- the margin words are those of `encode_page_margin`, already tied to `marginNodes`
  obtain ⟨ms, hms, hrun⟩ := C06pym.C06py_page_margin_translated pg h6
  rcases hm : pg.margin with _ | ⟨a, _ | ⟨b, _ | ⟨c, _ | ⟨d, _ | ⟨e, _ | ⟨f, _ | ⟨g, rest⟩⟩⟩⟩⟩⟩⟩ <;>
    simp only [hm, List.length_cons, List.length_nil] at h6 <;> try omega
  rw [hm, C06pym.run_six] at hrun
  have hstr : C06pym.marginStr Model.Encode.twip a b c d e f = cps (printNodes ms) := by simpa using hrun
  refine ⟨_, by simp only [pageSettings, hms, bind, Except.bind, pure, Except.pure]; rfl, ?_⟩
  rw [run_eq, hstr]
  by_cases hl : o = some landscapeName <;> simp only [hl, decide_true, decide_false] at ho <;>
    simp [ho, hl, C06pyb.paperStr, cwSp, Proofs.Emit.printNodes_append, cps_append, printNodes, printNode,
      cwi, cps, strOfInt_digits, List.map_append]

/-- fewer than six margins: `IndexError` (`margin_twips[k]`) -/
theorem C06py_page_settings_short (i2t : Rat → Int) (width height : Rat) (margins : List Rat) (o : Option (List Nat))
    (h : margins.length < 6) : run i2t width height margins o = .error .IndexError := by
  rcases margins with _ | ⟨a, _ | ⟨b, _ | ⟨c, _ | ⟨d, _ | ⟨e, _ | ⟨f, rest⟩⟩⟩⟩⟩⟩ <;>
    simp only [List.length_cons, List.length_nil] at h <;> try omega
  all_goals simp [PageSettings.run, loop1, List.foldlM, pyIndex, bind, Except.bind, pure, Except.pure]

/-- `encode_page_settings` is `generate_page_settings` on the fields of the page -/
theorem C06py_encode_page_settings_translated (i2t : Rat → Int) (width height : Rat) (margin : List Rat)
    (o : Option (List Nat)) :
    EncodePageSettings.run i2t width height margin o = run i2t width height margin o := by
  cases h : run i2t width height margin o <;> simp [EncodePageSettings.run, h, bind, Except.bind, pure, Except.pure]

/-- **the page break restates the page settings**: for every page with six margins the document start is
`paper ++ landscape? ++ "\n" ++ margins` and every page break is `{…}\page{…}"\n" ++ paper ++ "\n\n" ++ margins ++
"\n\n"` with the SAME `paper` and `margins` strings (any `inch_to_twip`) -/
theorem C06py_break_restates_settings (i2t : Rat → Int) (width height : Rat) (a b c d e f : Rat)
    (o : Option (List Nat)) :
    ∃ paper margins landscape,
      EncodePageSettings.run i2t width height [a, b, c, d, e, f] o = .ok (paper ++ landscape ++ [10] ++ margins) ∧
      PageBreak.run i2t (PageMargin.run i2t [a, b, c, d, e, f]) width height =
        .ok (C06pyb.breakStr ++ paper ++ [10, 10] ++ margins ++ [10, 10]) := by
  refine ⟨C06pyb.paperStr i2t width height, C06pym.marginStr i2t a b c d e f,
    if o = some landscapeName then cps "\\landscape ".toList else [], ?_, ?_⟩
  · rw [C06py_encode_page_settings_translated, run_eq]
  · rw [C06pym.run_six, C06pyb.run_eq]
    simp

end Props.C06pys
