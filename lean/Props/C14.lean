import Model.World
import Model.WorldSpec
import Proofs.World
import Generated.Colors
/-!
# C14 — encoding is a pure function of the document

Statement (properties.jsonl): `rtf_encode()` returns the same string every time it is called on a
document, and that string equals what a fresh interpreter produces for an equal-valued document, no
matter which other documents were constructed, encoded, or failed to encode earlier in the process,
and whether or not configuration objects are shared between documents.  Encoding never modifies the
caller's DataFrame.

Model: `Model.World` — `World` = colour context, strategy registry, caller-owned objects (`heap`),
caller-owned frames, constructed documents; `step` = one operation (construct / encode, successful
or raising / encode twice / drop / colour lookup outside an encode); `run` = a history of **any**
length.  The outcome of an encode is its state-dependent projection `Proj` (colour table, resolved
colour indices, width vectors read through the references, strategies) or the error raised.

Sentences of the statement ↦ theorems:
* "the same string every time it is called"                          ↦ `C14_encode_twice`, `C14_twice_equal`
* "equals what a fresh interpreter produces … no matter which other documents were constructed,
  encoded, or failed to encode earlier"                              ↦ `C14_purity` (no operation writes what an
  encode reads: `Proofs.World.encodeCtor_run`), `C14_purity_constructed` (via the invariant `C14_inv_fresh`,
  `C14_inv_step`, `C14_inv_reachable`; in the invariant's own terms `C14_purity_inv`); the oracle the harness
  evaluates on the implementation reports nothing on the model (`C14_spec_of_model`)
* "for an equal-valued document" (the fresh process builds only the target's own objects)
                                                                     ↦ `C14_equal_valued`
* "whether or not configuration objects are shared"                  ↦ the heap is addressed by identity;
  `C14_heap_unchanged` (no operation writes a caller's object), witness `C14_legacy_construct_witness`
* "never modifies the caller's DataFrame"                            ↦ `C14_frames_unchanged`
* colour context never survives an operation, failing encodes included ↦ `C14_ctx_cleared`, `C14_lookup_pure`;
  witness on the code before 9510742 (D18): `C14_legacy_encode_witness`
* registry constant after initialisation                             ↦ `C14_registry_stable`
* the enumeration order of the colour *set* (PYTHONHASHSEED) is irrelevant ↦ `C14_hashseed`, `C14_hashseed_table`
  (rtflite's table has pairwise different master indices: `C14_table_indices`, `C14_table_injective`)
* "what a fresh interpreter produces" is ONE thing: the hash seed an interpreter draws at its start is part of
  the world (`World.seed`, constant along every history: `C14_seed_unchanged`); the outcome of an encode does not
  depend on it (`C14_seed_irrelevant`, `C14_seed_irrelevant_table`, `C14_seed_irrelevant_doc`), so the outcome after any history in a process
  with one seed is the outcome in a fresh process with any other (`C14_purity_any_interpreter`), for equal-valued
  objects in processes with different seeds (`C14_equal_valued_any_seed`); the spanning heading rows follow the
  user's `page_by` list, the subline heading the user's `subline_by` list (`C14_headings_user_order`);
  the observation over several fresh interpreters reports nothing (`C14_seed_spec_of_model`); the seed component is
  not idle (`C14_seed_witness`)
-/
namespace Props.C14
open Model.World Proofs.World

/-- What every reachable world satisfies, relative to the world `w₀` the process started from. -/
structure Inv (w₀ w : World) : Prop where
  /-- the hash seed is the one the process started with -/
  seed : w.seed = w₀.seed
  /-- the colour context is `None` between operations -/
  ctx : w.ctx = none
  /-- the registry is constant after its initialisation -/
  reg : w.registry = w₀.registry ∨ w.registry = registerAll w₀.registry
  /-- caller-owned component objects are never written -/
  heap : w.heap = w₀.heap
  /-- caller-owned frames are never written -/
  frames : w.frames = w₀.frames
  /-- every live document is what its constructor call builds in the fresh world -/
  docs : ∀ n c d, aget n w.docs = some (c, d) → construct w₀.heap w₀.frames c = .ok d

theorem C14_inv_fresh (w₀ : World) (hctx : w₀.ctx = none) (hdocs : w₀.docs = []) : Inv w₀ w₀ where
  seed := rfl
  ctx := hctx
  reg := Or.inl rfl
  heap := rfl
  frames := rfl
  docs := by intro n c d h; rw [hdocs] at h; simp [aget] at h

/-- Every operation — a failing encode included — preserves the invariant. -/
theorem C14_inv_step (T : Table) (w₀ w : World) (op : Op) (h : Inv w₀ w) : Inv w₀ (step T w op).1 := by
  have hreg : ∀ r : Registry, (r = w₀.registry ∨ r = registerAll w₀.registry) →
      (registerAll r = w₀.registry ∨ registerAll r = registerAll w₀.registry) := by
    intro r hr
    rcases hr with e | e
    · exact Or.inr (by rw [e])
    · exact Or.inr (by rw [e, registerAll_idem])
  fun_cases step T w op
  case case1 n c d hd =>
    refine ⟨h.seed, h.ctx, h.reg, h.heap, h.frames, fun n' c' d' hget => ?_⟩
    rw [aget_aset] at hget
    split at hget
    · cases hget
      rw [← h.heap, ← h.frames]
      exact hd
    · exact h.docs n' c' d' hget
  case case3 => exact ⟨h.seed, rfl, hreg _ h.reg, h.heap, h.frames, h.docs⟩
  case case5 => exact ⟨h.seed, rfl, hreg _ (hreg _ h.reg), h.heap, h.frames, h.docs⟩
  case case7 n =>
    refine ⟨h.seed, h.ctx, h.reg, h.heap, h.frames, fun n' c d hget => ?_⟩
    rw [aget_filter] at hget
    split at hget
    · cases hget
    · exact h.docs n' c d hget
  all_goals exact h

private theorem inv_run (T : Table) (w₀ : World) (ops : List Op) : ∀ w, Inv w₀ w → Inv w₀ (run T w ops).1 := by
  induction ops with
  | nil => exact fun _ h => h
  | cons op ops ih => exact fun w h => ih _ (C14_inv_step T w₀ w op h)

/-- The invariant holds in every world reachable by a history of any length. -/
theorem C14_inv_reachable (T : Table) (w₀ : World) (hctx : w₀.ctx = none) (hdocs : w₀.docs = [])
    (ops : List Op) : Inv w₀ (run T w₀ ops).1 :=
  inv_run T w₀ ops w₀ (C14_inv_fresh w₀ hctx hdocs)

/-- Purity in the invariant's own terms: in any world satisfying the invariant the outcome of a
constructor call + encode is the fresh world's. -/
theorem C14_purity_inv (T : Table) (w₀ w : World) (h : Inv w₀ w) (c : Ctor) :
    (encodeCtor T w c).2 = (encodeCtor T w₀ c).2 :=
  encodeCtor_local T w w₀ c (sameEnum_of_eq h.seed) (fun _ _ => by rw [h.heap]) (fun _ _ => by rw [h.frames])

set_option linter.unusedVariables false in
/-- **Purity.** After any history, constructing and encoding a target gives exactly the outcome it
gives in the fresh world.  (`hctx` and `hdocs` are not needed by the proof: no operation writes what the outcome
depends on, whatever world the history starts from.) -/
theorem C14_purity (T : Table) (w₀ : World) (hctx : w₀.ctx = none) (hdocs : w₀.docs = [])
    (ops : List Op) (c : Ctor) :
    (encodeCtor T (run T w₀ ops).1 c).2 = (encodeCtor T w₀ c).2 :=
  encodeCtor_run T w₀ ops c

/-- The same for a document object that was constructed at any earlier point of the history (and
possibly encoded, successfully or not, any number of times since). -/
theorem C14_purity_constructed (T : Table) (w₀ : World) (hctx : w₀.ctx = none) (hdocs : w₀.docs = [])
    (ops : List Op) (n : DocId) (c : Ctor) (d : Doc)
    (hlive : aget n (run T w₀ ops).1.docs = some (c, d)) :
    (step T (run T w₀ ops).1 (.encode n)).2 = .encoded (encodeCtor T w₀ c).2 := by
  have h := C14_inv_reachable T w₀ hctx hdocs ops
  have hc := h.docs n c d hlive
  simp only [step, findDoc, hlive, Option.map_some, encodeCtor, hc]
  rw [encodeDoc_outcome T d h.seed h.heap h.frames]

/-- Encoding the same document again gives the same outcome, from any world whatsoever. -/
theorem C14_encode_twice (T : Table) (w : World) (d : Doc) :
    (encodeDoc T (encodeDoc T w d).1 d).2 = (encodeDoc T w d).2 :=
  encodeDoc_outcome T d rfl rfl rfl

/-- whichever operation reports a pair of outcomes reports two equal ones -/
private theorem step_twice {T : Table} {w : World} {op : Op} {a b : Outcome} (h : (step T w op).2 = .twice a b) :
    a = b := by
  revert h
  fun_cases step T w op
  case case5 =>
    rintro ⟨⟩
    exact (C14_encode_twice T w _).symm
  all_goals exact fun h => nomatch h

theorem C14_twice_equal (T : Table) (w w' : World) (n : DocId) (a b : Outcome)
    (h : step T w (.encodeTwice n) = (w', .twice a b)) : a = b :=
  step_twice (congrArg Prod.snd h)

/-- No operation modifies a caller-owned frame … -/
theorem C14_frames_unchanged (T : Table) (w : World) (ops : List Op) :
    (run T w ops).1.frames = w.frames :=
  (run_fixed T w ops).2.2

/-- … or a caller-owned component object. -/
theorem C14_heap_unchanged (T : Table) (w : World) (ops : List Op) :
    (run T w ops).1.heap = w.heap :=
  (run_fixed T w ops).2.1

/-- The colour context is cleared by every encode, whatever its outcome and whatever was there. -/
theorem C14_ctx_cleared (T : Table) (w : World) (d : Doc) : (encodeDoc T w d).1.ctx = none := rfl

/-- A colour lookup outside an encode sees no context after any history: it answers from the master
table, as in a fresh process. -/
theorem C14_lookup_pure (T : Table) (w₀ : World) (hctx : w₀.ctx = none) (hdocs : w₀.docs = [])
    (ops : List Op) (c : Color) :
    (step T (run T w₀ ops).1 (.lookup c)).2 = .looked (rtfColorIndex T none c) := by
  simp only [step, (C14_inv_reachable T w₀ hctx hdocs ops).ctx]

/-- The registry is its initial value or the initial value plus the three built-in strategies, and the
three registrations are idempotent. -/
theorem C14_registry_stable (T : Table) (w₀ : World) (hctx : w₀.ctx = none) (hdocs : w₀.docs = [])
    (ops : List Op) :
    ((run T w₀ ops).1.registry = w₀.registry ∨ (run T w₀ ops).1.registry = registerAll w₀.registry)
    ∧ registerAll (registerAll w₀.registry) = registerAll w₀.registry :=
  ⟨(C14_inv_reachable T w₀ hctx hdocs ops).reg, registerAll_idem _⟩

/-! ## the observation-level specification holds of the model -/

private theorem twicePairs_equal (T : Table) (ops : List Op) :
    ∀ w, ∀ p ∈ twicePairs (run T w ops).2, p.1 = p.2 := by
  induction ops with
  | nil =>
    intro w p hp
    cases hp
  | cons op ops ih =>
    intro w p hp
    simp only [run] at hp
    unfold twicePairs at hp
    split at hp
    · cases hp
    · rename_i heq
      rcases List.mem_cons.mp hp with e | e
      · exact e ▸ step_twice (List.cons.inj heq).1
      · exact ih _ p ((List.cons.inj heq).2 ▸ e)
    · rename_i heq
      exact ih _ p ((List.cons.inj heq).2 ▸ hp)

private theorem encodeCtor_frames (T : Table) (w : World) (c : Ctor) : (encodeCtor T w c).1.frames = w.frames := by
  unfold encodeCtor; split <;> rfl

/-- The oracle the harness evaluates on the implementation (`Model.World.violations`) reports nothing
on the observation the model makes of any history and any target. -/
theorem C14_spec_of_model (T : Table) (w₀ : World) (hctx : w₀.ctx = none) (hdocs : w₀.docs = [])
    (ops : List Op) (c : Ctor) : violations (modelObs T w₀ ops c) = [] := by
  unfold violations modelObs
  simp only [C14_purity T w₀ hctx hdocs ops c, if_true, List.nil_append]
  have h2 : (twicePairs (run T w₀ ops).2).all (fun p => decide (p.1 = p.2)) = true := by
    rw [List.all_eq_true]
    intro p hp
    simp [twicePairs_equal T ops w₀ p hp]
  have h3 : ((w₀.frames.map (·.2)).zip ((encodeCtor T (run T w₀ ops).1 c).1.frames.map (·.2))).all
      (fun p => decide (p.1 = p.2)) = true := by
    rw [encodeCtor_frames, C14_frames_unchanged, List.zip_eq_zipWith, List.zipWith_self]
    simp
  simp only [h2, h3, if_true, List.append_nil]

/-! ## "an equal-valued document": only the objects the constructor call names matter -/

/-- the object identities a constructor call mentions -/
def ctorObjs (c : Ctor) : List ObjId :=
  c.secs.map (·.2) ++ c.others ++ headerIds c.headers

def ctorFrames (c : Ctor) : List FrameId := c.secs.map (·.1)

/-- Two processes (with one hash seed; for any two seeds see `C14_equal_valued_any_seed`) whose objects named by
the call have equal values — whatever else exists in either — produce the same outcome for it. -/
theorem C14_equal_valued (T : Table) (w w' : World) (c : Ctor) (hseed : w.seed = w'.seed)
    (hobj : ∀ i ∈ ctorObjs c, aget i w.heap = aget i w'.heap)
    (hfr : ∀ i ∈ ctorFrames c, aget i w.frames = aget i w'.frames) :
    (encodeCtor T w c).2 = (encodeCtor T w' c).2 :=
  encodeCtor_local T w w' c (sameEnum_of_eq hseed) hobj hfr

/-! ## enumeration order of the colour set -/

/-- If the master index is injective on the names in play, permuting the context (what a different
`PYTHONHASHSEED` does to `list(set(...))`) changes no resolved index and no colour table. -/
theorem C14_hashseed (T : Table) (used used' : List Color) (c : Color)
    (hinj : ∀ a b n, master T a = some n → master T b = some n → a = b)
    (hperm : used.Perm used') :
    rtfColorIndex T (some used) c = rtfColorIndex T (some used') c
    ∧ colorTable T used = colorTable T used' :=
  ⟨rtfColorIndex_perm T used used' c hinj hperm, colorTable_perm T used used' hinj hperm⟩

/-- rtflite's colour table as the model's `Table` -/
def realTable : Table := Generated.colorTable.map (fun r => (r.name.toList, r.idx))

/-- the master indices of the table in /repo are `1, 2, …, 657` in order (re-decided on every build) -/
theorem C14_table_indices : Generated.colorTable.map (·.idx) = List.range' 1 Generated.colorTable.length := by
  decide +kernel

/-- master indices of rtflite's table are pairwise different -/
theorem C14_table_injective : ∀ a b n, master realTable a = some n → master realTable b = some n → a = b := by
  apply master_inj_of_nodup
  have : realTable.map (·.2) = Generated.colorTable.map (·.idx) := by
    simp [realTable, List.map_map, Function.comp_def]
  rw [this, C14_table_indices]
  exact List.nodup_range'

theorem C14_hashseed_table (used used' : List Color) (c : Color) (hperm : used.Perm used') :
    rtfColorIndex realTable (some used) c = rtfColorIndex realTable (some used') c
    ∧ colorTable realTable used = colorTable realTable used' :=
  C14_hashseed realTable used used' c C14_table_injective hperm

/-! ## the hash seed of the interpreter -/

/-- No operation changes the hash seed: it is drawn once, when the interpreter starts. -/
theorem C14_seed_unchanged (T : Table) (w : World) (ops : List Op) : (run T w ops).1.seed = w.seed :=
  (run_fixed T w ops).1

/-- **The encode outcome is independent of the hash-seed component of the world**: the same objects, frames
and constructor call in a process that drew seed `s` instead give the same outcome (colour table, every colour
index, widths, strategies, order of the heading rows, error kind) — where the master colour index is injective. -/
theorem C14_seed_irrelevant (T : Table)
    (hinj : ∀ a b n, master T a = some n → master T b = some n → a = b) (w : World) (s : Nat) (c : Ctor) :
    (encodeCtor T { w with seed := s } c).2 = (encodeCtor T w c).2 :=
  encodeCtor_local T _ _ c (sameEnum_of_inj T hinj _ _) (fun _ _ => rfl) (fun _ _ => rfl)

/-- … which rtflite's table is. -/
theorem C14_seed_irrelevant_table (w : World) (s : Nat) (c : Ctor) :
    (encodeCtor realTable { w with seed := s } c).2 = (encodeCtor realTable w c).2 :=
  C14_seed_irrelevant realTable C14_table_injective w s c

/-- The same for a document object that exists already. -/
theorem C14_seed_irrelevant_doc (w : World) (s : Nat) (d : Doc) :
    (encodeDoc realTable { w with seed := s } d).2 = (encodeDoc realTable w d).2 :=
  encodeDoc_local realTable _ _ d (sameEnum_of_inj _ C14_table_injective _ _) (fun _ _ => rfl) (fun _ _ => rfl)

/-- **Purity against ANY fresh interpreter.** After any history in a process that drew seed `s`, constructing
and encoding a target gives exactly the outcome of a fresh process that drew seed `s'` — "a fresh interpreter"
is every fresh interpreter. -/
theorem C14_purity_any_interpreter (w₀ : World) (hctx : w₀.ctx = none) (hdocs : w₀.docs = [])
    (s s' : Nat) (ops : List Op) (c : Ctor) :
    (encodeCtor realTable (run realTable { w₀ with seed := s } ops).1 c).2
      = (encodeCtor realTable { w₀ with seed := s' } c).2 := by
  rw [C14_purity realTable { w₀ with seed := s } hctx hdocs ops c,
    C14_seed_irrelevant_table w₀ s c, C14_seed_irrelevant_table w₀ s' c]

/-- Equal-valued objects in two processes with whatever hash seeds: the same outcome. -/
theorem C14_equal_valued_any_seed (w w' : World) (c : Ctor)
    (hobj : ∀ i ∈ ctorObjs c, aget i w.heap = aget i w'.heap)
    (hfr : ∀ i ∈ ctorFrames c, aget i w.frames = aget i w'.frames) :
    (encodeCtor realTable w c).2 = (encodeCtor realTable w' c).2 :=
  encodeCtor_local realTable w w' c (sameEnum_of_inj _ C14_table_injective _ _) hobj hfr

/-- The spanning heading rows of a section follow the body's `page_by` list as the user wrote it and the subline
heading its `subline_by` list — whatever the hash seed, the registry and the history. -/
theorem C14_headings_user_order (w : World) (d : Doc) (i : Nat) (s : FrameId × Comp) (p : SecProj) (o : Obj)
    (ho : s.2.get w.heap = some o) (h : encodeSec w d i s = .ok p) :
    p.headings = (if o.newPage && o.pagebyColumn then [] else o.pageBy) ∧ p.sublines = o.sublineBy := by
  revert h
  fun_cases encodeSec w d i s
  case case4 f o' ho' _ _ _ _ _ _ _ _ _ =>
    -- past the checks that may raise, the projection carries the body's own lists
    rintro ⟨⟩
    cases ho.symm.trans ho'
    exact ⟨rfl, rfl⟩
  all_goals exact fun h => nomatch h

/-- The observation of several fresh interpreters (`Model.World.seedViolations`, the oracle the harness
evaluates on the implementation's fresh-interpreter outputs under several hash seeds) reports nothing on the
model, for any reference seed and any other seeds. -/
theorem C14_seed_spec_of_model (w₀ : World) (s : Nat) (seeds : List Nat) (c : Ctor) :
    seedViolations (encodeCtor realTable { w₀ with seed := s } c).2 (modelFreshOutcomes realTable w₀ seeds c) = [] := by
  unfold seedViolations modelFreshOutcomes
  have : (seeds.map (fun s' => (encodeCtor realTable { w₀ with seed := s' } c).2)).all
      (fun o => decide (o = (encodeCtor realTable { w₀ with seed := s } c).2)) = true := by
    rw [List.all_eq_true]
    intro o ho
    obtain ⟨s', _, rfl⟩ := List.mem_map.mp ho
    rw [C14_seed_irrelevant_table w₀ s' c, C14_seed_irrelevant_table w₀ s c]
    simp
  rw [this]
  rfl

/-! ## witnesses: the model tells the historical behaviours apart -/

section Witness
private def tbl : Table := [("red".toList, 552), ("blue".toList, 26)]
private def body0 : Obj :=
  { widths := none, colors := [], used := [], groupBy := [], pageBy := [], sublineBy := [],
    newPage := false, pagebyColumn := true, rest := 0 }
private def f2 : Frame := { cols := ["a".toList, "b".toList], rows := [[some "1".toList, some "2".toList]] }
private def f3 : Frame := { cols := ["a".toList, "b".toList, "c".toList], rows := [[none, none, none]] }
private def c2 : Ctor := { kind := .single, secs := [(0, 0)], headers := .flat [], others := [] }
private def c3 : Ctor := { kind := .single, secs := [(1, 0)], headers := .flat [], others := [] }
private def w0 : World := fresh [(0, body0)] [(0, f2), (1, f3)]

/-- Before 6e822b0: constructing a 2-column document around a shared `RTFBody()` wrote `[1, 1]` into
it; a 3-column document built around the same object afterwards fails with `IndexError`, while in a
fresh process it encodes.  (Minimal history found on the real code.) -/
theorem C14_legacy_construct_witness :
    let h1 := Legacy.constructWrites w0.heap w0.frames c2
    (encodeDoc tbl { w0 with heap := h1 } (Legacy.constructDoc c3)).2 = .error .indexError
    ∧ (encodeCtor tbl w0 c3).2 ≠ .error .indexError
    ∧ (encodeCtor tbl (run tbl w0 [.construct 7 c2]).1 c3).2 = (encodeCtor tbl w0 c3).2 := by
  decide

private def blueBody : Obj := { body0 with colors := ["blue".toList], used := ["blue".toList], groupBy := ["a".toList] }
private def redBody : Obj := { body0 with colors := ["red".toList], used := ["red".toList] }
private def fBad : Frame := { cols := ["a".toList], rows := [[some "A".toList], [some "B".toList], [some "A".toList]] }
private def cBad : Ctor := { kind := .single, secs := [(0, 0)], headers := .flat [], others := [] }
private def cMulti : Ctor := { kind := .multi, secs := [(1, 1), (1, 1)], headers := .flat [], others := [] }
private def w1 : World := fresh [(0, blueBody), (1, redBody)] [(0, fBad), (1, f2)]

/-- Before 9510742 (D18): a failed single-section encode left its palette behind and the multi-section
path never set one; the next multi-section encode resolved `red` against `['blue']`. -/
theorem C14_legacy_encode_witness :
    ∃ dBad dMulti, construct w1.heap w1.frames cBad = .ok dBad ∧ construct w1.heap w1.frames cMulti = .ok dMulti
      ∧ (Legacy.encodeDoc tbl w1 dBad).2 = .error .valueError
      ∧ (Legacy.encodeDoc tbl (Legacy.encodeDoc tbl w1 dBad).1 dMulti).2 ≠ (Legacy.encodeDoc tbl w1 dMulti).2
      ∧ (encodeDoc tbl (encodeDoc tbl w1 dBad).1 dMulti).2 = (encodeDoc tbl w1 dMulti).2 := by
  refine ⟨_, _, rfl, rfl, ?_⟩
  decide

/-- a listing body: `subline_by=["site"], page_by=["region", "arm"]` -/
private def listing : Obj := { body0 with sublineBy := ["site".toList], pageBy := ["region".toList, "arm".toList] }

/-- The seed component is not idle: two interpreters enumerate one and the same set of two column names in
different orders, so a heading order taken from `set(page_by) - set(subline_by)` instead of the list (the class
of change the harness looks for by encoding under several hash seeds) gives different documents in different
interpreters — while the model's heading order is the user's list under every seed. -/
theorem C14_seed_witness :
    enumSet 0 (listing.pageBy.filter (fun c => !listing.sublineBy.contains c))
      ≠ enumSet 4 (listing.pageBy.filter (fun c => !listing.sublineBy.contains c))
    ∧ headingCols listing = ["region".toList, "arm".toList] := by
  decide

/-- Non-vacuity: a history with a shared body, a failing encode, an encode-twice and a drop, whose
target encodes successfully with a non-empty colour table and dense indices. -/
example :
    (run tbl w1 [.construct 0 cBad, .encode 0, .construct 1 cMulti, .encodeTwice 1, .drop 0, .lookup "red".toList]).2
      = [.constructed true, .encoded (.error .valueError), .constructed true,
         .twice (encodeCtor tbl w1 cMulti).2 (encodeCtor tbl w1 cMulti).2, .dropped, .looked (.idx 552)]
    ∧ (∃ p, (encodeCtor tbl w1 cMulti).2 = .ok p ∧ p.table = ["red".toList] ∧ p.indices = [("red".toList, 1), ("red".toList, 1)]) := by
  refine ⟨by decide, _, rfl, by decide, by decide⟩
end Witness

end Props.C14
