import Model.Encode
import Model.Color
import Proofs.EncodeLift
import Proofs.EncodeAttrs
import Proofs.EncodeColor
import Proofs.EncodeText
import Props.C12
import Props.C01enc
import Proofs.FontTable
/-!
# C12 for the whole-encoder model: colour and font references resolve to what the user asked for

`Props/C12.lean` proves the property about `Model.Color` (the colour service) for every list of collected colours.
Here it is stated about the ENCODER model `Model.Encode.encode` (byte-exact against `rtf_encode()`):

* the colour table in the head of the output is the dense table of the colours collected from the WHOLE document
  (`usedColors d = collect (colorDoc d)`), sorted by master index, without repetition (`C12enc_table`);
* the index the encoder prints for a colour name `c` is `(mkColorCtx d).index c` = `Utils._get_color_index` under that
  context (`C12enc_index_eq`); it is right for the printed table (`RefOk`, `C12enc_index`): in range, `0` for `""` /
  `"black"` (`C12enc_default_zero`), the 1-based position of `c`'s own row whenever `c` was collected
  (`C12enc_index_resolves`) — ONE numbering for the printed table and for every index (`C12enc_same_numbering`) —, `0`
  when it was not (`C12enc_index_in_range`), independent of the order in which the components mention colours
  (`C12enc_order_independent`);
* every `\cf` / `\chcbpat` / `\brdrcf` / `\f` the encoder emits comes from `resolveText` / `resolveBorder`
  (`C12enc_text_refs`, `C12enc_border_refs`); for a table cell (`cellOf` = `encodeCell`: data rows, column headers,
  table footnote / source) and for the lines of a text component they are functions of the values read at the
  position (`C12enc_cell_refs`, `C12enc_lines_refs`);
* every value read from an attribute that `collect_document_colors` looks at was collected (`C12enc_collected`), in
  particular everything a DATA cell reads through the page attributes: all six references of every data cell the encoder
  renders are right (`C12enc_data_cell`);
* the same for the other table components, whose border colours are collected since defect D40 was repaired in rtflite
  (6acba54; before it a header with `border_color_left="red"` got `\brdrcf0` and no colour table): all references of
  every column-header cell (`C12enc_header_cell`) and of a table footnote / source (`C12enc_foot_table_cell`) are right;
  title / subline / page header / footer lines (`C12enc_text_component`), spanning headings (`C12enc_heading_cell`);
* fonts: `\f{font-1}` names the entry of the emitted font table that carries the requested font's name
  (`C12enc_fonts`).
-/
namespace Props.C12enc
open Model.Rtf Model.Emit Model.Encode Model.Broadcast Model.Layout Model.Color Generated
open Proofs.Color Proofs.ColorTable Proofs.EncodeLift Proofs.EncodeAttrs Proofs.EncodeColor

/-- index `i`, printed where the colour name `c` was requested, is right for the document's colour table `rows`:
it is the context's index, within the table, `0` for a default colour or a colour that was not collected, and the
position of `c`'s own row (whose printed code reads back as `c`'s RGB) when `c` was collected -/
structure RefOk (d : Model.Encode.Doc) (rows : List ColorRow) (c : String) (i : Int) : Prop where
  eq : i = (mkColorCtx d).index c
  nat : i = ((utilsColorIndex colorTable (some (usedColors d)) c none : Nat) : Int)
  le : i.toNat ≤ rows.length
  default : significant c = false → i = 0
  uncollected : c ∉ usedColors d → i = 0
  resolves : significant c = true → c ∈ usedColors d → Resolves colorTable rows c i.toNat

/-! ## the table -/

/-- The colour table in the head of an accepted document is the text `generate_rtf_color_table` returns for the colours
collected from the whole document: its rows are the non-default collected colours, each once, in strictly ascending
master-index order, every row the dictionaries' own row of its name; there is a table iff a non-default colour was
collected; and the bytes printed for it are exactly that text. -/
theorem C12enc_table (measure : Measure) (d : Model.Encode.Doc) (g : DocG) (h : encode measure d = .ok g) :
    ∃ rows fontTbl hdr ftr ps,
      tableRows colorTable (usedColors d) = .ok rows ∧
      generateColorTable colorTable (some (mkColorCtx d).used) = .ok (tableText rows) ∧
      fontTableText fontTable = .ok fontTbl ∧
      g.head = [cw0 "ansi", Node.nl, cwi "deff" 0, cwi "deflang" 1033, Node.nl] ++ textNodes fontTbl.toList ++
        [Node.nl] ++ textNodes (tableText rows).toList ++ [Node.nl, Node.nl, Node.nl] ++ hdr ++ [Node.nl] ++ ftr ++
        [Node.nl] ++ ps ++ [Node.nl] ∧
      printNodes (textNodes (tableText rows).toList) = (tableText rows).toList ∧
      (rows.map (·.name)).Perm ((usedColors d).filter significant) ∧
      rows.Pairwise (fun a b => a.idx < b.idx) ∧
      (∀ row ∈ rows, lookupRow colorTable row.name = some row) ∧
      (rows ≠ [] ↔ ∃ c ∈ usedColors d, significant c = true) := by
  obtain ⟨fontTbl, colorTbl, hdr, ftr, ps, hfont, hcolor, _, _, _, hhead⟩ := encode_head h
  obtain ⟨rows, hrows, rfl⟩ := generateColorTable_ok hcolor
  obtain ⟨h1, _, h3, h4⟩ := Props.C12.C12_table_spec (usedColors d) rows hrows
  refine ⟨rows, fontTbl, hdr, ftr, ps, hrows, hcolor, hfont, hhead, Proofs.LexPrint.print_lexNodes _, h1,
    h4 (usedColors_nodup d), h3, ?_⟩
  rw [Ne, ← List.map_eq_nil_iff (f := (·.name)), ← List.length_eq_zero_iff, h1.length_eq, List.length_eq_zero_iff,
    List.filter_eq_nil_iff]
  simp

/-! ## one reference -/

/-- the index the encoder prints is `Utils._get_color_index(color)` while the context holds the collected colours -/
theorem C12enc_index_eq (d : Model.Encode.Doc) (c : String) :
    (mkColorCtx d).index c = (utilsColorIndex colorTable (some (usedColors d)) c none : Nat) :=
  index_eq_utils d c

/-- whatever colour name is asked for, the index the encoder prints is right for the table it prints -/
theorem C12enc_index (d : Model.Encode.Doc) (rows : List ColorRow) (h : tableRows colorTable (usedColors d) = .ok rows)
    (c : String) : RefOk d rows c ((mkColorCtx d).index c) := by
  have he := index_eq_utils d c
  obtain ⟨hle, hnot⟩ := Props.C12.C12_index_in_range (usedColors d) rows h c
  refine ⟨rfl, he, ?_, ?_, ?_, ?_⟩
  · rw [he]; simpa using hle
  · intro hs
    rw [he, utilsColorIndex_default _ _ _ _ hs]; rfl
  · intro hc
    rw [he, hnot hc]; rfl
  · intro hs hc
    obtain ⟨i, _, _, h3, h4⟩ := Props.C12.C12_index_resolves (usedColors d) rows h c hc hs
    rw [he, h3]
    simpa using h4

/-- **One numbering.**  The colour table an accepted document prints and the index function every emitter of the
encoder uses are built from the SAME list, the colours collected from the whole document: there is ONE `rows` such that
the head carries the text of the dense table `rows` and, for every colour name, the index the encoder prints is right
for `rows` (`RefOk`; for the references of every rendered cell and line: `Ref d rows …` in the theorems below, with
this `rows`).  No page option enters: `Model.Encode.Page` has no field that selects another table — the real
`RTFPage(use_color=…)` is accepted by the constructor and read by nobody, and the correspondence (C12's documents with
every constructor option drawn, the whole-encoder class with the options outside the model's input drawn) checks that
it stays so.  Why the two must agree: `Props.C12.C12_mixed_numbering_wrong`. -/
theorem C12enc_same_numbering (measure : Measure) (d : Model.Encode.Doc) (g : DocG) (h : encode measure d = .ok g) :
    ∃ rows, tableRows colorTable (usedColors d) = .ok rows ∧
      generateColorTable colorTable (some (mkColorCtx d).used) = .ok (tableText rows) ∧
      (∃ pre post, g.head = pre ++ textNodes (tableText rows).toList ++ post) ∧
      (rows.map (·.name)).Perm ((usedColors d).filter significant) ∧
      ∀ c, RefOk d rows c ((mkColorCtx d).index c) := by
  obtain ⟨rows, fontTbl, hdr, ftr, ps, hrows, hgen, _, hhead, _, hperm, _⟩ := C12enc_table measure d g h
  refine ⟨rows, hrows, hgen,
    ⟨[cw0 "ansi", Node.nl, cwi "deff" 0, cwi "deflang" 1033, Node.nl] ++ textNodes fontTbl.toList ++ [Node.nl],
     [Node.nl, Node.nl, Node.nl] ++ hdr ++ [Node.nl] ++ ftr ++ [Node.nl] ++ ps ++ [Node.nl], ?_⟩,
    hperm, fun c => C12enc_index d rows hrows c⟩
  rw [hhead]
  simp only [List.append_assoc]

/-- a collected non-default colour gets the 1-based position of its own row in the printed table -/
theorem C12enc_index_resolves (d : Model.Encode.Doc) (rows : List ColorRow)
    (h : tableRows colorTable (usedColors d) = .ok rows) (c : String) (hc : c ∈ usedColors d)
    (hs : significant c = true) :
    ∃ i : Nat, (mkColorCtx d).index c = i ∧ i = indexIn rows c ∧ Resolves colorTable rows c i := by
  have he := index_eq_utils d c
  have := resolves_of_mem idxInj Proofs.ColorTable.seenRgb_eq (List.Perm.refl (usedColors d)) h hc hs
  exact ⟨indexIn rows c, by rw [he, this.1], rfl, this.2⟩

/-- no reference points past the end of the printed table; a colour that was not collected is printed as 0 -/
theorem C12enc_index_in_range (d : Model.Encode.Doc) (rows : List ColorRow)
    (h : tableRows colorTable (usedColors d) = .ok rows) (c : String) :
    0 ≤ (mkColorCtx d).index c ∧ ((mkColorCtx d).index c).toNat ≤ rows.length ∧
    (c ∉ usedColors d → (mkColorCtx d).index c = 0) := by
  have r := C12enc_index d rows h c
  refine ⟨by rw [r.nat]; exact Int.natCast_nonneg _, r.le, r.uncollected⟩

/-- `""` and `"black"` are index 0, and `"black"` is RGB (0,0,0) -/
theorem C12enc_default_zero (d : Model.Encode.Doc) (c : String) (h : c = "" ∨ c = "black") :
    (mkColorCtx d).index c = 0 ∧ requestedRgb colorTable "black" = some (0, 0, 0) := by
  have := Props.C12.C12_default_zero (some (usedColors d)) none c h
  rw [index_eq_utils, this.2.1]
  exact ⟨rfl, this.2.2⟩

/-- Two documents that mention the same colours — in whatever components, order and multiplicity — print the same
index for every colour name and (valid names) the same colour table. -/
theorem C12enc_order_independent (d₁ d₂ : Model.Encode.Doc)
    (hsame : ∀ c, c ∈ (colorDoc d₁).allColors ↔ c ∈ (colorDoc d₂).allColors) :
    (usedColors d₁).Perm (usedColors d₂) ∧
    (∀ c, (mkColorCtx d₁).index c = (mkColorCtx d₂).index c) ∧
    ((∀ c ∈ usedColors d₁, significant c = true → validColor colorTable c = true) →
      generateColorTable colorTable (some (mkColorCtx d₁).used) =
        generateColorTable colorTable (some (mkColorCtx d₂).used)) := by
  have hp : (usedColors d₁).Perm (usedColors d₂) := by
    rw [List.perm_ext_iff_of_nodup (usedColors_nodup d₁) (usedColors_nodup d₂)]
    intro c
    unfold usedColors collect
    rw [mem_dedup, mem_dedup]
    exact hsame c
  obtain ⟨_, h2, h3⟩ := Props.C12.C12_order_independent _ _ hp
  refine ⟨hp, ?_, h3⟩
  intro c
  rw [index_eq_utils, index_eq_utils, h2 c]

/-! ## where the references come from -/

/-- `TextContent._get_text_formatting`: `\f{font-1}`; `\cf` and `\chcbpat` / `\cb` are printed iff the value read is a
non-empty string, with the context's index of that string -/
theorem C12enc_text_refs (k : ColorCtx) (v : TextVals) (tf : TextFmt) (conv : Bool)
    (h : resolveText k v = .ok (tf, conv)) :
    ∃ font, v.font.toInt = .ok font ∧ tf.fontIdx = font - 1 ∧
      tf.color = (requested v.color).map k.index ∧ tf.bg = (requested v.bg).map k.index := by
  obtain ⟨font, h1, h2, h3, h4, _⟩ := resolveText_refs h
  exact ⟨font, h1, h2, h3, h4⟩

/-- `Border._as_rtf`: `\brdrcf` is printed iff the colour value is a non-empty string, with the context's index -/
theorem C12enc_border_refs (k : ColorCtx) (st w c : Val) (b : BorderFmt) (h : resolveBorder k st w c = .ok b) :
    b.color = (requested c).map k.index :=
  resolveBorder_ref h

/-- one table cell (`encodeCell` at attribute position `(r, j)` — data rows, column headers, table footnote / source):
its font, text colour, background and border colour references are those of the values `BroadcastValue.iloc` reads
at `(r, j)` from `text_font`, `text_color`, `text_background_color`, `border_color_left/top/bottom` (and `_right` for
the last cell of the row) -/
theorem C12enc_cell_refs (k : ColorCtx) (A : TblAttrsOf MatV) (r j : Nat) (isLast : Bool) (text : Model.Encode.Str)
    (width : Option Rat) (c : CellFmt) (h : encodeCell k A r j isLast text width = .ok c) :
    ∃ vfont font vcolor vbg vl vt vb bl bt bb,
      ilocV A.font r j = .ok vfont ∧ vfont.toInt = .ok font ∧ c.text.fontIdx = font - 1 ∧
      ilocV A.color r j = .ok vcolor ∧ c.text.color = (requested vcolor).map k.index ∧
      ilocV A.bg r j = .ok vbg ∧ c.text.bg = (requested vbg).map k.index ∧
      ilocV A.bcLeft r j = .ok vl ∧ c.left = some bl ∧ bl.color = (requested vl).map k.index ∧
      ilocV A.bcTop r j = .ok vt ∧ c.top = some bt ∧ bt.color = (requested vt).map k.index ∧
      ilocV A.bcBottom r j = .ok vb ∧ c.bottom = some bb ∧ bb.color = (requested vb).map k.index ∧
      (if isLast then ∃ vr br, ilocV A.bcRight r j = .ok vr ∧ c.right = some br ∧
          br.color = (requested vr).map k.index
       else c.right = none) := by
  rw [encodeCell_eq_cellOf] at h
  exact cellOf_refs h

/-- the lines of a title / subline / page header / page footer / paragraph footnote or source: line `i` prints the
references of the values read at `(i, 0)` -/
theorem C12enc_lines_refs (k : ColorCtx) (a : TextAttrsOf MatV) (text : List Model.Encode.Str)
    (ls : List (TextFmt × List Node)) (h : resolveLines k a text = .ok ls) :
    ls.length = text.length ∧ ∀ i t, text[i]? = some t → ∃ tf conv vfont font vcolor vbg,
      ls[i]? = some (tf, textNodes (convText conv t)) ∧
      ilocV a.font i 0 = .ok vfont ∧ vfont.toInt = .ok font ∧ tf.fontIdx = font - 1 ∧
      ilocV a.color i 0 = .ok vcolor ∧ tf.color = (requested vcolor).map k.index ∧
      ilocV a.bg i 0 = .ok vbg ∧ tf.bg = (requested vbg).map k.index := by
  obtain ⟨hl, hi⟩ := resolveLines_refs h
  refine ⟨hl, ?_⟩
  intro i t ht
  obtain ⟨tf, conv, vfont, font, vcolor, vbg, h1, h2, h3, h4, h5, h6, h7, h8, _⟩ := hi i t ht
  exact ⟨tf, conv, vfont, font, vcolor, vbg, h1, h2, h3, h4, h5, h6, h7, h8⟩

/-! ## what was collected -/

/-- what is known of the index printed for a collected colour name -/
theorem refOk_of_mem (d : Model.Encode.Doc) (rows : List ColorRow)
    (hrows : tableRows colorTable (usedColors d) = .ok rows) {s : String} (hmem : s ∈ usedColors d) :
    s ∈ usedColors d ∧ RefOk d rows s ((mkColorCtx d).index s) ∧
    (significant s = true → Resolves colorTable rows s ((mkColorCtx d).index s).toNat) :=
  have hr := C12enc_index d rows hrows s
  ⟨hmem, hr, fun hsig => hr.resolves hsig hmem⟩

/-- Every colour name an emitter can read (`BroadcastValue.iloc` at ANY position) from an attribute that
`collect_document_colors` looks at — the text / background / six border colours of the body, of footnote and source and
of every column header; the text and background colours of title, subline, page header and page footer — was
collected, so the reference printed for it is right and, for a non-default colour, resolves to its own row. -/
theorem C12enc_collected (d : Model.Encode.Doc) (rows : List ColorRow)
    (hrows : tableRows colorTable (usedColors d) = .ok rows) (a : Model.Encode.Attr) (ha : a ∈ collectedAttrs d)
    (M : MatV) (hM : a.toNested = .ok M) (r c : Nat) (v : Val) (hv : ilocV M r c = .ok v) (s : String)
    (hs : requested v = some s) :
    s ∈ usedColors d ∧ RefOk d rows s ((mkColorCtx d).index s) ∧
    (significant s = true → Resolves colorTable rows s ((mkColorCtx d).index s).toNat) := by
  obtain ⟨rfl, hne⟩ := requested_some hs
  exact refOk_of_mem d rows hrows (collected_read ha hM (ilocV_str_memV hv) hne)

/-- the attributes `collect_document_colors` looks at (`collectedAttrs`), spelled out: ALL eight colour attributes
(text, background, six border colours) of every table component — body, footnote, source, every column header (repo
fix: the border colours were formerly collected from the body only) — and text / background colour of title, subline,
page header, page footer (which have no borders) -/
theorem C12enc_collected_attrs (d : Model.Encode.Doc) :
    (∀ f : Field, Proofs.EncodeColor.Field.isBodyColor f = true → f.get d.body.attrs ∈ collectedAttrs d) ∧
    (∀ ft, (d.footnote = some ft ∨ d.source = some ft) →
      ∀ f : Field, Proofs.EncodeColor.Field.isBodyColor f = true → f.get ft.attrs ∈ collectedAttrs d) ∧
    (∀ h, some h ∈ d.headers →
      ∀ f : Field, Proofs.EncodeColor.Field.isBodyColor f = true → f.get h.attrs ∈ collectedAttrs d) ∧
    (∀ t, (d.title = some t ∨ d.subline = some t ∨ d.pageHeader = some t ∨ d.pageFooter = some t) →
      t.attrs.color ∈ collectedAttrs d ∧ t.attrs.bg ∈ collectedAttrs d) := by
  exact ⟨bodyColor_collected d, footColor_collected d, headerColor_collected d, textColor_collected d⟩

/-! ## every reference of every table cell is right -/

/-- the reference `o` printed where the page attributes hold `read` at the cell's position: printed iff a non-empty
colour name `c` was read, and then `c` was collected and the index is right for the printed table -/
def Ref (d : Model.Encode.Doc) (rows : List ColorRow) (read : Except String Val) (o : Option Int) : Prop :=
  ∃ v, read = .ok v ∧ o = (requested v).map (mkColorCtx d).index ∧
    ∀ c, requested v = some c → c ∈ usedColors d ∧ RefOk d rows c ((mkColorCtx d).index c) ∧
      (significant c = true → Resolves colorTable rows c ((mkColorCtx d).index c).toNat)

/-- the colour reference of one border side (`none`: the side or its `\brdrcf` is not printed) -/
def sideColor (o : Option BorderFmt) : Option Int := o.bind (·.color)

/-- a reference is right as soon as the colour name read, if any, was collected -/
theorem ref_of_mem (d : Model.Encode.Doc) (rows : List ColorRow)
    (hrows : tableRows colorTable (usedColors d) = .ok rows) {read : Except String Val} {v : Val}
    (hread : read = .ok v) (hmem : ∀ s, v = .str s → s ≠ "" → s ∈ usedColors d) :
    Ref d rows read ((requested v).map (mkColorCtx d).index) := by
  refine ⟨v, hread, rfl, fun c hc => ?_⟩
  obtain ⟨hv, hne⟩ := requested_some hc
  exact refOk_of_mem d rows hrows (hmem c hv hne)

/-- ALL colour references of the cells of one table row, when every colour name its attributes hold at attribute row
`r` was collected -/
theorem row_refs (d : Model.Encode.Doc) (rows : List ColorRow)
    (hrows : tableRows colorTable (usedColors d) = .ok rows) {A : TblAttrsOf MatV} {r : Nat}
    (hcoll : ∀ f : Field, Proofs.EncodeColor.Field.isBodyColor f = true → ∀ j s,
      ilocV (f.get A) r j = .ok (.str s) → s ≠ "" → s ∈ usedColors d)
    {cw : List Rat} {cells : List (Option Model.Encode.Str)} {e : Elem}
    (he : encodeRow (mkColorCtx d) A cw r cells = .ok e) :
    ∃ fmt, e = rowElem fmt ∧ fmt.cells.length = cells.length ∧ ∀ j cf, fmt.cells[j]? = some cf →
      Ref d rows (ilocV A.color r j) cf.text.color ∧ Ref d rows (ilocV A.bg r j) cf.text.bg ∧
      Ref d rows (ilocV A.bcLeft r j) (sideColor cf.left) ∧ Ref d rows (ilocV A.bcTop r j) (sideColor cf.top) ∧
      Ref d rows (ilocV A.bcBottom r j) (sideColor cf.bottom) ∧
      (if j + 1 = cells.length then Ref d rows (ilocV A.bcRight r j) (sideColor cf.right) else cf.right = none) := by
  obtain ⟨_, fmt, rfl, hlen, hcell⟩ := encodeRow_cells he
  refine ⟨fmt, rfl, hlen, ?_⟩
  intro j cf hcf
  have hj : j < cells.length := by rw [← hlen]; exact (List.getElem?_eq_some_iff.mp hcf).1
  obtain ⟨cf', hcf', henc⟩ := hcell j cells[j] (List.getElem?_eq_getElem hj)
  rw [hcf] at hcf'
  cases hcf'
  obtain ⟨vfont, font, vcolor, vbg, vl, vt, vb, bl, bt, bb, _, _, _, g4, g5, g6, g7, g8, g9, g10, g11, g12, g13,
    g14, g15, g16, g17⟩ := C12enc_cell_refs _ _ _ _ _ _ _ _ henc
  have mk : ∀ (f : Field), Proofs.EncodeColor.Field.isBodyColor f = true → ∀ v, ilocV (f.get A) r j = .ok v →
      Ref d rows (ilocV (f.get A) r j) ((requested v).map (mkColorCtx d).index) :=
    fun f hf v hread => ref_of_mem d rows hrows hread fun s hs hne => hcoll f hf j s (hs ▸ hread) hne
  have side : ∀ {o : Option BorderFmt} {b : BorderFmt}, o = some b → sideColor o = b.color := fun h => h ▸ rfl
  simp only [beq_iff_eq] at g17
  refine ⟨?_, ?_, ?_, ?_, ?_, ?_⟩
  · rw [g5]; exact mk .color rfl _ g4
  · rw [g7]; exact mk .bg rfl _ g6
  · rw [side g9, g10]; exact mk .bcLeft rfl _ g8
  · rw [side g12, g13]; exact mk .bcTop rfl _ g11
  · rw [side g15, g16]; exact mk .bcBottom rfl _ g14
  · by_cases hl : j + 1 = cells.length
    · rw [if_pos hl] at g17 ⊢
      obtain ⟨vr, br, q1, q2, q3⟩ := g17
      rw [side q2, q3]; exact mk .bcRight rfl _ q1
    · rw [if_neg hl] at g17 ⊢
      exact g17

/-- **C12 for the data cells of the encoder.**  For every accepted document, every `.data i` block of the trace and
every cell `j` of the row it was rendered to: the `\cf`, `\chcbpat`/`\cb` and the four `\brdrcf` references are
printed exactly when the body's attribute — sliced to the page, read at the cell's page-relative position — holds a
non-empty colour name; that name was collected from the document, the index is the context's, and for a non-default
colour it is the position of the colour's own row in the colour table the document prints. -/
theorem C12enc_data_cell (measure : Measure) (d : Model.Encode.Doc) (pl : Plan) (R : Trace) (rows : List ColorRow)
    (hp : plan measure d = .ok pl) (hR : Renders (mkColorCtx d) d pl R)
    (hrows : tableRows colorTable (usedColors d) = .ok rows)
    (x : PageCtx × List (Block × List Elem)) (hx : x ∈ R) (y : Block × List Elem) (hy : y ∈ x.2)
    (i : Nat) (hb : y.1 = Block.data i) :
    ∃ cells fmt, pl.rows[i]? = some cells ∧ y.2 = [rowElem fmt] ∧ fmt.cells.length = cells.length ∧
      ∀ j cf, fmt.cells[j]? = some cf →
        let A := (pageAttrs d pl.bodyA pl.p x.1).attrs
        let r := i - x.1.dataStart
        Ref d rows (ilocV A.color r j) cf.text.color ∧ Ref d rows (ilocV A.bg r j) cf.text.bg ∧
        Ref d rows (ilocV A.bcLeft r j) (sideColor cf.left) ∧ Ref d rows (ilocV A.bcTop r j) (sideColor cf.top) ∧
        Ref d rows (ilocV A.bcBottom r j) (sideColor cf.bottom) ∧
        (if j + 1 = cells.length then Ref d rows (ilocV A.bcRight r j) (sideColor cf.right) else cf.right = none) := by
  obtain ⟨cells, e, hcells, hy2, he⟩ := hR.data_block hx hy hb
  obtain ⟨fmt, rfl, hlen, hcell⟩ := row_refs d rows hrows
    (fun f hf j s hread hne => page_read_collected hp x.1 f hf hread hne) he
  exact ⟨cells, fmt, hcells, hy2, hlen, hcell⟩

/-! ## the other positions: column headers, footnote / source, title / subline / page header / footer -/

/-- a reference read from an attribute `collect_document_colors` looks at is right -/
theorem ref_collected (d : Model.Encode.Doc) (rows : List ColorRow)
    (hrows : tableRows colorTable (usedColors d) = .ok rows) {a : Model.Encode.Attr} (ha : a ∈ collectedAttrs d)
    {M : MatV} (hM : a.toNested = .ok M) {r c : Nat} {v : Val} (hread : ilocV M r c = .ok v) :
    Ref d rows (ilocV M r c) ((requested v).map (mkColorCtx d).index) :=
  ⟨v, hread, rfl, fun s hs => C12enc_collected d rows hrows a ha M hM r c v hread s hs⟩

/-- ALL colour references of the cells of one table row of a component whose eight colour attributes are collected,
whatever its edge borders were replaced by -/
theorem comp_row_refs (d : Model.Encode.Doc) (rows : List ColorRow)
    (hrows : tableRows colorTable (usedColors d) = .ok rows) {attrs : TblAttrsOf Model.Encode.Attr}
    (hcoll : ∀ f : Field, Proofs.EncodeColor.Field.isBodyColor f = true → f.get attrs ∈ collectedAttrs d)
    {A : TblAttrsOf MatV} (hA : attrs.mapM Attr.toNested = .ok A) {t b : MatV}
    {cw : List Rat} {cells : List (Option Model.Encode.Str)} {e : Elem}
    (he : encodeRow (mkColorCtx d) (withEdges A t b) cw 0 cells = .ok e) :
    ∃ fmt, e = rowElem fmt ∧ fmt.cells.length = cells.length ∧ ∀ j cf, fmt.cells[j]? = some cf →
      Ref d rows (ilocV A.color 0 j) cf.text.color ∧ Ref d rows (ilocV A.bg 0 j) cf.text.bg ∧
      Ref d rows (ilocV A.bcLeft 0 j) (sideColor cf.left) ∧ Ref d rows (ilocV A.bcTop 0 j) (sideColor cf.top) ∧
      Ref d rows (ilocV A.bcBottom 0 j) (sideColor cf.bottom) ∧
      (if j + 1 = cells.length then Ref d rows (ilocV A.bcRight 0 j) (sideColor cf.right) else cf.right = none) := by
  refine row_refs d rows hrows (A := withEdges A t b) ?_ he
  intro f hf j s hread hne
  rw [get_withEdges_color A t b hf] at hread
  exact collected_read (hcoll f hf) (get_mapM hA f) (ilocV_str_memV hread) hne

/-- **column headers.**  Every cell of a rendered column header prints its `\cf`, `\chcbpat` and its three / four
`\brdrcf` exactly when the header's `text_color` / `text_background_color` / `border_color_left, _top, _bottom` (and
`_right` for the last cell) hold a non-empty name at `(0, j)`; the name was collected (the border colours since the repo
fix) and the index is right for the printed table: for a non-default colour, the position of the colour's own row. -/
theorem C12enc_header_cell (d : Model.Encode.Doc) (pl : Plan) (R : Trace) (rows : List ColorRow)
    (hR : Renders (mkColorCtx d) d pl R) (hrows : tableRows colorTable (usedColors d) = .ok rows)
    (x : PageCtx × List (Block × List Elem)) (hx : x ∈ R) (y : Block × List Elem) (hy : y ∈ x.2)
    (i : Nat) (hb : y.1 = Block.colHeader i) (hdr : Header) (hh : (d.headers[i]?).join = some hdr) :
    (headerText d pl.p hdr = none ∧ y.2 = []) ∨
    ∃ text A fmt, headerText d pl.p hdr = some text ∧ hdr.attrs.mapM Attr.toNested = .ok A ∧
      y.2 = [rowElem fmt] ∧ fmt.cells.length = text.length ∧ ∀ j cf, fmt.cells[j]? = some cf →
        Ref d rows (ilocV A.color 0 j) cf.text.color ∧ Ref d rows (ilocV A.bg 0 j) cf.text.bg ∧
        Ref d rows (ilocV A.bcLeft 0 j) (sideColor cf.left) ∧ Ref d rows (ilocV A.bcTop 0 j) (sideColor cf.top) ∧
        Ref d rows (ilocV A.bcBottom 0 j) (sideColor cf.bottom) ∧
        (if j + 1 = text.length then Ref d rows (ilocV A.bcRight 0 j) (sideColor cf.right) else cf.right = none) := by
  have h := hR.block hx hy hb
  simp only [renderBlock, hh] at h
  have hmem : some hdr ∈ d.headers := by
    cases hg : d.headers[i]? with
    | none => rw [hg] at hh; cases hh
    | some o =>
      rw [hg] at hh
      simp only [Option.join_some] at hh
      rw [← hh]; exact List.mem_of_getElem? hg
  rcases renderHeader_text h with h0 | ⟨text, ht, hin⟩
  · exact Or.inl h0
  · obtain ⟨A, t, b, e, hA, hes, he⟩ := headerInner_row hin
    obtain ⟨fmt, rfl, hlen, hcells⟩ := comp_row_refs d rows hrows (headerColor_collected d hdr hmem) hA he
    rw [List.length_map] at hlen hcells
    exact Or.inr ⟨text, A, fmt, ht, hA, hes, hlen, hcells⟩

/-- **column headers without text of their own.**  A header object whose `text` is `None` is not "not rendered": with
`as_colheader = True` (the default) it is filled with the displayed column names and rendered with ITS formatting — one
cell per displayed column — and every `\cf`, `\chcbpat`, `\brdrcf` of that row is printed exactly when the header's own
attribute holds a non-empty name at `(0, j)`, the name was collected from the document (so it is in the printed table)
and the index is right.  (`collect_document_colors` must therefore look at headers with and without text alike:
`C12enc_collected_attrs` ranges over every `some h ∈ d.headers`.) -/
theorem C12enc_auto_header_cell (d : Model.Encode.Doc) (pl : Plan) (R : Trace) (rows : List ColorRow)
    (hR : Renders (mkColorCtx d) d pl R) (hrows : tableRows colorTable (usedColors d) = .ok rows)
    (x : PageCtx × List (Block × List Elem)) (hx : x ∈ R) (y : Block × List Elem) (hy : y ∈ x.2)
    (i : Nat) (hb : y.1 = Block.colHeader i) (hdr : Header) (hh : (d.headers[i]?).join = some hdr)
    (hnt : hdr.text = none) (hac : d.body.asColheader = true) :
    ∃ A fmt, hdr.attrs.mapM Attr.toNested = .ok A ∧
      y.2 = [rowElem fmt] ∧ fmt.cells.length = pl.p.dispCols.length ∧ ∀ j cf, fmt.cells[j]? = some cf →
        Ref d rows (ilocV A.color 0 j) cf.text.color ∧ Ref d rows (ilocV A.bg 0 j) cf.text.bg ∧
        Ref d rows (ilocV A.bcLeft 0 j) (sideColor cf.left) ∧ Ref d rows (ilocV A.bcTop 0 j) (sideColor cf.top) ∧
        Ref d rows (ilocV A.bcBottom 0 j) (sideColor cf.bottom) ∧
        (if j + 1 = pl.p.dispCols.length then Ref d rows (ilocV A.bcRight 0 j) (sideColor cf.right)
         else cf.right = none) := by
  have ht : headerText d pl.p hdr = some pl.p.dispCols := by
    unfold headerText
    rw [hnt]
    simp [hac]
  rcases C12enc_header_cell d pl R rows hR hrows x hx y hy i hb hdr hh with ⟨h0, _⟩ | ⟨text, A, fmt, h1, hA, hy2, hlen, hcells⟩
  · rw [ht] at h0; cases h0
  · rw [ht] at h1
    cases h1
    exact ⟨A, fmt, hA, hy2, hlen, hcells⟩

/-- **footnote / source as table**: the single cell's `\cf`, `\chcbpat` and all four `\brdrcf` references are right -/
theorem C12enc_foot_table_cell (d : Model.Encode.Doc) (rows : List ColorRow)
    (hrows : tableRows colorTable (usedColors d) = .ok rows) (f : Foot) (hf : d.footnote = some f ∨ d.source = some f)
    (o : Option String) (es : List Elem) (h : renderFoot (mkColorCtx d) d f o = .ok es) (hat : f.asTable = true) :
    ∃ A fmt cf, f.attrs.mapM Attr.toNested = .ok A ∧ es = [rowElem fmt] ∧ fmt.cells = [cf] ∧
      Ref d rows (ilocV A.color 0 0) cf.text.color ∧ Ref d rows (ilocV A.bg 0 0) cf.text.bg ∧
      Ref d rows (ilocV A.bcLeft 0 0) (sideColor cf.left) ∧ Ref d rows (ilocV A.bcTop 0 0) (sideColor cf.top) ∧
      Ref d rows (ilocV A.bcBottom 0 0) (sideColor cf.bottom) ∧ Ref d rows (ilocV A.bcRight 0 0) (sideColor cf.right) := by
  obtain ⟨A, w, b, e, hA, _, hes, _, he⟩ := renderFoot_row h hat
  obtain ⟨fmt, rfl, hlen, hcells⟩ := comp_row_refs d rows hrows (footColor_collected d f hf) hA he
  obtain ⟨cf, hc⟩ := List.length_eq_one_iff.mp hlen
  obtain ⟨h1, h2, h3, h4, h5, h6⟩ := hcells 0 cf (by rw [hc]; rfl)
  exact ⟨A, fmt, cf, hA, hes, hc, h1, h2, h3, h4, h5, (if_pos rfl).mp h6⟩

/-- **the lines of a text component** whose colours are collected (title, subline, page header, page footer; a
paragraph footnote / source through its text attributes): the `\cf` / `\chcbpat` of line `i` are right -/
theorem C12enc_lines (d : Model.Encode.Doc) (rows : List ColorRow)
    (hrows : tableRows colorTable (usedColors d) = .ok rows) (color bg : Model.Encode.Attr)
    (hc : color ∈ collectedAttrs d) (hb : bg ∈ collectedAttrs d) (a : TextAttrsOf MatV)
    (hca : color.toNested = .ok a.color) (hba : bg.toNested = .ok a.bg)
    (text : List Model.Encode.Str) (ls : List (TextFmt × List Node))
    (h : resolveLines (mkColorCtx d) a text = .ok ls) :
    ls.length = text.length ∧ ∀ i x, ls[i]? = some x →
      Ref d rows (ilocV a.color i 0) x.1.color ∧ Ref d rows (ilocV a.bg i 0) x.1.bg := by
  obtain ⟨hl, hi⟩ := C12enc_lines_refs _ a text ls h
  refine ⟨hl, ?_⟩
  intro i x hx
  have hit : i < text.length := by rw [← hl]; exact (List.getElem?_eq_some_iff.mp hx).1
  obtain ⟨tf, conv, vfont, font, vcolor, vbg, h1, _, _, _, h5, h6, h7, h8⟩ := hi i text[i] (List.getElem?_eq_getElem hit)
  rw [hx] at h1
  cases h1
  exact ⟨by rw [h6]; exact ref_collected d rows hrows hc hca h5, by rw [h8]; exact ref_collected d rows hrows hb hba h7⟩

/-- title, subline, page header, page footer -/
theorem C12enc_text_component (d : Model.Encode.Doc) (rows : List ColorRow)
    (hrows : tableRows colorTable (usedColors d) = .ok rows) (c : TextComp)
    (hc : d.title = some c ∨ d.subline = some c ∨ d.pageHeader = some c ∨ d.pageFooter = some c)
    (a : TextAttrsOf MatV) (ha : c.attrs.mapM Attr.toNested = .ok a) (text : List Model.Encode.Str)
    (ls : List (TextFmt × List Node)) (h : resolveLines (mkColorCtx d) a text = .ok ls) :
    ls.length = text.length ∧ ∀ i x, ls[i]? = some x →
      Ref d rows (ilocV a.color i 0) x.1.color ∧ Ref d rows (ilocV a.bg i 0) x.1.bg := by
  obtain ⟨h1, h2⟩ := (C12enc_collected_attrs d).2.2.2 c hc
  obtain ⟨_, _, _, g2, g3, _⟩ := Proofs.Encode.textAttrs_mapM_inv ha
  exact C12enc_lines d rows hrows _ _ h1 h2 a g2 g3 text ls h

/-- **spanning group headings**: the single cell's `\cf` / `\chcbpat` are the references of the body's `text_color` /
`text_background_color` at row 0 of the page_by column (nothing when the body holds none) — collected, hence right; its
borders carry no `\brdrcf` -/
theorem C12enc_heading_cell (measure : Measure) (d : Model.Encode.Doc) (pl : Plan) (R : Trace) (rows : List ColorRow)
    (hp : plan measure d = .ok pl) (hR : Renders (mkColorCtx d) d pl R)
    (hrows : tableRows colorTable (usedColors d) = .ok rows)
    (x : PageCtx × List (Block × List Elem)) (hx : x ∈ R) (y : Block × List Elem) (hy : y ∈ x.2)
    (lvl : Nat) (t : String) (hb : y.1 = Block.heading lvl t) :
    ∃ fmt cf, y.2 = [rowElem fmt] ∧ fmt.cells = [cf] ∧
      Ref d rows (spanRead d lvl pl.bodyA.color (.str "")) cf.text.color ∧
      Ref d rows (spanRead d lvl pl.bodyA.bg (.str "")) cf.text.bg ∧
      sideColor cf.left = none ∧ sideColor cf.top = none ∧ sideColor cf.right = none ∧ sideColor cf.bottom = none := by
  obtain ⟨e, hy2, he⟩ := hR.heading_block hx hy hb
  obtain ⟨fmt, cf, vcolor, vbg, rfl, h2, h3, h4, h5, h6, h7⟩ := spanningRow_refs he
  obtain ⟨_, hA, _, _⟩ := plan_ok hp
  have mk : ∀ (f : Field), Proofs.EncodeColor.Field.isBodyColor f = true → ∀ v,
      spanRead d lvl (f.get pl.bodyA) (.str "") = .ok v →
      Ref d rows (spanRead d lvl (f.get pl.bodyA) (.str "")) ((requested v).map (mkColorCtx d).index) := by
    intro f hf v hread
    refine ref_of_mem d rows hrows hread fun s hs hne => ?_
    subst hs
    cases hfa : f.get pl.bodyA with
    | none =>
      rw [hfa] at hread
      cases hread
      exact absurd rfl hne
    | some m =>
      rw [hfa] at hread
      exact collected_read (bodyColor_collected d f hf) (get_mapM hA f) (hfa ▸ ilocV_str_memV hread) hne
  have sc : ∀ o ∈ [cf.left, cf.top, cf.right, cf.bottom], sideColor o = none := by
    intro o ho
    cases o with
    | none => rfl
    | some b => exact h7 _ ho b rfl
  refine ⟨fmt, cf, hy2, h2, ?_, ?_, sc _ (by simp), sc _ (by simp), sc _ (by simp), sc _ (by simp)⟩
  · rw [h4]; exact mk .color rfl _ h3
  · rw [h6]; exact mk .bg rfl _ h5

/-! ## fonts -/

/-- `\f{font-1}` names the entry of the emitted font table that carries the name the library associates with the
requested font number (1..10); the emitted table has exactly the entries `\f0 … \f9` -/
theorem C12enc_fonts (k : ColorCtx) (v : TextVals) (tf : TextFmt) (conv : Bool)
    (h : resolveText k v = .ok (tf, conv)) (n : Nat) (hv : v.font = .int n) (h1 : 1 ≤ n) (h10 : n ≤ 10) :
    tf.fontIdx = ((n - 1 : Nat) : Int) ∧
    ∃ es name, fontEntries fontTable = .ok es ∧ es.map (·.num) = List.range 10 ∧
      fontEntryName es (n - 1) = some name ∧ fontNumberToName.lookup n = some name := by
  obtain ⟨font, f1, f2, _, _⟩ := C12enc_text_refs k v tf conv h
  rw [hv] at f1
  simp only [Val.toInt, Except.ok.injEq] at f1
  obtain ⟨es, name, g1, _, g3, g4⟩ := Props.C12.C12_fonts n h1 h10
  obtain ⟨es', g1', g5⟩ := Props.C12.C12_font_table_entries
  rw [g1] at g1'
  cases g1'
  refine ⟨by rw [f2, ← f1]; omega, es, name, g1, g5, g3, g4⟩

/-- the font table in the head of an accepted document is the text `generate_font_table` returns, printed as it is -/
theorem C12enc_font_table (measure : Measure) (d : Model.Encode.Doc) (g : DocG) (h : encode measure d = .ok g) :
    ∃ fontTbl pre post, fontTableText fontTable = .ok fontTbl ∧
      g.head = pre ++ textNodes fontTbl.toList ++ post ∧
      printNodes (textNodes fontTbl.toList) = fontTbl.toList := by
  obtain ⟨fontTbl, colorTbl, hdr, ftr, ps, hfont, _, _, _, _, hhead⟩ := encode_head h
  refine ⟨fontTbl, [cw0 "ansi", Node.nl, cwi "deff" 0, cwi "deflang" 1033, Node.nl],
    [Node.nl] ++ textNodes colorTbl.toList ++ [Node.nl, Node.nl, Node.nl] ++ hdr ++ [Node.nl] ++ ftr ++ [Node.nl] ++
      ps ++ [Node.nl], hfont, ?_, Proofs.LexPrint.print_lexNodes _⟩
  rw [hhead]
  simp only [List.append_assoc]

/-! ## the repaired defect: border colours of column headers, footnote and source -/

open Props.C01enc in
/-- the example document with `border_color_left = "red"` on the column header and no other colour anywhere -/
def redLeftHeader : Header :=
  { text := none, colRelWidth := none, attrs := { exTbl with bcLeft := sc (.str "red") } }

open Props.C01enc in
def exHeaderBorder : Model.Encode.Doc := { exDoc [1, 2] with headers := [some redLeftHeader] }

set_option maxRecDepth 100000

open Props.C01enc in
/-- The document of defect D40 (`collect_document_colors` read the `border_color_*` attributes of the body only, so this
document printed `\brdrcf0` and no colour table; repaired in rtflite, 6acba54): `"red"` is collected from the header's
`border_color_left`, its index is 1, and the string the encoder returns contains `\brdrcf1`, no `\brdrcf0`, and the
one-row colour table — as `C12enc_header_cell` says for every document. -/
example :
    significant "red" = true ∧ usedColors exHeaderBorder = ["red"] ∧
    (mkColorCtx exHeaderBorder).index "red" = 1 ∧
    (match encodeText exMeasure exHeaderBorder with
     | .ok s => Proofs.EncodeText.hasInfix "\\brdrcf1".toList s && !Proofs.EncodeText.hasInfix "\\brdrcf0".toList s &&
         Proofs.EncodeText.hasInfix "{\\colortbl;\n\\red255\\green0\\blue0;\n}".toList s
     | .error _ => false) = true ∧
    useOk colorTable [none, some (255, 0, 0)] { idx := 1, requested := "red" } = true := by
  rw [encodeText, encode, Proofs.FontTable.encodeWith_eq]
  decide +kernel

open Props.C01enc in
/-- a column header WITHOUT text (filled from the column names) that carries the only colours of the document: a text
colour, a background and a bottom border colour -/
def colouredAutoHeader : Header :=
  { text := none, colRelWidth := none,
    attrs := { exTbl with color := sc (.str "red"), bg := sc (.str "gold"), bcBottom := sc (.str "blue") } }

open Props.C01enc in
def exAutoHeader : Model.Encode.Doc := { exDoc [1, 2] with headers := [some colouredAutoHeader] }

open Props.C01enc in
/-- The colours of a text-less (auto-populated) column header are collected although the object has no text: the table
blue(26) < gold(142) < red(552) is printed and the header row refers to it — `\cf3`, `\chcbpat2`, `\brdrcf1` — never to
index 0 (`C12enc_auto_header_cell` on a concrete document; a collector that skips components without text would print
no colour table and `\cf0 \chcbpat0 \brdrcf0` here). -/
example :
    colouredAutoHeader.text = none ∧ exAutoHeader.body.asColheader = true ∧
    (usedColors exAutoHeader).Perm ["red", "gold", "blue"] ∧
    (match encodeText exMeasure exAutoHeader with
     | .ok s => Proofs.EncodeText.hasInfix "\\cf3".toList s && Proofs.EncodeText.hasInfix "\\chcbpat2".toList s &&
         Proofs.EncodeText.hasInfix "\\brdrcf1".toList s && !Proofs.EncodeText.hasInfix "\\cf0".toList s &&
         !Proofs.EncodeText.hasInfix "\\chcbpat0".toList s && !Proofs.EncodeText.hasInfix "\\brdrcf0".toList s &&
         Proofs.EncodeText.hasInfix "{\\colortbl;\n\\red0\\green0\\blue255;\n\\red255\\green215\\blue0;\n\\red255\\green0\\blue0;\n}".toList s
     | .error _ => false) = true := by
  rw [encodeText, encode, Proofs.FontTable.encodeWith_eq]
  decide +kernel

/-! ## non-vacuity -/

open Props.C01enc in
/-- coloured cells (`text_color` per column, a background), coloured body borders, a coloured title -/
def exColoured : Model.Encode.Doc :=
  { exDoc [1, 2] with
    title := some { text := some ["Title".toList], attrs := { exText with color := .tuple [.str "blue"] } },
    body := { (exDoc [1, 2]).body with
      attrs := { exTbl with color := .nested [[.str "red", .str "black"]], bg := sc (.str "gold"),
                            bcLeft := sc (.str "blue"), bcTop := sc (.str "") } } }

open Props.C01enc in
/-- The encoder accepts the coloured example; the collected colours are red, gold, blue (black is collected too and is a
default); the printed table is blue(26) < gold(142) < red(552) — so red is `\cf3`, gold `\chcbpat2`, blue `\brdrcf1` and
`\cf1` in the title, black no table entry and index 0 — and all of these occur in the output. -/
example :
    (match encodeText exMeasure exColoured with
     | .ok s => Proofs.EncodeText.hasInfix "\\cf3".toList s && Proofs.EncodeText.hasInfix "\\chcbpat2".toList s &&
         Proofs.EncodeText.hasInfix "\\brdrcf1".toList s && Proofs.EncodeText.hasInfix "\\cf0".toList s &&
         Proofs.EncodeText.hasInfix "{\\colortbl;\n\\red0\\green0\\blue255;\n\\red255\\green215\\blue0;\n\\red255\\green0\\blue0;\n}".toList s
     | .error _ => false) = true ∧
    (usedColors exColoured).Perm ["red", "black", "gold", "blue"] ∧
    ((tableRows colorTable (usedColors exColoured)).toOption.map (·.map (·.idx))) = some [26, 142, 552] ∧
    (mkColorCtx exColoured).index "red" = 3 ∧ (mkColorCtx exColoured).index "gold" = 2 ∧
    (mkColorCtx exColoured).index "blue" = 1 ∧ (mkColorCtx exColoured).index "black" = 0 := by
  rw [encodeText, encode, Proofs.FontTable.encodeWith_eq]
  decide +kernel

end Props.C12enc
