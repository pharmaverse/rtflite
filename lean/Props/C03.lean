import Model.Layout
import Model.PaginateSpec
import Proofs.Layout
/-!
# C03 — no page exceeds the nrow row budget

`tableRows` counts, for one rendered page, column-header rows, group heading rows (page_by spanning rows
and the subline heading), data rows with their line estimate, and table-rendered footnote / source rows.

The unchanged code violates the full statement in two recorded ways (known findings, DESIGN.md §8):
  * D3  a header without text (auto-populated from column names) is rendered but not reserved;
  * D4  page_by heading rows are reserved as ONE row at each group start, but a heading row is rendered
        per level, and again at the top of every page on which the group continues.
`C03_budget` is therefore stated with the two *excess* terms made explicit (what is rendered beyond
what was reserved); `C03_full` is the statement without them; `C03_witness` (D3) and `C03_witness_continuation`
(D4) refute it.
-/
namespace Props.C03
open Model.Paginate Model.Layout

/-! `linesOf`, `tableRows`, `dataIdx`, `headingCount`, `reservedHeadingRows` are written out here so that the statements
can be read without the proofs; `Proofs.Layout` has the same functions (`tableRowsF (linesOf d)`, `resvOf`), and the
theorems below are its lemmas up to unfolding. -/

def linesOf (d : LDoc) (i : Nat) : Nat := (d.rows[i]?.map (·.lines)).getD 0

def tableRows (d : LDoc) (bs : List Block) : Nat :=
  (bs.map fun b => match b with
    | .colHeader _ => 1
    | .heading _ _ => 1
    | .sublineHeading _ => 1
    | .data i => linesOf d i
    | .footnote true => 1
    | .source true => 1
    | _ => 0).sum

def dataIdx (bs : List Block) : List Nat :=
  bs.filterMap fun b => match b with
    | .data i => some i
    | _ => none

def headingCount (bs : List Block) : Nat :=
  (bs.filter fun b => match b with | .heading _ _ => true | _ => false).length

/-- heading rows reserved by the metadata for the rows of this page -/
def reservedHeadingRows (d : LDoc) (bs : List Block) : Nat :=
  ((dataIdx bs).map fun i => match d.meta[i]?, d.rows[i]? with
    | some m, some r => m.total - r.lines
    | _, _ => 0).sum

/-- D3: headers rendered without being reserved -/
def autoHeaderExcess (d : LDoc) : Nat :=
  if d.asColheader then (d.headers.filter (fun h => !h)).length else 0

/-- D4: heading rows rendered beyond those reserved for the page's rows -/
def headingExcess (d : LDoc) (bs : List Block) : Nat :=
  headingCount bs - reservedHeadingRows d bs

/-- every line estimate is at least 1 (`max(1, …)`) -/
def LinesPos (d : LDoc) : Prop := ∀ r ∈ d.rows, 1 ≤ r.lines

/-- Lemma A (greedy fill): the reserved load of a page fits the available rows, unless the page holds a
single data row.

The hypothesis `hl : LinesPos d` is needed: `_assign_pages` never breaks while `current_rows = 0`, so a row
estimated at 0 lines leaves the page "empty" and the next row joins it whatever its size.  Smallest counterexample
(`C03_load_needs_LinesPos`): `nrow = 1`, two rows with `lines = 0` and `lines = 2`, no other component — both rows
land on page 1, load 2 > avail 1, two data rows.  (`calculate_row_metadata` guarantees `lines ≥ 1` through
`max(1, …)`, so the hypothesis holds for every real document.) -/
theorem C03_load (d : LDoc) (hl : LinesPos d) (pg : PageCtx) (hpg : pg ∈ d.pages) :
    let bs := renderPage d pg
    (((dataIdx bs).map fun i => (d.meta[i]?.map (·.total)).getD 0).sum ≤ availRows d.nrow d.additional) ∨
    (dataIdx bs).length ≤ 1 :=
  Proofs.Layout.page_load d hl pg hpg

/-- the budget with the explained deviations -/
theorem C03_budget (d : LDoc) (hl : LinesPos d) (pg : PageCtx) (hpg : pg ∈ d.pages) :
    let bs := renderPage d pg
    tableRows d bs ≤ d.nrow + autoHeaderExcess d + headingExcess d bs ∨ (dataIdx bs).length ≤ 1 :=
  Proofs.Layout.page_budget d hl pg hpg

/-- `⌊x⌋ + 1 ≥ ⌈x⌉`: the line estimate is at least the number of lines the text needs
(`w = wn/wd`, `cw = cn/cd`, all positive): `lines * cw ≥ w`. -/
theorem C03_lines_cover (wn wd cn cd : Nat) (hwd : 0 < wd) (hcn : 0 < cn) (hcd : 0 < cd) :
    wn * cd ≤ linesNeeded wn wd cn cd * (wd * cn) := by
  have _ := hcd -- `cd > 0` only makes `cw = cn/cd` a width; the inequality does not use it
  have hb : 0 < wd * cn := Nat.mul_pos hwd hcn
  have h1 : linesNeeded wn wd cn cd = (wn * cd) / (wd * cn) + 1 := by
    simp only [linesNeeded]; exact Nat.max_eq_right (Nat.le_add_left 1 _)
  rw [h1, Nat.add_mul, Nat.one_mul, Nat.mul_comm ((wn * cd) / (wd * cn))]
  have h2 := Nat.div_add_mod (wn * cd) (wd * cn)
  have h3 := Nat.mod_lt (wn * cd) hb
  omega

/-- the full statement (false today, see witnesses) -/
def C03_full : Prop :=
  ∀ (d : LDoc), LinesPos d → ∀ pg ∈ d.pages,
    tableRows d (renderPage d pg) ≤ d.nrow ∨ (dataIdx (renderPage d pg)).length ≤ 1

/-- with explicit headers and no page_by headings the full budget holds -/
theorem C03_partial (d : LDoc) (hl : LinesPos d) (hh : autoHeaderExcess d = 0)
    (hp : d.spanning = false) (pg : PageCtx) (hpg : pg ∈ d.pages) :
    tableRows d (renderPage d pg) ≤ d.nrow ∨ (dataIdx (renderPage d pg)).length ≤ 1 := by
  have hh0 : headingExcess d (renderPage d pg) = 0 := by
    have : headingCount (renderPage d pg) = 0 := Proofs.Layout.renderPage_headingCount d pg hp
    simp only [headingExcess, this]; omega
  have := C03_budget d hl pg hpg
  simp only [hh, hh0, Nat.add_zero] at this
  exact this

def witnessAutoHeader : LDoc :=
  { nrow := 4, rows := (List.range 12).map (fun _ => ⟨1, [], [], 1, 1⟩), hasPageBy := false,
    hasSubline := false, newPage := false, pagebyColumn := true, pagebyHeader := true,
    headers := [false], asColheader := true, hasTitle := false, hasSublineTxt := false,
    footnote := .absent, source := .absent, pageTitle := .all, pageFootnote := .last, pageSource := .last }

def witnessContinuation : LDoc :=
  { nrow := 4, rows := (List.range 12).map (fun _ => ⟨1, [some "A"], [], 1, 1⟩), hasPageBy := true,
    hasSubline := false, newPage := false, pagebyColumn := true, pagebyHeader := true,
    headers := [true], asColheader := true, hasTitle := false, hasSublineTxt := false,
    footnote := .absent, source := .absent, pageTitle := .all, pageFootnote := .last, pageSource := .last }

/-- D3 witness: `nrow = 4`, one auto-populated header, 12 one-line rows.  Nothing is reserved
(`additional = 0`), so 4 data rows are placed per page and the rendered header makes every page 5 rows high:
each of the 3 pages overflows by 1. -/
theorem witnessAutoHeader_overflow :
    witnessAutoHeader.pages.map (fun pg =>
      (pg.number, tableRows witnessAutoHeader (renderPage witnessAutoHeader pg),
        (dataIdx (renderPage witnessAutoHeader pg)).length)) = [(1, 5, 4), (2, 5, 4), (3, 5, 4)] := by
  decide

/-- D4 witness: `nrow = 4`, one header with text, 12 one-line rows of one page_by group "A".  The heading
row is reserved only for row 0 (page 1: 1 + 1 + 2 = 4 rows), but rendered again at the top of every
continuation page: pages 2, 3, 4 hold 3 data rows + header + heading = 5 rows, overflow by 1. -/
theorem witnessContinuation_overflow :
    witnessContinuation.pages.map (fun pg =>
      (pg.number, tableRows witnessContinuation (renderPage witnessContinuation pg),
        (dataIdx (renderPage witnessContinuation pg)).length)) =
      [(1, 4, 2), (2, 5, 3), (3, 5, 3), (4, 5, 3), (5, 3, 1)] := by
  decide

/-- without `LinesPos` the load bound of `C03_load` fails on this document -/
def zeroLineDoc : LDoc :=
  { nrow := 1, rows := [⟨0, [], [], 1, 1⟩, ⟨2, [], [], 1, 1⟩], hasPageBy := false,
    hasSubline := false, newPage := false, pagebyColumn := true, pagebyHeader := true,
    headers := [], asColheader := false, hasTitle := false, hasSublineTxt := false,
    footnote := .absent, source := .absent, pageTitle := .all, pageFootnote := .last, pageSource := .last }

theorem C03_load_needs_LinesPos :
    ¬ (∀ (d : LDoc) (pg : PageCtx), pg ∈ d.pages →
        (((dataIdx (renderPage d pg)).map fun i => (d.meta[i]?.map (·.total)).getD 0).sum ≤
            availRows d.nrow d.additional) ∨ (dataIdx (renderPage d pg)).length ≤ 1) := by
  intro h
  have h1 := h zeroLineDoc (zeroLineDoc.pages[0]'(by decide)) (List.getElem_mem _)
  revert h1
  decide

/-- A single-level group start reserves at least the spanning rows rendered for it, whatever the value is: an
ordinary text, the EMPTY string or blanks (a blank spanning row is rendered — and reserved: only the divider empties
the heading text `calculate_row_metadata` measures), a null (reserved, not rendered), the divider (neither). -/
theorem C03_start_reserved (v : Option String) (m : Nat) (hm : 1 ≤ m) :
    (topHeadings [v]).length ≤ headingRows [v] m := by
  unfold topHeadings groupValues headingRows
  cases hd : isDivider v with
  | true => simp [hd, List.zipIdx]
  | false =>
    cases v with
    | none => simp [hd, List.zipIdx]
    | some s => simp [hd, List.zipIdx]; exact hm

/-- the empty string and blanks are values like any other: rendered as a (blank) spanning row, and reserved -/
theorem C03_blank_value_rendered_and_reserved (m : Nat) :
    topHeadings [some ""] = [Block.heading 0 ""] ∧ headingRows [some ""] m = m ∧
    topHeadings [some " "] = [Block.heading 0 " "] ∧ headingRows [some " "] m = m ∧
    topHeadings [none] = [] ∧ headingRows [none] m = m ∧
    topHeadings [some "-----"] = [] ∧ headingRows [some "-----"] m = 0 := by
  refine ⟨by decide, ?_, by decide, ?_, by decide, ?_, by decide, ?_⟩ <;>
    simp [headingRows, isDivider, strOf]

/-- groups that do not straddle a page, the first one labelled with the empty string (`nrow = 10`, one header with
text, groups ''×3, A×5, B×3): the blank spanning row is part of the budget of page 1, which holds exactly 10 rows. -/
def blankGroups : LDoc :=
  { nrow := 10,
    rows := (List.replicate 3 ⟨1, [some ""], [], 1, 1⟩) ++ (List.replicate 5 ⟨1, [some "A"], [], 1, 1⟩) ++
            (List.replicate 3 ⟨1, [some "B"], [], 1, 1⟩),
    hasPageBy := true, hasSubline := false, newPage := false, pagebyColumn := true, pagebyHeader := true,
    headers := [true], asColheader := true, hasTitle := false, hasSublineTxt := false,
    footnote := .absent, source := .absent, pageTitle := .all, pageFootnote := .last, pageSource := .last }

theorem C03_blank_group_counted :
    blankGroups.pages.map (fun pg =>
      (pg.number, tableRows blankGroups (renderPage blankGroups pg),
        headingCount (renderPage blankGroups pg), (dataIdx (renderPage blankGroups pg)).length)) =
      [(1, 10, 2, 7), (2, 7, 2, 4)] := by
  decide

/-- the D4 witness refutes the full statement (page 2) -/
theorem C03_witness_continuation : ¬ C03_full := by
  intro h
  have h1 := h witnessContinuation (by unfold LinesPos; decide)
    (witnessContinuation.pages[1]'(by decide)) (List.getElem_mem _)
  revert h1
  decide

/-- the D3 witness refutes it too (page 1) -/
theorem C03_witness : ¬ C03_full := by
  intro h
  have h1 := h witnessAutoHeader (by unfold LinesPos; decide)
    (witnessAutoHeader.pages[0]'(by decide)) (List.getElem_mem _)
  revert h1
  decide

end Props.C03
