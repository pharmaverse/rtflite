import Model.Layout
import Proofs.Layout
/-!
# C02 — no data cell is lost, duplicated, reordered or altered   (role-level part)

`layout d` is the model of pagination + page rendering (Model/Layout.lean).  The theorems say that
the data-row blocks of all pages, concatenated in page order, are exactly rows 0..n-1 in order, that
every row sits on the page the pagination assigned to it, and which columns are rendered as cells.
-/
namespace Props.C02
open Model.Paginate Model.Layout

/-- the row numbers of the data blocks, in order (`Proofs.Layout.dataIdx` written out) -/
def dataIdx (bs : List Block) : List Nat :=
  bs.filterMap fun b => match b with
    | .data i => some i
    | _ => none

/-- structural fact behind everything else: the cumulative re-slicing of
`_apply_data_post_processing` lands on the strategy's own slices, slices are contiguous and
cover all rows, page numbers are 1..P and `total = P`. -/
theorem C02_pages_structure (d : LDoc) (hne : d.rows ≠ []) :
    (d.pages.map (·.number) = List.range' 1 d.pages.length) ∧
    (∀ pg ∈ d.pages, pg.total = d.pages.length ∧ pg.dataStart = pg.start ∧ 0 < pg.height ∧
        pg.start + pg.height ≤ d.rows.length ∧
        ∀ i, (pg.start ≤ i ∧ i < pg.start + pg.height) ↔ d.pageNums[i]? = some pg.number) ∧
    ((d.pages.map (·.height)).sum = d.rows.length) := by
  obtain ⟨P, _, hlen, hnum, hok, hsum⟩ := Proofs.Layout.pages_spec d hne
  refine ⟨by rw [hlen]; exact hnum, ?_, hsum⟩
  intro pg hpg
  have h := hok pg hpg
  have hb := h.bound
  rw [Proofs.Layout.pageNums_length] at hb
  exact ⟨by rw [hlen]; exact h.total_eq, h.data_eq, h.height_pos, hb,
    h.iff (Proofs.Layout.pageNums_sorted d)⟩

/-- every data row exactly once, in original order, pages in page order -/
theorem C02_rows_once_in_order (d : LDoc) :
    (layout d).flatMap dataIdx = List.range d.rows.length :=
  Proofs.Layout.layout_dataIdx d

/-- a data row is rendered on the page whose number the pagination assigned to it -/
theorem C02_row_on_its_page (d : LDoc) (k i : Nat) (bs : List Block)
    (h : (layout d)[k]? = some bs) (hi : i ∈ dataIdx bs) :
    d.pageNums[i]? = some (k + 1) := by
  simp only [layout, List.getElem?_map, Option.map_eq_some_iff] at h
  obtain ⟨pg, hpg, rfl⟩ := h
  exact Proofs.Layout.row_on_page d k i pg hpg hi

/-! ## which columns become cells (`prepare_dataframe_for_body_encoding`) and what a cell shows -/

/-- display text of a value: `""` for null, the string otherwise (`_encode`: `"" if raw is None`) -/
def displayCell : Option String → String
  | none => ""
  | some s => s

/-- names removed from the display: subline_by always; page_by iff spanning rows are shown -/
def removedCols (pageBy sublineBy : List String) (spanning : Bool) : List String :=
  sublineBy ++ (if spanning then pageBy else [])

def keptCols (cols removed : List String) : List String := cols.filter (fun c => !removed.contains c)

def renderRow (cols removed : List String) (row : List (Option String)) : List String :=
  ((cols.zip row).filter (fun x => !removed.contains x.1)).map (fun x => displayCell x.2)

theorem C02_kept_cols_order (cols removed : List String) :
    (keptCols cols removed).Sublist cols ∧
    ∀ c, c ∈ keptCols cols removed ↔ (c ∈ cols ∧ c ∉ removed) := by
  refine ⟨List.filter_sublist, ?_⟩
  simp [keptCols, List.mem_filter]

theorem C02_row_cells (cols removed : List String) (row : List (Option String))
    (hlen : row.length = cols.length) :
    (renderRow cols removed row).length = (keptCols cols removed).length ∧
    ∀ (j : Nat) (c : String), (keptCols cols removed)[j]? = some c → cols.Nodup →
      ∃ (k : Nat) (v : Option String), cols[k]? = some c ∧ row[k]? = some v ∧ (renderRow cols removed row)[j]? = some (displayCell v) := by
  induction cols generalizing row with
  | nil => simp [renderRow, keptCols]
  | cons c0 cs ih =>
    cases row with
    | nil => simp at hlen
    | cons v vs =>
      obtain ⟨ihl, ihc⟩ := ih vs (by simpa using hlen)
      simp only [renderRow, keptCols, List.zip_cons_cons, List.filter_cons] at ihl ihc ⊢
      -- a column of the tail is found one position further in `cols` and `row`
      have shift : ∀ (j : Nat) (c : String), (List.filter (fun c => !removed.contains c) cs)[j]? = some c → (c0 :: cs).Nodup →
          ∃ (k : Nat) (w : Option String), (c0 :: cs)[k]? = some c ∧ (v :: vs)[k]? = some w ∧
            (List.map (fun x => displayCell x.2)
              (List.filter (fun x => !removed.contains x.1) (cs.zip vs)))[j]? = some (displayCell w) := by
        intro j c hj hnd
        obtain ⟨k, w, h1, h2, h3⟩ := ihc j c hj (List.nodup_cons.mp hnd).2
        exact ⟨k + 1, w, h1, h2, h3⟩
      split
      · refine ⟨by simp only [List.map_cons, List.length_cons, ihl], fun j c hj hnd => ?_⟩
        cases j with
        | zero => exact ⟨0, v, by simpa using hj, rfl, rfl⟩
        | succ j => exact shift j c hj hnd
      · exact ⟨ihl, shift⟩

/-- non-vacuity: a 5-row table on 2 pages -/
example :
    (layout { nrow := 4, rows := (List.range 5).map (fun _ => ⟨1, [], [], 1, 1⟩), hasPageBy := false,
              hasSubline := false, newPage := false, pagebyColumn := true, pagebyHeader := true,
              headers := [true], asColheader := true, hasTitle := false, hasSublineTxt := false,
              footnote := .absent, source := .absent, pageTitle := .all, pageFootnote := .last,
              pageSource := .last }).map dataIdx = [[0, 1, 2], [3, 4]] := by decide

end Props.C02
