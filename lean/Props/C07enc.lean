import Model.Encode
import Model.Borders
import Proofs.EncodeAttrs
import Props.C07
import Props.C09enc
/-!
# C07 for the whole-encoder model: table edges are closed by the documented border hierarchy on every page

`Props/C07.lean` proves the hierarchy for `Model.Borders.applyBorders` on a well-formed `BorderIn`.  Here the same is
stated for the border styles `Model.Encode.encode` EMITS for data cells:

* `borderIn d bodyA p pg` is the explicit input `pageAttrs` hands to `applyBorders` (`C07enc_page_edges`: the
  `border_top` / `border_bottom` matrices `encodeRow` reads on the page are `strMat` of its output, the footnote / source
  overrides are its overrides);
* `PageOK` (decidable, on `d` / `prepare d` / the page) implies `Props.C07.WF (borderIn …)` (`C07enc_wf`), and every
  page with a data row that the encoder renders satisfies it when the two user matrices have an admissible shape and a
  column is displayed (`C07enc_pageOK_of_run`);
* every C07 theorem is restated for `ilocV (pageAttrs …).attrs.bTop i j` / `… bBottom i j` — the values
  `encodeCell`'s `top ← mk A.bTop A.bcTop` / `bottom ← mk A.bBottom A.bcBottom` read — in terms of `d`:
  `d.page.borderFirst/borderLast`, `bodyA.bFirst/bLast/bTop`, `hasHeaderRow d`, `footTableHere …`;
  "other edges" are tied to the user's ORIGINAL matrix at the cell's original (row, column) (`edgeStr`), which joins C07
  with C09;
* `C07enc_emitted`: a style string read is emitted as the control word `BORDER_CODES` gives for it
  (`resolveBorder`); `C07enc_last_row_emitted`, `C07enc_first_row_emitted`: the two table-closing statements on the
  emitted cells of an accepted run; `C07enc_foot_override…`: what `renderFoot` does with the overrides.
-/
namespace Props.C07enc
open Model.Encode Model.Broadcast Model.Borders Model.Layout Model.Emit Proofs.EncodeAttrs Proofs.Encode Generated

/-! ## the border input of a page and its well-formedness -/

/-- what `encodeRow` reads for the two edges on a non-empty page is the output of `_apply_pagination_borders` on
`borderIn d bodyA p pg`; the overrides handed to `renderFoot` are its overrides -/
theorem C07enc_page_edges (d : Doc) (bodyA : TblAttrsOf MatV) (p : Prep) (pg : PageCtx) (hh : pg.height ≠ 0) :
    (pageAttrs d bodyA p pg).attrs.bTop = strMat (applyBorders (borderIn d bodyA p pg)).top ∧
    (pageAttrs d bodyA p pg).attrs.bBottom = strMat (applyBorders (borderIn d bodyA p pg)).bottom ∧
    (pageAttrs d bodyA p pg).fnOverride = (applyBorders (borderIn d bodyA p pg)).fnOverride ∧
    (pageAttrs d bodyA p pg).srcOverride = (applyBorders (borderIn d bodyA p pg)).srcOverride :=
  pageAttrs_edges d bodyA p pg hh

/-- a page of a prepared document on which C07 applies: `A` is the user's body attribute record after
`_to_nested_list`, `p = prepare d`; the page is non-empty and inside the frame, a column is displayed, and the user's
`border_top` / `border_bottom` are absent, empty or non-empty rectangular with ≥ 1 column -/
structure PageOK (d : Doc) (A : TblAttrsOf MatV) (p : Prep) (removed : List Nat) (pg : PageCtx) : Prop where
  attrs : p.attrs = processedAttrs A d.rows.length d.cols.length removed
  ncols : p.ncolsDisp = (keptIdx d.cols.length removed).length
  hpos : 0 < pg.height
  wpos : 0 < p.ncolsDisp
  inside : pg.start + pg.height ≤ d.rows.length
  top : GoodOrEmpty A.bTop
  bottom : GoodOrEmpty A.bBottom

theorem PageOK.col_lt {d : Doc} {A : TblAttrsOf MatV} {p : Prep} {removed : List Nat} {pg : PageCtx}
    (h : PageOK d A p removed pg) {j c : Nat} (hj : (keptIdx d.cols.length removed)[j]? = some c) :
    j < p.ncolsDisp := by
  rw [h.ncols]
  exact (List.getElem?_eq_some_iff.mp hj).1

/-- `PageOK` gives the hypothesis of every C07 theorem -/
theorem C07enc_wf {d : Doc} {A : TblAttrsOf MatV} {p : Prep} {removed : List Nat} {pg : PageCtx}
    (h : PageOK d A p removed pg) (bodyA : TblAttrsOf MatV) : Props.C07.WF (borderIn d bodyA p pg) := by
  have hrows : 0 < d.rows.length := by have := h.hpos; have := h.inside; omega
  have hk : 0 < (keptIdx d.cols.length removed).length := by rw [← h.ncols]; exact h.wpos
  have good : ∀ f : Field, GoodOrEmpty (f.get A) →
      Proofs.Broadcast.Good (fillGrid pg.height p.ncolsDisp (f.get p.attrs)) := by
    intro f hM
    rw [h.attrs]
    exact fillGrid_good (processed_goodOrEmpty f hM removed hrows hk) h.hpos h.wpos
  have g1 := good .bTop h.top
  have g2 := good .bBottom h.bottom
  exact ⟨h.hpos, h.wpos, g1.ne, g1.rect, g1.cols, g2.ne, g2.rect, g2.cols⟩

/-- shapes of a user `border_top` / `border_bottom` on which `_apply_pagination_borders` works: an admissible shape
of C09 (`shapeOk`) or an empty list / tuple / nested list (replaced by a grid of `""`) -/
def edgeShapeOk (a : Attr) : Bool :=
  shapeOk a || (match a with
    | .list [] => true
    | .tuple [] => true
    | .nested [] => true
    | _ => false)

theorem C07enc_edge_shape {a : Attr} {M : MatV} (h : a.toNested = .ok M) (hs : edgeShapeOk a = true) :
    GoodOrEmpty M := by
  unfold edgeShapeOk at hs
  rw [Bool.or_eq_true] at hs
  rcases hs with hs | hs
  · exact goodV_goodOrEmpty (toNested_goodV h hs)
  · intro m hm
    left
    subst hm
    split at hs
    · simp [Attr.toNested] at h; exact h
    · simp [Attr.toNested] at h; exact h
    · simp [Attr.toNested] at h; exact h
    · cases hs

/-- every page of an accepted run that shows a data row satisfies `PageOK` as soon as a column is displayed and the
user's two edge attributes have an admissible shape -/
theorem C07enc_pageOK_of_run {measure : Measure} {k : ColorCtx} {d : Doc} (R : Run measure k d)
    (hcols : 0 < R.p.ncolsDisp) (ht : edgeShapeOk d.body.attrs.bTop = true)
    (hb : edgeShapeOk d.body.attrs.bBottom = true)
    {pg : PageCtx} {blocks : List Block} (hr : R.Renders pg blocks) {i : Nat} (hi : Block.data i ∈ blocks) :
    PageOK d R.A R.p R.removed pg := by
  obtain ⟨_, hbound, hiff⟩ := R.page_geometry hr
  obtain ⟨h1, h2⟩ := (hiff i).mp hi
  exact { attrs := by rw [R.p_eq]
          ncols := by rw [R.p_eq]; exact nDisplayed_keepMask _ _
          hpos := by omega
          wpos := hcols
          inside := hbound
          top := C07enc_edge_shape (get_mapM R.hA .bTop) ht
          bottom := C07enc_edge_shape (get_mapM R.hA .bBottom) hb }

/-! ## the C07 theorems on the values `encodeCell` reads -/

section
variable {d : Doc} {A : TblAttrsOf MatV} {p : Prep} {removed : List Nat} {pg : PageCtx}

theorem topRead (h : PageOK d A p removed pg) (bodyA : TblAttrsOf MatV) {i j : Nat} {s : String}
    (hs : topAt (applyBorders (borderIn d bodyA p pg)) i j = some s) :
    ilocV (pageAttrs d bodyA p pg).attrs.bTop i j = .ok (.str s) := by
  rw [(pageAttrs_edges d bodyA p pg (by have := h.hpos; omega)).1]
  exact ilocV_strMat hs

theorem bottomRead (h : PageOK d A p removed pg) (bodyA : TblAttrsOf MatV) {i j : Nat} {s : String}
    (hs : bottomAt (applyBorders (borderIn d bodyA p pg)) i j = some s) :
    ilocV (pageAttrs d bodyA p pg).attrs.bBottom i j = .ok (.str s) := by
  rw [(pageAttrs_edges d bodyA p pg (by have := h.hpos; omega)).2.1]
  exact ilocV_strMat hs

/-- (1) first page, no header row rendered: the first data row is emitted with top style `rtf_page.border_first` -/
theorem C07enc_first_page_no_header (h : PageOK d A p removed pg) (bodyA : TblAttrsOf MatV)
    (h1 : pg.number = 1) (h2 : hasHeaderRow d = false) (h3 : d.page.borderFirst ≠ "") :
    ∀ j, j < p.ncolsDisp → ilocV (pageAttrs d bodyA p pg).attrs.bTop 0 j = .ok (.str d.page.borderFirst) := by
  intro j hj
  exact topRead h bodyA (Props.C07.C07_first_page_no_header (borderIn d bodyA p pg) (C07enc_wf h bodyA)
    (by simp [borderIn, h1]) h2 h3 j hj)

/-- (2) first page under a rendered header row, and every later page: the first data row is emitted with
`rtf_body.border_first` (column-wise: `bodyFirstStyle`, which reads only `bodyA.bFirst` and `bodyA.bTop`) -/
theorem C07enc_body_first (h : PageOK d A p removed pg) (bodyA : TblAttrsOf MatV)
    (h1 : (pg.number = 1 ∧ hasHeaderRow d = true) ∨ pg.number ≠ 1) (h2 : matStr bodyA.bFirst ≠ []) :
    ∀ j, j < p.ncolsDisp →
      ilocV (pageAttrs d bodyA p pg).attrs.bTop 0 j = .ok (.str (bodyFirstStyle (borderIn d bodyA p pg) j)) := by
  intro j hj
  refine topRead h bodyA (Props.C07.C07_body_first (borderIn d bodyA p pg) (C07enc_wf h bodyA) ?_ h2 j hj)
  rcases h1 with ⟨a, b⟩ | a
  · left; exact ⟨by simp [borderIn, a], b⟩
  · right; simp [borderIn, a]

/-- with a 1×1 body `border_first` holding the string `s` (the default is `"single"`) and a user `border_top` whose
first row is not longer, that style is simply `s` -/
theorem C07enc_body_first_default (d : Doc) (bodyA : TblAttrsOf MatV) (p : Prep) (pg : PageCtx) (s : String)
    (hbf : bodyA.bFirst = some [[.str s]]) (hbt : ((matStr bodyA.bTop).head?.getD []).length ≤ 1) (j : Nat) :
    bodyFirstStyle (borderIn d bodyA p pg) j = s :=
  Props.C07.C07_body_first_default (borderIn d bodyA p pg) s (by simp [borderIn, hbf, matStr]) hbt j

/-- (3) what closes the table on the page: `rtf_body.border_last` on a page that is not the last,
`rtf_page.border_last` on the last page -/
theorem C07enc_closing_style (d : Doc) (bodyA : TblAttrsOf MatV) (p : Prep) (pg : PageCtx) :
    (pg.number ≠ pg.total → matStr bodyA.bLast ≠ [] → bodyLastStyle (borderIn d bodyA p pg) ≠ "" →
      closingStyle (borderIn d bodyA p pg) = some (bodyLastStyle (borderIn d bodyA p pg))) ∧
    (pg.number = pg.total → d.page.borderLast ≠ "" →
      closingStyle (borderIn d bodyA p pg) = some d.page.borderLast) ∧
    (pg.number = pg.total → d.page.borderLast = "" → closingStyle (borderIn d bodyA p pg) = none) ∧
    (∀ s, bodyA.bLast = some [[.str s]] → bodyLastStyle (borderIn d bodyA p pg) = s) := by
  obtain ⟨c1, c2, c3⟩ := Props.C07.C07_closing_style (borderIn d bodyA p pg)
  refine ⟨fun a b c => c1 (by simp [borderIn, a]) b c, fun a b => c2 (by simp [borderIn, a]) b,
    fun a b => c3 (by simp [borderIn, a]) b, ?_⟩
  intro s hs
  simp [bodyLastStyle, borderIn, hs, matStr]

/-- (4) no table-rendered footnote / source on the page: every cell of the page's last data row is emitted with the
closing style as bottom style, and `renderFoot` gets no override -/
theorem C07enc_closing_on_last_data_row (h : PageOK d A p removed pg) (bodyA : TblAttrsOf MatV) (s : String)
    (hs : closingStyle (borderIn d bodyA p pg) = some s)
    (hf : footTableHere d.footnote d.page.pageFootnote (pg.number == 1) (pg.number == pg.total) = false)
    (hsrc : footTableHere d.source d.page.pageSource (pg.number == 1) (pg.number == pg.total) = false) :
    (∀ j, j < p.ncolsDisp → ilocV (pageAttrs d bodyA p pg).attrs.bBottom (pg.height - 1) j = .ok (.str s)) ∧
    (pageAttrs d bodyA p pg).fnOverride = none ∧ (pageAttrs d bodyA p pg).srcOverride = none := by
  obtain ⟨c1, c2, c3⟩ := Props.C07.C07_closing_on_last_data_row (borderIn d bodyA p pg) (C07enc_wf h bodyA) s hs hf hsrc
  obtain ⟨_, _, e3, e4⟩ := pageAttrs_edges d bodyA p pg (by have := h.hpos; omega)
  exact ⟨fun j hj => bottomRead h bodyA (c1 j hj), by rw [e3, c2], by rw [e4, c3]⟩

/-- what a data cell keeps of the user's edge attribute `f` (`bTop` / `bBottom`): the string at the cell's ORIGINAL
(table row, original column) -/
theorem userEdge (h : PageOK d A p removed pg) (f : Field) (hM : GoodOrEmpty (f.get A)) {i j c : Nat}
    (hi : i < pg.height) (hj : (keptIdx d.cols.length removed)[j]? = some c) :
    (fillGrid pg.height p.ncolsDisp (f.get p.attrs)).iloc (pg.start + i) j = edgeStr (f.get A) (pg.start + i) c := by
  rw [h.attrs]
  exact fill_iloc f hM removed h.hpos (by have := h.inside; omega) (h.col_lt hj) hj

/-- an edge cell whose style `_apply_pagination_borders` takes unchanged from its input (`out` is its output matrix
for the edge attribute `f`) reads the user's style of the cell's original (row, column) -/
theorem keptRead (h : PageOK d A p removed pg) (f : Field) (hM : GoodOrEmpty (f.get A)) {out : Mat String}
    {i j c : Nat} (hi : i < pg.height) (hj : (keptIdx d.cols.length removed)[j]? = some c)
    (hk : out.iloc i j = (fillGrid pg.height p.ncolsDisp (f.get p.attrs)).iloc (pg.start + i) j) :
    ∃ s, edgeStr (f.get A) (pg.start + i) c = some s ∧ ilocV (strMat out) i j = .ok (.str s) := by
  rw [userEdge h f hM hi hj] at hk
  obtain ⟨s, hs⟩ := edgeStr_some hM (pg.start + i) c
  exact ⟨s, hs, ilocV_strMat (hk.trans hs)⟩

/-- (5) a table-rendered footnote / source ends the page: the closing style goes to it (`renderFoot`'s override: the
source when it is a table, otherwise the footnote) and every data cell keeps the user's `border_bottom` of its
original (row, column) -/
theorem C07enc_closing_on_component (h : PageOK d A p removed pg) (bodyA : TblAttrsOf MatV) (s : String)
    (hs : closingStyle (borderIn d bodyA p pg) = some s)
    (hc : footTableHere d.footnote d.page.pageFootnote (pg.number == 1) (pg.number == pg.total) = true ∨
      footTableHere d.source d.page.pageSource (pg.number == 1) (pg.number == pg.total) = true) :
    (footTableHere d.source d.page.pageSource (pg.number == 1) (pg.number == pg.total) = true →
      (pageAttrs d bodyA p pg).srcOverride = some s ∧ (pageAttrs d bodyA p pg).fnOverride = none) ∧
    (footTableHere d.source d.page.pageSource (pg.number == 1) (pg.number == pg.total) = false →
      (pageAttrs d bodyA p pg).fnOverride = some s ∧ (pageAttrs d bodyA p pg).srcOverride = none) ∧
    (∀ i j c, i < pg.height → (keptIdx d.cols.length removed)[j]? = some c →
      ∃ s', edgeStr A.bBottom (pg.start + i) c = some s' ∧
        ilocV (pageAttrs d bodyA p pg).attrs.bBottom i j = .ok (.str s')) := by
  obtain ⟨c1, c2, c3⟩ := Props.C07.C07_closing_on_component (borderIn d bodyA p pg) (C07enc_wf h bodyA) s hs hc
  obtain ⟨_, e2, e3, e4⟩ := pageAttrs_edges d bodyA p pg (Nat.pos_iff_ne_zero.mp h.hpos)
  rw [e2, e3, e4]
  exact ⟨c1, c2, fun i j c hi hj => keptRead h .bBottom h.bottom hi hj (c3 i j hi (h.col_lt hj))⟩

/-- (6) all other data-cell edges carry exactly the user's `border_top` / `border_bottom` of the cell's original
(row, column): page slicing, column removal and the page borders never touch them -/
theorem C07enc_other_edges (h : PageOK d A p removed pg) (bodyA : TblAttrsOf MatV) :
    (∀ i j c, 0 < i → i < pg.height → (keptIdx d.cols.length removed)[j]? = some c →
      ∃ s, edgeStr A.bTop (pg.start + i) c = some s ∧
        ilocV (pageAttrs d bodyA p pg).attrs.bTop i j = .ok (.str s)) ∧
    (∀ i j c, i + 1 < pg.height → (keptIdx d.cols.length removed)[j]? = some c →
      ∃ s, edgeStr A.bBottom (pg.start + i) c = some s ∧
        ilocV (pageAttrs d bodyA p pg).attrs.bBottom i j = .ok (.str s)) := by
  obtain ⟨c1, c2⟩ := Props.C07.C07_other_edges (borderIn d bodyA p pg) (C07enc_wf h bodyA)
  obtain ⟨e1, e2, _, _⟩ := pageAttrs_edges d bodyA p pg (Nat.pos_iff_ne_zero.mp h.hpos)
  rw [e1, e2]
  exact ⟨fun i j c h0 hi hj => keptRead h .bTop h.top hi hj (c1 i j h0 hi (h.col_lt hj)),
    fun i j c hi hj => keptRead h .bBottom h.bottom (by omega) hj (c2 i j hi (h.col_lt hj))⟩

/-- (7) when no top rule applies (first page, no header row rendered, empty `rtf_page.border_first`) the first row
keeps the user's top border too -/
theorem C07enc_top_untouched (h : PageOK d A p removed pg) (bodyA : TblAttrsOf MatV)
    (h1 : pg.number = 1) (h2 : hasHeaderRow d = false) (h3 : d.page.borderFirst = "") :
    ∀ j c, (keptIdx d.cols.length removed)[j]? = some c →
      ∃ s, edgeStr A.bTop pg.start c = some s ∧ ilocV (pageAttrs d bodyA p pg).attrs.bTop 0 j = .ok (.str s) := by
  intro j c hj
  rw [(pageAttrs_edges d bodyA p pg (Nat.pos_iff_ne_zero.mp h.hpos)).1]
  exact keptRead h .bTop h.top h.hpos hj (Props.C07.C07_top_untouched (borderIn d bodyA p pg) (C07enc_wf h bodyA)
    (by simp [borderIn, h1]) h2 h3 j (h.col_lt hj))

end

/-! ## from the value read to the control word emitted -/

/-- `encodeCell`: a top / bottom style string read at the cell's position is emitted as the border control word
`BORDER_CODES` holds for it (`\brdrs`, `\brdrdb`, …, none for `""`); a successful cell always has all of left, top,
bottom -/
theorem C07enc_emitted {k : ColorCtx} {A : TblAttrsOf MatV} {r j : Nat} {isLast : Bool} {text : Str}
    {width : Option Rat} {c : CellFmt} (h : encodeCell k A r j isLast text width = .ok c) :
    (∀ s, ilocV A.bTop r j = .ok (.str s) → ∃ code b, borderCodes.lookup s = some code ∧ c.top = some b ∧
      b.style = codeWord code) ∧
    (∀ s, ilocV A.bBottom r j = .ok (.str s) → ∃ code b, borderCodes.lookup s = some code ∧ c.bottom = some b ∧
      b.style = codeWord code) := by
  rw [encodeCell_eq_cellOf] at h
  obtain ⟨bw, _, _, _, _, _, top, bottom, _, _, _, _, _, _, _, _, ht, hb, _, _, _, rfl⟩ := cellOf_inv h
  refine ⟨fun s hs => ?_, fun s hs => ?_⟩
  · rw [show (readAt A r j).bTop = .ok (.str s) from hs] at ht
    obtain ⟨code, e2, e3⟩ := mkBorder_str ht
    exact ⟨code, top, e2, rfl, e3⟩
  · rw [show (readAt A r j).bBottom = .ok (.str s) from hs] at hb
    obtain ⟨code, e2, e3⟩ := mkBorder_str hb
    exact ⟨code, bottom, e2, rfl, e3⟩

/-- every cell of a row `encodeRow` emits for page row `r`, when the whole row reads the style `s` in the matrix `M` of
one side, carries the control word of `s` on that side (`side`, the border `encodeCell` makes from `M`: `hem`, which is
`C07enc_emitted` for top and bottom); cell 0 fixes the control word -/
theorem C07enc_row_emitted {k : ColorCtx} {A : TblAttrsOf MatV} {cum : List Rat} {r : Nat}
    {cells : List (Option Str)} {e : Elem} (h : encodeRow k A cum r cells = .ok e) (M : MatV)
    (side : CellFmt → Option BorderFmt)
    (hem : ∀ {j l t w c}, encodeCell k A r j l t w = .ok c → ∀ s, ilocV M r j = .ok (.str s) →
      ∃ code b, borderCodes.lookup s = some code ∧ side c = some b ∧ b.style = codeWord code)
    {s : String} (hs : ∀ j, j < cells.length → ilocV M r j = .ok (.str s)) :
    ∃ code cs gaph just, borderCodes.lookup s = some code ∧
      e = rowElem { gaph := gaph, just := just, cells := cs } ∧ cs.length = cells.length ∧
      ∀ c ∈ cs, ∃ b, side c = some b ∧ b.style = codeWord code := by
  obtain ⟨hne, cs, jv, just, hv, hh, hlen, hcell, _, _, _, _, rfl⟩ := encodeRow_inv h
  have hpos : 0 < cells.length := List.length_pos_iff.mpr hne
  obtain ⟨c0, _, henc0⟩ := hcell 0 cells[0] (List.getElem?_eq_getElem hpos)
  obtain ⟨code, _, hcode, _, _⟩ := hem henc0 s (hs 0 hpos)
  refine ⟨code, cs, _, just, hcode, rfl, hlen, fun c hc => ?_⟩
  obtain ⟨i, hi, rfl⟩ := List.getElem_of_mem hc
  obtain ⟨c', hc', henc⟩ := hcell i cells[i] (List.getElem?_eq_getElem (by omega))
  cases (List.getElem?_eq_getElem hi).symm.trans hc'
  obtain ⟨code', b, hcode', hb, hst⟩ := hem henc s (hs i (by omega))
  cases hcode.symm.trans hcode'
  exact ⟨b, hb, hst⟩

/-! ## the table-closing statements on the cells an accepted run emits -/

/-- **the last data row of a page closes the table.**  On every page of an accepted run (rectangular frame, a column
displayed, admissible edge shapes) on which no table-rendered footnote / source is shown, every cell of the page's last
data row is emitted with the closing style `s` as its bottom border control word — by `C07enc_closing_style`,
`s = rtf_page.border_last` on the last page and `rtf_body.border_last` on the others. -/
theorem C07enc_last_row_emitted {measure : Measure} {k : ColorCtx} {d : Doc} (R : Run measure k d)
    (hrect : frameRect d = true) (hcols : 0 < R.p.ncolsDisp) (ht : edgeShapeOk d.body.attrs.bTop = true)
    (hb : edgeShapeOk d.body.attrs.bBottom = true) {pg : PageCtx} {blocks : List Block} (hr : R.Renders pg blocks)
    (hh : 0 < pg.height) (s : String) (hs : closingStyle (borderIn d R.A R.p pg) = some s)
    (hf : footTableHere d.footnote d.page.pageFootnote (pg.number == 1) (pg.number == pg.total) = false)
    (hsrc : footTableHere d.source d.page.pageSource (pg.number == 1) (pg.number == pg.total) = false) :
    ∃ code cells e cs gaph just, borderCodes.lookup s = some code ∧
      R.rows[pg.start + pg.height - 1]? = some cells ∧ e ∈ R.ess.flatten ∧
      e = rowElem { gaph := gaph, just := just, cells := cs } ∧ cs.length = cells.length ∧
      ∀ c ∈ cs, ∃ b, c.bottom = some b ∧ b.style = codeWord code := by
  obtain ⟨_, _, hiff⟩ := R.page_geometry hr
  have hi : Block.data (pg.start + pg.height - 1) ∈ blocks := (hiff _).mpr ⟨by omega, by omega⟩
  have hok := C07enc_pageOK_of_run R hcols ht hb hr hi
  obtain ⟨cells, e, hc, he, hmem⟩ := R.data_rendered hr hi
  have hw := R.rows_width hrect cells (List.mem_of_getElem? hc)
  obtain ⟨c1, _, _⟩ := C07enc_closing_on_last_data_row hok R.A s hs hf hsrc
  have e1 : pg.start + pg.height - 1 - pg.start = pg.height - 1 := by omega
  obtain ⟨code, cs, gaph, just, hcode, rfl, hlen, hall⟩ := C07enc_row_emitted he _ (·.bottom)
    (fun henc => (C07enc_emitted henc).2) (fun j hj => by rw [e1]; exact c1 j (by omega))
  exact ⟨code, cells, _, cs, gaph, just, hcode, hc, hmem, rfl, hlen, hall⟩

/-- **the first data row of the document opens the table when no header row is rendered**: every cell of the first
data row of page 1 is emitted with `rtf_page.border_first` as its top border control word -/
theorem C07enc_first_row_emitted {measure : Measure} {k : ColorCtx} {d : Doc} (R : Run measure k d)
    (hrect : frameRect d = true) (hcols : 0 < R.p.ncolsDisp) (ht : edgeShapeOk d.body.attrs.bTop = true)
    (hb : edgeShapeOk d.body.attrs.bBottom = true) {pg : PageCtx} {blocks : List Block} (hr : R.Renders pg blocks)
    (hh : 0 < pg.height) (h1 : pg.number = 1) (h2 : hasHeaderRow d = false) (h3 : d.page.borderFirst ≠ "") :
    ∃ code cells e cs gaph just, borderCodes.lookup d.page.borderFirst = some code ∧
      R.rows[pg.start]? = some cells ∧ e ∈ R.ess.flatten ∧
      e = rowElem { gaph := gaph, just := just, cells := cs } ∧ cs.length = cells.length ∧
      ∀ c ∈ cs, ∃ b, c.top = some b ∧ b.style = codeWord code := by
  obtain ⟨_, _, hiff⟩ := R.page_geometry hr
  have hi : Block.data pg.start ∈ blocks := (hiff _).mpr ⟨by omega, by omega⟩
  have hok := C07enc_pageOK_of_run R hcols ht hb hr hi
  obtain ⟨cells, e, hc, he, hmem⟩ := R.data_rendered hr hi
  have hw := R.rows_width hrect cells (List.mem_of_getElem? hc)
  have c1 := C07enc_first_page_no_header hok R.A h1 h2 h3
  obtain ⟨code, cs, gaph, just, hcode, rfl, hlen, hall⟩ := C07enc_row_emitted he _ (·.top)
    (fun henc => (C07enc_emitted henc).1) (fun j hj => by rw [Nat.sub_self]; exact c1 j (by omega))
  exact ⟨code, cells, _, cs, gaph, just, hcode, hc, hmem, rfl, hlen, hall⟩

/-! ## footnote / source: what `renderFoot` does with the override -/

/-- a footnote / source block of a rendered page is emitted by `renderFoot` with the page's override -/
theorem C07enc_foot_rendered {measure : Measure} {k : ColorCtx} {d : Doc} (R : Run measure k d)
    {pg : PageCtx} {blocks : List Block} (hr : R.Renders pg blocks) :
    (∀ b f, Block.footnote b ∈ blocks → d.footnote = some f →
      ∃ es, renderFoot k d f (pageAttrs d R.A R.p pg).fnOverride = .ok es ∧ ∀ e ∈ es, e ∈ R.ess.flatten) ∧
    (∀ b f, Block.source b ∈ blocks → d.source = some f →
      ∃ es, renderFoot k d f (pageAttrs d R.A R.p pg).srcOverride = .ok es ∧ ∀ e ∈ es, e ∈ R.ess.flatten) := by
  refine ⟨?_, ?_⟩
  · intro b f hb hf
    obtain ⟨es, hes, hmem⟩ := R.block_rendered hr hb
    simp only [renderBlock, hf] at hes
    exact ⟨es, hes, hmem⟩
  · intro b f hb hf
    obtain ⟨es, hes, hmem⟩ := R.block_rendered hr hb
    simp only [renderBlock, hf] at hes
    exact ⟨es, hes, hmem⟩

/-- no override, an empty one, or a component rendered as paragraphs: the component is emitted from its own
attributes -/
theorem C07enc_foot_no_override (k : ColorCtx) (d : Doc) (f : Foot) (o : Option String)
    (h : o = none ∨ o = some "" ∨ f.asTable = false) : renderFoot k d f o = renderFoot k d f none := by
  rcases h with rfl | rfl | h
  · rfl
  · unfold renderFoot
    simp only [bne_self_eq_false, Bool.false_eq_true, if_false]
  · cases o with
    | none => rfl
    | some s =>
      unfold renderFoot
      simp only [h]
      cases f.attrs.mapM Attr.toNested with
      | error e => simp only [bind, Except.bind]
      | ok A =>
        have key : (if (s != "") = true then { A with bBottom := some [[Val.str s]] } else A).toTextAttrsOf =
            A.toTextAttrsOf := by split <;> rfl
        simp only [bind, Except.bind, Bool.not_false, if_true, key]

/-- a table-rendered footnote / source with a non-empty override `s`: ONE row is emitted, every cell of it with the
control word of `s` as bottom border — the component's own `border_bottom` is replaced -/
theorem C07enc_foot_override {k : ColorCtx} {d : Doc} {f : Foot} {s : String} {es : List Elem}
    (h : renderFoot k d f (some s) = .ok es) (hs : s ≠ "") (ht : f.asTable = true) :
    ∃ code cs gaph just, borderCodes.lookup s = some code ∧
      es = [rowElem { gaph := gaph, just := just, cells := cs }] ∧ cs.length = 1 ∧
      ∀ c ∈ cs, ∃ b, c.bottom = some b ∧ b.style = codeWord code := by
  obtain ⟨A, w, b, e, _, _, rfl, hb, he⟩ := renderFoot_row h ht
  cases hb s rfl hs
  obtain ⟨code, cs, gaph, just, hcode, rfl, hlen, hall⟩ := C07enc_row_emitted he _ (·.bottom)
    (fun henc => (C07enc_emitted henc).2) (s := s) fun j hj => by
      cases Nat.lt_one_iff.mp hj
      rfl
  exact ⟨code, cs, gaph, just, hcode, rfl, hlen, hall⟩

theorem closingStyle_ne {b : BorderIn} {s : String} (h : closingStyle b = some s) : s ≠ "" := by
  unfold closingStyle at h
  split at h
  · split at h
    · next hc =>
      cases h
      simp only [Bool.and_eq_true, bne_iff_ne, ne_eq, decide_eq_true_eq] at hc
      exact hc.2
    · cases h
  · split at h
    · next hc =>
      cases h
      simpa using hc
    · cases h

theorem footTableHere_asTable {f : Foot} {pl : Placement} {a b : Bool}
    (h : footTableHere (some f) pl a b = true) : f.asTable = true := by
  simp only [footTableHere, Bool.and_eq_true] at h
  exact h.2

/-- **a table-rendered footnote / source closes the table.**  On every page of an accepted run with a closing style
`s` on which the source is shown as a table, the source row is emitted with the control word of `s` as bottom border;
when the source is not a table there but the footnote is, the footnote row is -/
theorem C07enc_component_emitted {measure : Measure} {k : ColorCtx} {d : Doc} (R : Run measure k d)
    (hcols : 0 < R.p.ncolsDisp) (ht : edgeShapeOk d.body.attrs.bTop = true)
    (hb : edgeShapeOk d.body.attrs.bBottom = true) {pg : PageCtx} {blocks : List Block} (hr : R.Renders pg blocks)
    (hh : 0 < pg.height) (s : String) (hs : closingStyle (borderIn d R.A R.p pg) = some s) :
    (∀ b f, Block.source b ∈ blocks → d.source = some f →
      footTableHere d.source d.page.pageSource (pg.number == 1) (pg.number == pg.total) = true →
      ∃ code cs gaph just, borderCodes.lookup s = some code ∧
        rowElem { gaph := gaph, just := just, cells := cs } ∈ R.ess.flatten ∧ cs.length = 1 ∧
        ∀ c ∈ cs, ∃ bd, c.bottom = some bd ∧ bd.style = codeWord code) ∧
    (∀ b f, Block.footnote b ∈ blocks → d.footnote = some f →
      footTableHere d.footnote d.page.pageFootnote (pg.number == 1) (pg.number == pg.total) = true →
      footTableHere d.source d.page.pageSource (pg.number == 1) (pg.number == pg.total) = false →
      ∃ code cs gaph just, borderCodes.lookup s = some code ∧
        rowElem { gaph := gaph, just := just, cells := cs } ∈ R.ess.flatten ∧ cs.length = 1 ∧
        ∀ c ∈ cs, ∃ bd, c.bottom = some bd ∧ bd.style = codeWord code) := by
  obtain ⟨_, _, hiff⟩ := R.page_geometry hr
  have hi : Block.data pg.start ∈ blocks := (hiff _).mpr ⟨by omega, by omega⟩
  have hok := C07enc_pageOK_of_run R hcols ht hb hr hi
  obtain ⟨hfn, hsrc⟩ := C07enc_foot_rendered R hr
  have hne := closingStyle_ne hs
  refine ⟨?_, ?_⟩
  · intro b f hbm hf hthere
    obtain ⟨c1, _, _⟩ := C07enc_closing_on_component hok R.A s hs (Or.inr hthere)
    obtain ⟨es, hes, hmem⟩ := hsrc b f hbm hf
    rw [(c1 hthere).1] at hes
    rw [hf] at hthere
    obtain ⟨code, cs, gaph, just, hcode, rfl, hlen, hall⟩ :=
      C07enc_foot_override hes hne (footTableHere_asTable hthere)
    exact ⟨code, cs, gaph, just, hcode, hmem _ (by simp), hlen, hall⟩
  · intro b f hbm hf hthere hnosrc
    obtain ⟨_, c2, _⟩ := C07enc_closing_on_component hok R.A s hs (Or.inl hthere)
    obtain ⟨es, hes, hmem⟩ := hfn b f hbm hf
    rw [(c2 hnosrc).1] at hes
    rw [hf] at hthere
    obtain ⟨code, cs, gaph, just, hcode, rfl, hlen, hall⟩ :=
      C07enc_foot_override hes hne (footTableHere_asTable hthere)
    exact ⟨code, cs, gaph, just, hcode, hmem _ (by simp), hlen, hall⟩

/-! ## non-vacuity (`Props.C09enc.exPB`: two pages, page_by column removed, header row, footnote as table on the last
page, source paragraph; `border_first = border_last = "double"` on the page, `"single"` on the body) -/

open Props.C09enc Props.C01enc

/-- the hypotheses of the run-level theorems hold for every run of the example (and it has one: `Props/C09enc.lean`) -/
example (R : Run exMeasure (mkColorCtx exPB) exPB) :
    frameRect exPB = true ∧ 0 < R.p.ncolsDisp ∧ edgeShapeOk exPB.body.attrs.bTop = true ∧
    edgeShapeOk exPB.body.attrs.bBottom = true := by
  refine ⟨by decide +kernel, ?_, by decide +kernel, by decide +kernel⟩
  rw [R.p_eq, exPB_removed R]
  show 0 < Model.Widths.nDisplayed (keepMask exPB.cols.length [0])
  decide +kernel

/-- direct evaluation, independently of the theorems.  Page 1 (not the last; header row rendered): the first data row
reads the body's `border_first`, the last data row the body's `border_last`, the row in between keeps the user's `""`.
Page 2 (the last; footnote rendered as table there): the data rows keep `""`, the closing style `rtf_page.border_last`
goes to the footnote, the source (a paragraph) gets nothing; the emitted bottom border of the last cell of page 1 is
`\brdrs` -/
example : (match prepare exPB, exPB.body.attrs.mapM Attr.toNested with
    | .ok p, .ok A =>
      let pa1 := pageAttrs exPB A p ⟨1, 2, 0, 2, 0⟩
      let pa2 := pageAttrs exPB A p ⟨2, 2, 2, 2, 2⟩
      decide (ilocV pa1.attrs.bTop 0 0 = .ok (.str "single")) && decide (ilocV pa1.attrs.bTop 1 0 = .ok (.str "")) &&
      decide (ilocV pa1.attrs.bBottom 0 1 = .ok (.str "")) &&
      decide (ilocV pa1.attrs.bBottom 1 1 = .ok (.str "single")) &&
      decide (pa1.fnOverride = none) &&
      decide (ilocV pa2.attrs.bBottom 1 0 = .ok (.str "")) && decide (ilocV pa2.attrs.bBottom 1 1 = .ok (.str "")) &&
      decide (pa2.fnOverride = some "double") && decide (pa2.srcOverride = none) &&
      (match encodeCell (mkColorCtx exPB) pa1.attrs 1 1 true "2".toList p.cum[1]? with
       | .ok c => decide (c.bottom.map (·.style) = some "brdrs".toList)
       | .error _ => false)
    | _, _ => false) = true := by decide +kernel

end Props.C07enc
