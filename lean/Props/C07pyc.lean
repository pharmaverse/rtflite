import Generated.PyFootnoteSourceBorders
import Model.Borders
/-!
# C07 — translator tie for `_apply_footnote_source_borders`

`Generated.Py.FootnoteSourceBorders.run` is regenerated on every run from the source of
`PageFeatureProcessor._apply_footnote_source_borders`: which table-rendered component (source before footnote) takes the
style that closes the page's table.  Proved here: it is the `fnOverride` / `srcOverride` of `Model.Borders.applyBorders`.
(The decision fragment of `_apply_pagination_borders` that feeds it: `Props/C07py.lean`.)
-/
namespace Props.C07pyc
open Model.Borders Generated.Py

/-- code points of a model string -/
def codes (s : String) : List Nat := s.toList.map Char.toNat

/-! ## `_apply_footnote_source_borders` -/
open Generated.Py.FootnoteSourceBorders

/-- `getattr(component, "as_table", default)` -/
def asTable (f : Option Foot) (default : Bool) : Bool :=
  match f with
  | none => default
  | some f => f.as_table

/-- the two keys of `page.component_borders` -/
def kSource : List Nat := codes "source"
def kFootnote : List Nat := codes "footnote"

/-- **the translated `_apply_footnote_source_borders`**: the list of writes to `page.component_borders` — the source
when it is shown as a table, otherwise the footnote when it is, otherwise nothing (`hf`, `hs`: the truthiness of the
caller's `has_footnote_on_page` / `has_source_on_page`) -/
theorem C07py_component_translated (hf hs : Bool) (style : List Nat) (fn src : Option Foot) :
    run hf hs style fn src =
      if hs && asTable src false then [(kSource, style)]
      else if hf && asTable fn true then [(kFootnote, style)] else [] := by
  have e1 : kSource = [115, 111, 117, 114, 99, 101] := by decide
  have e2 : kFootnote = [102, 111, 111, 116, 110, 111, 116, 101] := by decide
  rw [e1, e2]
  cases hf <;> cases hs <;> rcases fn with _ | ⟨_ | _⟩ <;> rcases src with _ | ⟨_ | _⟩ <;> simp [run, asTable]

/-- the value `renderer.py` reads back: `page.component_borders.get(key)` after the writes -/
def lookup (key : List Nat) (ws : List (List Nat × List Nat)) : Option (List Nat) :=
  (ws.reverse.find? (fun w => w.1 == key)).map (·.2)

/-- **the overrides of the model are the writes of the code**: when a style closes the page (`closingStyle b = some st`)
and a table-rendered component ends it, `applyBorders` hands the style to the component the code writes it to.
`fnTableHere` / `srcTableHere` are the fragment's `v2` / `v3` (`C07py_decision_translated`), which imply the truthiness
`hf` / `hs` the caller passes on. -/
theorem C07py_overrides (b : BorderIn) (st : String) (hf hs : Bool) (fn src : Option Foot)
    (hh : b.height ≠ 0) (hc : closingStyle b = some st)
    (h1 : b.fnTableHere = (hf && asTable fn true)) (h2 : b.srcTableHere = (hs && asTable src false))
    (ht : (b.fnTableHere || b.srcTableHere) = true) :
    (applyBorders b).srcOverride.map codes = lookup kSource (run hf hs (codes st) fn src) ∧
    (applyBorders b).fnOverride.map codes = lookup kFootnote (run hf hs (codes st) fn src) := by
  have hne : kSource ≠ kFootnote := by decide
  rw [C07py_component_translated, ← h1, ← h2]
  unfold applyBorders
  simp only [hh, if_false, hc]
  cases hs' : b.srcTableHere <;> cases hf' : b.fnTableHere <;> simp [hs', hf'] at ht ⊢ <;>
    simp [lookup, hne, Ne.symm hne]

end Props.C07pyc
