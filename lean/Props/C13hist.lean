import Model.GroupBy
import Model.GroupBySpec
import Model.GroupByHist
import Proofs.GroupBy
import Proofs.GroupByHist
/-!
# C13 over histories — every evaluation is judged by its own frame, whatever was evaluated before

`Props/C13.lean` speaks about one evaluation.  The encoder evaluates every document of a process on ONE
`GroupingService` object, so the statement the property makes about a process is about histories:
`Model.GroupBy.Hist.run service cs` folds the service object of the code (`Model/GroupByHist.lean`: it keeps
nothing) over any sequence of calls `cs` — frames related or not, valid and invalid in any order.

* `C13hist_pure`, `C13hist_step`      every answer of every history is the pure function of its own call;
* `C13hist_step_rejects_exactly`      step `k` raises `ValueError` iff the keys of ITS frame are not contiguous;
* `C13hist_step_cells`, `…_others_untouched`   a rendered step `k` shows exactly the demanded cells of ITS frame;
* `C13hist_memo_transparent_iff`      the state such an object most plausibly acquires — accepted tables remembered
                                      under a key, the scan skipped for a known key — leaves every history's answers
                                      unchanged **iff** the key never identifies an accepted table with a rejected one;
* `C13hist_exactKey_sound`            the grouping columns themselves (with height and variables) are such a key;
* `C13hist_sumKey_unsound`, `C13hist_sumKey_history`   layout + variables + height + the SUM of per-row hashes is not,
                                      for any row hash: after `g = [A,A,B,B]` was accepted, `g = [A,B,A,B]` is rendered.

The tie to the code is `harness/props/c13_hist.py`: histories of `rtf_encode()` / direct service calls over related
frames in one fresh process, every step judged by the Lean oracle for its own frame.
-/
namespace Props.C13hist
open Model.GroupBy Model.GroupBy.Hist Proofs.GroupBy Proofs.GroupByHist

deriving instance DecidableEq for Except

/-! ## the service of the code over any history -/

/-- Any history of calls on one service object: the answers are those each call gets alone. -/
theorem C13hist_pure (cs : List Call) : run service cs = cs.map answer := runFrom_service cs ()

/-- … step by step. -/
theorem C13hist_step (cs : List Call) (k : Nat) (hk : k < cs.length) :
    (run service cs)[k]? = some (answer cs[k]) := by
  rw [C13hist_pure, List.getElem?_map, List.getElem?_eq_getElem hk]
  rfl

/-- Whatever was evaluated before — the same rows in another order, a subset, other values — step `k` raises
`ValueError` iff at some level the hierarchical keys of its own frame are not contiguous. -/
theorem C13hist_step_rejects_exactly (cs : List Call) (k : Nat) (hk : k < cs.length)
    (wf : WF cs[k].df) (hnd : cs[k].gb.Nodup) (hsub : ∀ g ∈ cs[k].gb, g ∈ names cs[k].df)
    (hne : cs[k].gb ≠ []) (hh : height cs[k].df ≠ 0) :
    (run service cs)[k]? = some (.error .valueError) ↔
      ¬ ∀ l, l < cs[k].gb.length → Contiguous (keysAt cs[k].df cs[k].gb l) := by
  rw [C13hist_step cs k hk, ← enhance_error_iff cs[k].df wf cs[k].gb hnd hsub hne hh]
  unfold answer
  cases h : enhanceGroupBy cs[k].df cs[k].gb with
  | error e => cases e; simp
  | ok s => simp

/-- A step that renders shows, in every group_by cell of its own frame, exactly what the property demands
(blank iff a true repeat that does not start a page, the original otherwise). -/
theorem C13hist_step_cells (cs : List Call) (k : Nat) (hk : k < cs.length) (wf : WF cs[k].df)
    (hnd : cs[k].gb.Nodup) (r : Frame) (h : (run service cs)[k]? = some (.ok r)) (l : Nat)
    (hl : l < cs[k].gb.length) (i : Nat) (hi : i < height cs[k].df) :
    cellAt (getCol r cs[k].gb[l]) i = expectedCell (cs[k].gb.map (getCol cs[k].df)) cs[k].starts l i := by
  rw [C13hist_step cs k hk, Option.some.injEq] at h
  obtain ⟨s, hs, rfl⟩ := answer_ok h
  exact cellAt_restored cs[k].df wf cs[k].gb hnd cs[k].starts s hs l hl i hi

/-- … and leaves every other column of its own frame as it is. -/
theorem C13hist_step_others_untouched (cs : List Call) (k : Nat) (hk : k < cs.length) (r : Frame)
    (h : (run service cs)[k]? = some (.ok r)) (m : Str) (hm : m ∉ cs[k].gb) :
    getCol r m = getCol cs[k].df m := by
  rw [C13hist_step cs k hk, Option.some.injEq] at h
  obtain ⟨s, hs, rfl⟩ := answer_ok h
  exact getCol_restored_other cs[k].df cs[k].gb cs[k].starts s hs m hm

/-! ## remembered acceptances -/

/-- Accepted tables remembered under a key that never identifies an accepted table with a rejected one: every
history is answered as by the object that remembers nothing. -/
theorem C13hist_memo_transparent {κ : Type} [DecidableEq κ] (key : Frame → List Str → κ)
    (hk : AcceptSound key) (cs : List Call) : run (memoService key) cs = run service cs := by
  rw [C13hist_pure]
  exact runFrom_memo key hk cs [] (by intro k hkm; simp at hkm)

/-- Exactly then. -/
theorem C13hist_memo_transparent_iff {κ : Type} [DecidableEq κ] (key : Frame → List Str → κ) :
    (∀ cs : List Call, run (memoService key) cs = cs.map answer) ↔ AcceptSound key := by
  constructor
  · intro h a ga b gb ha hb hkey hva
    have h2 := h [⟨a, ga, []⟩, ⟨b, gb, []⟩]
    rw [memo_two_calls key a ga b gb ha hb hkey hva] at h2
    simp only [List.map_cons, List.map_nil, answer, enhance_consulted b gb hb] at h2
    cases hv : validateDataSorting b gb with
    | error e => simp [hv] at h2
    | ok u => cases u; rfl
  · intro hk cs
    rw [C13hist_memo_transparent key hk cs, C13hist_pure]

/-- The grouping columns themselves (with the height and the variables) are such a key. -/
theorem C13hist_exactKey_sound : AcceptSound exactKey := by
  intro a ga b gb ha hb hkey hva
  simp only [exactKey, Prod.mk.injEq] at hkey
  obtain ⟨hh, hg, hcols⟩ := hkey
  subst hg
  rw [← validate_congr a b ga ha hb hh (List.map_inj_left.mp hcols)]
  exact hva

/-- Layout, variables, height and the SUM of per-row hashes of the grouping columns — for ANY row hash — is not:
the sum does not see the order of the rows. -/
theorem C13hist_sumKey_unsound (h : List Cell → Nat) : ¬ AcceptSound (sumKey h) := by
  intro hk
  have := hk grouped [['g']] scattered [['g']] ⟨by decide, by decide⟩ ⟨by decide, by decide⟩ (sumKey_collides h)
    (by decide)
  exact absurd this (by decide)

/-- The history that shows it, from a new object: `g = [A,A,B,B]` is accepted and remembered, then `g = [A,B,A,B]`
— which alone is rejected with `ValueError` — is rendered. -/
theorem C13hist_sumKey_history (h : List Cell → Nat) :
    (∃ r, (run (memoService (sumKey h)) [⟨grouped, [['g']], []⟩, ⟨scattered, [['g']], []⟩])[1]? = some (.ok r)) ∧
      answer ⟨scattered, [['g']], []⟩ = .error .valueError ∧
      (run service [⟨grouped, [['g']], []⟩, ⟨scattered, [['g']], []⟩])[1]? = some (.error .valueError) := by
  refine ⟨⟨restorePageContext (suppress scattered [['g']]) scattered [['g']] [], ?_⟩, by decide, by decide⟩
  rw [memo_two_calls (sumKey h) grouped [['g']] scattered [['g']] ⟨by decide, by decide⟩ ⟨by decide, by decide⟩
    (sumKey_collides h) (by decide)]
  rfl

/-! ## non-vacuity -/

private def c (s : String) : Cell := some s.toList

/-- valid, the same rows scattered, valid again (two levels, a null key): each step by its own frame -/
example :
    (run service
      [⟨[("s".toList, [c "S1", c "S1", c "S1", c "S2"]), ("p".toList, [none, none, c "x", c "x"])],
        ["s".toList, "p".toList], [2]⟩,
       ⟨[("s".toList, [c "S1", c "S1", c "S1", c "S2"]), ("p".toList, [none, c "x", none, c "x"])],
        ["s".toList, "p".toList], []⟩,
       ⟨[("s".toList, [c "S1", c "S1", c "S1", c "S2"]), ("p".toList, [none, none, c "x", c "x"])],
        ["s".toList, "p".toList], []⟩]) =
      [.ok [("s".toList, [c "S1", none, c "S1", c "S2"]), ("p".toList, [none, none, c "x", c "x"])],
       .error .valueError,
       .ok [("s".toList, [c "S1", none, none, c "S2"]), ("p".toList, [none, none, c "x", c "x"])]] := by decide

end Props.C13hist
