import Model.Export
import Model.ExportSpec
import Proofs.Export
import Props.C18
/-!
# C18 — converters that run an external process: a failed run is a failed conversion

`Props/C18.lean` is universal over *confined* converters (functions on the file system that may fail before or
after writing).  The converter rtflite ships, `LibreOfficeConverter`, is such a function **built from a process
run**: `Model.Export.procConverter pr fmt`, where the outcome of one run of the process `pr` is data
(`ProcRun`: exit status + the entries written into the output directory) and the verdict on it is
`procVerdict` (= `LibreOfficeConverter._convert_single_file`).

Statements here, for **every** process `pr` (whatever it writes, under whatever names, however much of it):

* `C18proc_confined` — a process converter is confined, hence every theorem of `Props/C18.lean` applies to it;
* `C18proc_nonzero_is_failure` — a run with a non-zero exit status makes `convert` raise, *whatever the run wrote*
  (a complete, truncated or empty `<stem>.<fmt>` included);
* `C18proc_missing_output_is_failure` — exit status 0 without the expected file makes `convert` raise;
* `C18proc_ok_iff` — `convert` returns exactly when the input exists, the exit status is 0 and the expected file
  exists, and then it returns that file's path;
* `C18proc_failed_run_raises` — an export through a process converter whose every run fails **raises** and leaves
  the target as it was and no debris, at every fault point (all-or-nothing: the "raise" clause of C18 for the real
  converter class);
* `C18proc_success_run` — if such an export returns, the run it made exited with status 0 and produced
  `<stem>.<fmt>`, and the target holds exactly that file's bytes.
-/
namespace Props.C18proc
open Model.Export Proofs.Export

/-- **`convert` returns iff the run succeeded**: the input exists, the exit status is 0 and the expected file
exists after the run; the answer is then that file's path (never a list, never another path). -/
theorem C18proc_ok_iff (pr : Proc) (fmt : List Char) (fs : Fs) (inp out : Path) (r : ConvRet) :
    (procConverter pr fmt fs inp out).1 = .ok r ↔
      fget fs inp ≠ none ∧ (pr fs inp out).exit = 0
      ∧ fget (writeRel out (pr fs inp out).files fs) (out ++ [convName fmt inp]) ≠ none
      ∧ r = .path (out ++ [convName fmt inp]) := by
  by_cases hin : fget fs inp = none
  · simp [procConverter_missing pr fmt fs inp out hin, hin]
  · rw [procConverter_run pr fmt fs inp out hin]
    simp only [procVerdict]
    by_cases hx : (pr fs inp out).exit = 0
    · by_cases ho : fget (writeRel out (pr fs inp out).files fs) (out ++ [convName fmt inp]) = none
      · simp [hx, ho]
      · simp [hx, ho, hin, eq_comm]
    · simp [hx]

/-- **A process converter is confined**, for every process and format: it writes only below its output directory
(it replays the run's entries there) and a returned path is `<out>/<stem>.<fmt>`. -/
theorem C18proc_confined (pr : Proc) (fmt : List Char) : Confined (procConverter pr fmt) := by
  constructor
  · intro fs inp out q hq
    by_cases hin : fget fs inp = none
    · rw [procConverter_missing pr fmt fs inp out hin]
    · rw [procConverter_run pr fmt fs inp out hin]
      exact fget_writeRel out _ fs q hq
  · intro fs inp out p h
    obtain ⟨_, _, _, hp⟩ := (C18proc_ok_iff pr fmt fs inp out _).mp h
    cases hp
    exact ⟨under_append _ _, by simp⟩

/-- **Non-zero exit status ⇒ the conversion failed, whatever the process wrote.**  For every process, file
system, input and output directory: if the run's exit status is not 0, `convert` raises — there is no set of
written entries (a complete, truncated or empty expected output file included) for which it returns. -/
theorem C18proc_nonzero_is_failure (pr : Proc) (fmt : List Char) (fs : Fs) (inp out : Path)
    (h : (pr fs inp out).exit ≠ 0) :
    ∃ e, (procConverter pr fmt fs inp out).1 = .error e := by
  cases hr : (procConverter pr fmt fs inp out).1 with
  | error e => exact ⟨e, rfl⟩
  | ok r => exact absurd ((C18proc_ok_iff pr fmt fs inp out r).mp hr).2.1 h

/-- exit status 0 but no `<stem>.<fmt>` in the output directory ("Output file not created") ⇒ `convert` raises -/
theorem C18proc_missing_output_is_failure (pr : Proc) (fmt : List Char) (fs : Fs) (inp out : Path)
    (h : fget (writeRel out (pr fs inp out).files fs) (out ++ [convName fmt inp]) = none) :
    ∃ e, (procConverter pr fmt fs inp out).1 = .error e := by
  cases hr : (procConverter pr fmt fs inp out).1 with
  | error e => exact ⟨e, rfl⟩
  | ok r => exact absurd h ((C18proc_ok_iff pr fmt fs inp out r).mp hr).2.2.1

/-- every run of `pr` fails: non-zero exit status, or no expected output -/
def AlwaysFails (pr : Proc) (fmt : List Char) : Prop :=
  ∀ fs inp out, (pr fs inp out).exit ≠ 0
    ∨ fget (writeRel out (pr fs inp out).files fs) (out ++ [convName fmt inp]) = none

/-- **An export through a process converter whose runs fail raises and is all-or-nothing.**  `write_docx` /
`write_pdf` / `write_html` with a `LibreOfficeConverter` whose process exits with a non-zero status (or leaves no
`<stem>.<fmt>`) — **whatever it wrote before** — at every fault point: the call raises, the target is exactly what
it was (byte-identical, or still absent: no partial target), every temporary directory is gone, and every other
path is unchanged or a created ancestor directory of the target. -/
theorem C18proc_failed_run_raises (k : Nat) (P : Params) (fs : Fs) (pr : Proc) (fmt : List Char)
    (hconv : P.conv = .ok (procConverter pr fmt)) (hfail : AlwaysFails pr fmt) (hN : NoClash P) :
    (∃ e, (writeConv k P fs).1 = .error e)
    ∧ fget (writeConv k P fs).2.fs P.target = fget fs P.target
    ∧ (∀ t ∈ (writeConv k P fs).2.temps, fget fs t = none ∧ ∀ q, under t q = true → fget (writeConv k P fs).2.fs q = none)
    ∧ ∀ q, (∀ t ∈ (writeConv k P fs).2.temps, under t q = false) → Same fs P.dir (writeConv k P fs).2.fs q := by
  have hconf := confined_of_conv hconv (C18proc_confined pr fmt)
  have hraise : ∃ e, (writeConv k P fs).1 = .error e := by
    cases hr : (writeConv k P fs).1 with
    | error e => exact ⟨e, rfl⟩
    | ok u =>
      exfalso
      obtain ⟨c, b, p, fsIn, fsc, hC, _⟩ := Props.C18.C18_conv_success k P fs hconf hN hr
      obtain rfl := hC.conv_eq hconv
      have hok : (procConverter pr fmt fsIn (P.tmpRoot ++ [P.tA] ++ [P.rtfName]) (P.tmpRoot ++ [P.tB])).1 = .ok (.path p) := by
        rw [hC.run]
      obtain ⟨_, hx, ho, _⟩ := (C18proc_ok_iff pr fmt fsIn _ _ _).mp hok
      rcases hfail fsIn (P.tmpRoot ++ [P.tA] ++ [P.rtfName]) (P.tmpRoot ++ [P.tB]) with h | h
      · exact h hx
      · exact ho h
  obtain ⟨e, he⟩ := hraise
  obtain ⟨h1, h2⟩ := Props.C18.C18_conv_failure k P fs hconf hN e he
  refine ⟨⟨e, he⟩, h1, fun t ht => ?_, h2⟩
  obtain ⟨_, ha, hb⟩ := Props.C18.C18_conv_temps_gone k P fs hconf hN t ht
  exact ⟨ha, hb⟩

/-- **If an export through a process converter returns, the run it made succeeded**: there is a run of `pr`, on an
input holding exactly the encoder's string, with exit status 0 that left `<stem>.<fmt>`; if that is a regular file
with bytes `doc`, the target holds exactly `doc` (target not a directory; HTML: resource folder not the target's
own name). -/
theorem C18proc_success_run (k : Nat) (P : Params) (fs : Fs) (pr : Proc) (fmt : List Char)
    (hconv : P.conv = .ok (procConverter pr fmt)) (hN : NoClash P)
    (h : (writeConv k P fs).1 = .ok ()) :
    ∃ b fsIn, P.enc = .ok b
      ∧ fget fsIn (P.tmpRoot ++ [P.tA] ++ [P.rtfName]) = some (.file b)
      ∧ (pr fsIn (P.tmpRoot ++ [P.tA] ++ [P.rtfName]) (P.tmpRoot ++ [P.tB])).exit = 0
      ∧ ∀ doc, fget (writeRel (P.tmpRoot ++ [P.tB]) (pr fsIn (P.tmpRoot ++ [P.tA] ++ [P.rtfName]) (P.tmpRoot ++ [P.tB])).files fsIn)
                 (P.tmpRoot ++ [P.tB] ++ [convName fmt (P.tmpRoot ++ [P.tA] ++ [P.rtfName])]) = some (.file doc) →
          fget fs P.target ≠ some .dir →
          (P.html = true → resDst P.dir (P.tmpRoot ++ [P.tB] ++ [convName fmt (P.tmpRoot ++ [P.tA] ++ [P.rtfName])]) ≠ P.target) →
          fget (writeConv k P fs).2.fs P.target = some (.file doc) := by
  have hconf := confined_of_conv hconv (C18proc_confined pr fmt)
  obtain ⟨c, b, p, fsIn, fsc, hC, hT, _⟩ := Props.C18.C18_conv_success k P fs hconf hN h
  obtain rfl := hC.conv_eq hconv
  have hrun := hC.run
  have hok : (procConverter pr fmt fsIn (P.tmpRoot ++ [P.tA] ++ [P.rtfName]) (P.tmpRoot ++ [P.tB])).1 = .ok (.path p) := by
    rw [hrun]
  obtain ⟨_, hx, _, hp⟩ := (C18proc_ok_iff pr fmt fsIn _ _ _).mp hok
  have hp' : p = P.tmpRoot ++ [P.tB] ++ [convName fmt (P.tmpRoot ++ [P.tA] ++ [P.rtfName])] := by cases hp; rfl
  -- the file system after the converter is the run's writes replayed
  have hfsc : fsc = writeRel (P.tmpRoot ++ [P.tB])
      (pr fsIn (P.tmpRoot ++ [P.tA] ++ [P.rtfName]) (P.tmpRoot ++ [P.tB])).files fsIn := by
    have hin : fget fsIn (P.tmpRoot ++ [P.tA] ++ [P.rtfName]) ≠ none := by rw [hC.input]; simp
    rw [procConverter_run pr fmt fsIn _ _ hin] at hrun
    exact (congrArg Prod.snd hrun).symm
  refine ⟨b, fsIn, hC.enc, hC.input, hx, fun doc hdoc hnd hname => ?_⟩
  subst hp'
  exact hT doc (by rw [hfsc]; exact hdoc) hnd hname

/-! ## non-vacuity: the harness's fake `soffice` -/

section Examples
open Props.C18

def pProc (sp : FakeSpec) (html : Bool) : Params where
  dir := [w]
  tname := o
  tmpRoot := [t]
  tA := ['a']
  tB := ['b']
  rtfName := ['r']
  enc := .ok ['R']
  explicitConv := true
  conv := .ok (procConverter (fakeProc sp ['h']) ['h'])
  html := html

/-- the process dies (status 1, 3, killed = 137) **after** writing a truncated / complete / empty output, or exits with
status 0 leaving only `<stem>.<fmt>.part` or no output file at all — with and without a resource folder and stray files:
at every fault point (`k < 12` covers the at most nine effects of `writeConv` and the run without fault) the export
raises, the old target survives and both temporary directories are gone -/
example : ∀ sp ∈ [({ exit := 1, out := .trunc 2, res := false, extra := false } : FakeSpec),
                   { exit := 137, out := .full, res := true, extra := true },
                   { exit := 3, out := .empty, res := false, extra := true },
                   { exit := 0, out := .part, res := false, extra := false },
                   { exit := 0, out := .none, res := true, extra := false }],
    ∀ k < 12, isOk (writeConv k (pProc sp true) fsSecond).1 = false
      ∧ fget (writeConv k (pProc sp true) fsSecond).2.fs [w, o] = some (.file ['O'])
      ∧ fget (writeConv k (pProc sp true) fsSecond).2.fs [w, o ++ filesSuffix, ['s']] = some (.file ['x'])
      ∧ fget (writeConv k (pProc sp true) fsSecond).2.fs [t, ['a']] = none
      ∧ fget (writeConv k (pProc sp true) fsSecond).2.fs [t, ['b']] = none := by decide +kernel

/-- a run with exit status 0 is a conversion, also of a truncated document (the library cannot know): without fault
(index 100 is past the last effect) the target holds what the process left, stray files of the output directory go nowhere -/
example :
    isOk (writeConv 100 (pProc { exit := 0, out := .trunc 2, res := false, extra := true } false) fsSecond).1 = true
    ∧ fget (writeConv 100 (pProc { exit := 0, out := .trunc 2, res := false, extra := true } false) fsSecond).2.fs [w, ['r', '.', 'h']]
        = none
    ∧ fget (writeConv 100 (pProc { exit := 0, out := .trunc 2, res := false, extra := true } false) fsSecond).2.fs [w, o]
        = some (.file ['h', '<'])
    ∧ fget (writeConv 100 (pProc { exit := 0, out := .trunc 2, res := false, extra := true } false) fsSecond).2.fs
        [w, ['l', 'u', '_', 'c', 'a', 'c', 'h', 'e']] = none
    ∧ fget (writeConv 100 (pProc { exit := 0, out := .trunc 2, res := false, extra := true } false) fsSecond).2.fs [t, ['b']] = none := by
  decide +kernel

/-- the fake processes that exit non-zero always fail, so `C18proc_failed_run_raises` applies to them -/
example (sp : FakeSpec) (fmt : List Char) (h : sp.exit ≠ 0) : AlwaysFails (fakeProc sp fmt) fmt := by
  intro fs inp out
  left
  unfold fakeProc
  split
  · exact h
  · simp
end Examples

end Props.C18proc
