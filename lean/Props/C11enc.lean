import Model.Encode
import Model.Convert
import Model.ConvertSpec
import Proofs.EncodeLift
import Proofs.EncodeAttrs
import Proofs.EncodeText
import Proofs.ConvNodes
import Proofs.EncodeSegments
import Props.C11
import Props.C10enc
import Proofs.FontTable
/-!
# C11 for the whole-encoder model: text conversion translates exactly the documented tokens, per position

`Props/C11.lean` proves the property about `Model.Convert` (the conversion up to the escaper, and the route of the
`text_convert` flag for values made of booleans).  Here it is stated about the ENCODER model `Model.Encode.encode`.

* Every text hole the encoder writes is `textNodes (convText conv t)` (`Props/C10enc.lean`, one theorem per position
  kind, each with the place `FlagAt M r c conv` where the flag is read).  `convText conv t` IS
  `TextContent(text=t, convert=conv)._convert_special_chars()` of `Props/C11.lean` with the escaper of C10
  (`C11enc_hole_is_convertSpecial`).
* Conversion off: the hole is the escaped text itself (`C11enc_conversion_off`); conversion on and a `regular` text: the
  hole is the escaped rendering of the ONE-PASS reading `spec t` — exactly the documented tokens are translated,
  everything else stays (`C11enc_conversion_on`; natural rendering when no `>=`/`<=` occurs: `C11enc_conversion_exact`;
  D15 at the hole level: `C11enc_witness_D15`); a listed command alone becomes its character
  (`C11enc_supported_command`).
* The flag (`C11enc_per_position`): `FlagAt M r c conv` is `BroadcastValue(value=text_convert).iloc(r, c)` through the
  `bool` field; for values made of booleans it is `Model.Convert.flagAt` of `Props/C11.lean` (`C11enc_flag_bridge`), so
  `C11_per_position` / `C11_defaults` apply verbatim (`C11enc_defaults`).  Positions: data cell → the body's value at
  the cell's ORIGINAL (row, column) (`C11enc_data_flag_binding`: page slicing and column removal do not re-bind flags);
  header cell `j` → `(0, j)` of the header's; line `i` of title / subline / page header / footer → `(i, 0)`;
  footnote / source → `(0, 0)`; spanning heading → the body's at `(0, page_by column)` or the default `False`
  (`C11enc_heading_default`); subline_by heading → never converted.
* Segments (`C11enc_segment_offset`, `C11enc_segment_cell_flag`): a page that shows several page_by groups is encoded
  by the renderer segment by segment, `_encode(segment, …, row_offset = rows of the page above the segment)`.  In the
  model `encodeRows … off` is that call; encoding `above ++ seg` at once (what `renderBlock` does, data row `i` at
  page-relative row `i - dataStart`) equals encoding `above` and then `seg` with offset `|above|`, and cell `j` of row
  `i` of the segment reads its flag at attribute row `|above| + i` — the row's OWN page-relative row, not the row at
  the same offset from the top of the page.  With `C11enc_data_flag_binding` this is the flag the user gave for the
  cell's original (row, column) (`Props/C02encflag.lean`: `C02encflag_cell_own_flag`).
-/
namespace Props.C11enc
open Model.Rtf Model.Emit Model.Encode Model.Broadcast Model.Layout Model.Convert
open Proofs.EncodeLift Proofs.EncodeAttrs Proofs.EncodeText Proofs.ConvNodes

/-! ## the hole is `_convert_special_chars` -/

/-- `convText` is `convertSpecial` of `Props/C11.lean` with C10's escaper (`escStr` = `escape` on characters) -/
theorem C11enc_hole_is_convertSpecial (conv : Bool) (t : List Char) :
    convText conv t = convertSpecial escStr conv t := rfl

/-- with conversion off the text reaches the escaper unchanged: the hole is the escaped text -/
theorem C11enc_conversion_off (t : List Char) : textNodes (convText false t) = textNodes (escStr t) := rfl

/-- with conversion on, a `regular` text reaches the escaper as the rendering of its one-pass reading: every documented
token (`^ _ >= <=`, newline, `\pagenumber \totalpage \pagefield`, a listed LaTeX command with its brace group) is
replaced, unknown commands stay verbatim, all other characters are unchanged and in order (a blank follows `≥`/`≤`,
D15) -/
theorem C11enc_conversion_on (t : List Char) (h : regular t = true) :
    textNodes (convText true t) = textNodes (escStr (renderD15 (spec t))) := by
  rw [convText_true, Props.C11.C11_conversion_upto_D15 t h]

/-- … and without comparison tokens it is the natural rendering -/
theorem C11enc_conversion_exact (t : List Char) (h : regular t = true) (hc : noCmp (spec t) = true) :
    textNodes (convText true t) = textNodes (escStr (render (spec t))) := by
  rw [convText_true, Props.C11.C11_conversion_partial t h hc]

/-- D15 at the level of the hole: for `a>=b` the encoder writes `a≥ b` (escaped), not the natural rendering `a≥b` -/
theorem C11enc_witness_D15 :
    convText true ['a', '>', '=', 'b'] = escStr ['a', chGe, ' ', 'b'] ∧
    convText true ['a', '>', '=', 'b'] ≠ escStr (render (spec ['a', '>', '=', 'b'])) := by
  decide +kernel

/-- every listed command the documented syntax can name, alone in a text position with conversion on, is written as
exactly its listed character -/
theorem C11enc_supported_command (k : List Char) (cp : Nat) (hm : (k, cp) ∈ latexTable) (hn : nameable k = true) :
    textNodes (convText true k) = textNodes (escStr [Char.ofNat cp]) := by
  rw [convText_true, (Props.C11.C11_supported_commands k cp hm hn).1]

/-- one statement for both values of the flag: what a position with flag `conv` writes for the user's text `t` -/
theorem C11enc_per_position (M : MatV) (r c : Nat) (conv : Bool) (_h : FlagAt M r c conv) (t : List Char) :
    textNodes (convText conv t) = textNodes (if conv then escStr (convertCore true t) else escStr t) := by
  cases conv <;> rfl

/-! ## the route of the flag -/

/-- a `text_convert` value made of booleans, as the component's `__dict__` holds it -/
def ofFlagVal : FlagVal → Attr
  | .flat xs => .list (xs.map Val.bool)
  | .tuple xs => .tuple (xs.map Val.bool)
  | .nested m => .nested (m.map fun row => row.map Val.bool)

theorem iloc_bridge (m : List (List Bool)) (r c : Nat) (b : Bool) :
    FlagAt (some (m.map fun row => row.map Val.bool)) r c b ↔ Model.Convert.iloc m r c = some b := by
  unfold FlagAt
  simp only [ilocV_some_ok, iloc_map, convert_iloc]
  cases Mat.iloc m r c with
  | none => simp
  | some x =>
    constructor
    · rintro ⟨v, hv, hb⟩
      cases hv
      exact congrArg some (Except.ok.inj hb)
    · intro hb
      cases hb
      exact ⟨_, rfl, rfl⟩

/-- **the flag of the encoder is C11's flag.**  For a `text_convert` value made of booleans (a flat list, a tuple, a
nested list), what the encoder's position `(r, c)` receives is `Model.Convert.flagAt v r c`. -/
theorem C11enc_flag_bridge (v : FlagVal) (M : MatV) (hM : (ofFlagVal v).toNested = .ok M) (r c : Nat) (b : Bool) :
    FlagAt M r c b ↔ flagAt v r c = some b := by
  unfold flagAt
  cases v with
  | flat xs =>
    simp only [ofFlagVal, Attr.toNested] at hM
    cases xs with
    | nil =>
      simp only [List.map_nil, List.any_nil, Bool.false_eq_true, if_false, List.isEmpty_nil, if_true,
        Except.ok.injEq] at hM
      subst hM
      simp [FlagAt, ilocV, toNested, Model.Convert.iloc]
    | cons x xs =>
      simp only [List.map_cons, List.any_cons, Val.isScalar, Bool.true_or, if_true, Except.ok.injEq] at hM
      subst hM
      exact iloc_bridge [x :: xs] r c b
  | tuple xs =>
    simp only [ofFlagVal, Attr.toNested, Except.ok.injEq] at hM
    subst hM
    have : (xs.map Val.bool).map (fun x => [x]) = (xs.map fun x => [x]).map fun row => row.map Val.bool := by
      simp [List.map_map]
    rw [this]
    exact iloc_bridge _ r c b
  | nested m =>
    simp only [ofFlagVal, Attr.toNested, Except.ok.injEq] at hM
    subst hM
    exact iloc_bridge m r c b

/-- `C11_per_position` for the encoder: with a `text_convert` value made of booleans, the hole written at a position
whose flag is read at `(r, c)` is `positionText` of `Props/C11.lean` -/
theorem C11enc_positionText (v : FlagVal) (M : MatV) (hM : (ofFlagVal v).toNested = .ok M) (r c : Nat) (conv : Bool)
    (h : FlagAt M r c conv) (t : List Char) :
    positionText escStr v r c t = some (convText conv t) := by
  have := (C11enc_flag_bridge v M hM r c conv).mp h
  rw [Props.C11.C11_per_position escStr v r c t conv this]
  cases conv <;> rfl

/-- constructor defaults: a default-constructed component holds `defaultFlag comp` (generated from the source tree);
at EVERY position the encoder reads the documented default from it — on for title, column header, body, footnote,
source; off for subline, page header, page footer -/
theorem C11enc_defaults (comp : Model.Convert.Comp) (M : MatV) (hM : (ofFlagVal (defaultFlag comp)).toNested = .ok M) (r c : Nat) :
    generatedDefault comp = some (defaultFlag comp) ∧ FlagAt M r c (documentedDefault comp) := by
  obtain ⟨h1, h2⟩ := Props.C11.C11_defaults comp r c
  exact ⟨h1, (C11enc_flag_bridge _ M hM r c _).mpr h2⟩

/-- the spanning group heading uses `False` when the body holds no `text_convert` (the default of
`encode_spanning_row`), whatever the body's constructor default is -/
theorem C11enc_heading_default (k : ColorCtx) (d : Doc) (bodyA : TblAttrsOf MatV) (level : Nat) (text : String)
    (e : Elem) (h : spanningRow k d bodyA level text = .ok e) (hnone : bodyA.convert = none) :
    ∃ fmt cf, e = rowElem fmt ∧ fmt.cells = [cf] ∧ cf.body = textNodes (escStr text.toList) := by
  obtain ⟨fmt, cf, conv, h1, h2, h3, h4⟩ := spanningRow_hole h
  rcases h4 with ⟨_, rfl⟩ | ⟨hne, _⟩
  · exact ⟨fmt, cf, h1, h2, h3⟩
  · exact absurd hnone hne

/-- **data cells: the flag follows the cell.**  For a page of the encoder, a data row `i` on it and displayed column `j`
(original column `c`): the flag the cell receives (read on the page's attributes at the page-relative position) is the
body's `text_convert` — `_to_nested_list`-normalised — at the cell's ORIGINAL position `(i, c)` under rtflite's
broadcasting rule.  Column removal (page_by / subline_by) and page slicing do not re-bind a flag to another cell. -/
theorem C11enc_data_flag_binding (measure : Measure) (d : Doc) (pl : Plan) (hp : plan measure d = .ok pl)
    (hs : shapeOk d.body.attrs.convert = true)
    (x : PageCtx × List Block) (hx : x ∈ pl.pageBlocks) (i : Nat) (hi : x.1.start ≤ i ∧ i < x.1.start + x.1.height)
    (j c : Nat) (hj : (keptIdx d.cols.length pl.p.removed)[j]? = some c) (conv : Bool) :
    d.body.attrs.convert.toNested = .ok pl.bodyA.convert ∧
    (FlagAt (pageAttrs d pl.bodyA pl.p x.1).attrs.convert (i - x.1.dataStart) j conv ↔
      FlagAt pl.bodyA.convert i c conv) := by
  obtain ⟨hprep, hA, _, _⟩ := plan_ok hp
  obtain ⟨removed, _, ⟨hrem, _, _⟩, _, _, _, _, hpr, _⟩ := Proofs.Encode.prepare_facts hprep
  have hpe := prepare_eq hprep hA hrem
  have hn := get_mapM hA Field.convert
  have hne : pl.ld.rows ≠ [] := by
    intro h0
    have hpg := (pageBlocks_mem hx).1
    rw [Proofs.Layout.pages_of_no_rows pl.ld h0] at hpg
    simp only [List.mem_singleton] at hpg
    rw [hpg] at hi
    simp at hi
  obtain ⟨_, hds, hb, _⟩ := page_bounds hne hx
  rw [(plan_rows_length hp).2] at hb
  refine ⟨hn, ?_⟩
  have hattrs : pl.p.attrs = processedAttrs pl.bodyA d.rows.length d.cols.length removed := by rw [hpe]
  rw [hpr] at hj
  have := read_binding (bodyA := pl.bodyA) hattrs Field.convert rfl (toNested_goodV hn hs) x.1 hb
    (show i - x.1.start < x.1.height by omega) hj
  have hidx : x.1.start + (i - x.1.start) = i := by omega
  rw [hidx] at this
  unfold FlagAt
  rw [hds]
  show (∃ v, ilocV (Field.convert.get (pageAttrs d pl.bodyA pl.p x.1).attrs) (i - x.1.start) j = .ok v ∧ _) ↔
    (∃ v, ilocV (Field.convert.get pl.bodyA) i c = .ok v ∧ _)
  rw [this]

/-! ## segments of a page: `_encode(segment, col_widths, row_offset)` -/

/-- **the segment offset.**  Encoding the rows `xs ++ ys` with offset `off` is encoding `xs` with `off` and then `ys`
with `off + |xs|`: the `row_offset` the renderer hands to every segment of a page (the number of page rows above it)
is exactly what makes segment-by-segment encoding equal to the encoding of the whole page. -/
theorem C11enc_segment_offset (k : ColorCtx) (A : TblAttrsOf MatV) (cw : List Rat) (off : Nat)
    (xs ys : List (List (Option Model.Encode.Str))) :
    encodeRows k A cw off (xs ++ ys) =
      (do let a ← encodeRows k A cw off xs
          let b ← encodeRows k A cw (off + xs.length) ys
          pure (a ++ b)) :=
  Proofs.EncodeSegments.encodeRows_append k A cw off xs ys

/-- **a cell of a later segment is converted under its own row's flag.**  The page holds the rows `above ++ seg`; the
segment `seg` is encoded with `row_offset = |above|`.  Row `i` of the segment is row `|above| + i` of the page, and cell
`j` of it is written as `textNodes (convText conv text)` with `conv` read at attribute position `(|above| + i, j)` —
whatever the flags of the rows `0 … ` at the top of the page are. -/
theorem C11enc_segment_cell_flag (k : ColorCtx) (A : TblAttrsOf MatV) (cw : List Rat)
    (above seg : List (List (Option Model.Encode.Str))) (es : List Elem)
    (h : encodeRows k A cw above.length seg = .ok es) (i : Nat) (cells : List (Option Model.Encode.Str))
    (hc : seg[i]? = some cells) :
    (above ++ seg)[above.length + i]? = some cells ∧
    ∃ fmt : RowFmt, es[i]? = some (rowElem fmt) ∧ fmt.cells.length = cells.length ∧
      ∀ j c, cells[j]? = some c → ∃ cf conv, fmt.cells[j]? = some cf ∧ FlagAt A.convert (above.length + i) j conv ∧
        cf.body = textNodes (convText conv (c.getD [])) := by
  refine ⟨?_, Proofs.EncodeSegments.encodeRows_holes h i cells hc⟩
  rw [List.getElem?_append_right (Nat.le_add_right _ _), Nat.add_sub_cancel_left]
  exact hc

/-! ## non-vacuity -/

set_option maxRecDepth 100000

open Props.C01enc in
/-- two page_by groups on one page (`g` is shown as spanning rows, so the page is encoded in two segments), a ROW-WISE
`text_convert`: on for row 0, off for the `code` cell of row 1 -/
def exRowwise : Doc :=
  { exDoc [1, 2, 3] with
    cols := ["g".toList, "code".toList, "label".toList],
    rows := [[some "G1".toList, some "x^2".toList, some "a".toList],
             [some "G2".toList, some "y^2".toList, some "b_1".toList]],
    title := none, footnote := none, source := none, headers := [],
    body := { attrs := { exTbl with convert := .nested [[.bool true, .bool true, .bool true],
                                                        [.bool true, .bool false, .bool true]] },
              colRelWidth := some [1, 2, 3], asColheader := true, groupBy := none, pageBy := some ["g".toList],
              sublineBy := none, newPage := false, pagebyHeader := true, pagebyColumn := true } }

open Props.C01enc in
/-- the encoder accepts the document; the `code` cell of the first group is converted (`x\super 2`), the `code` cell of
the SECOND group — first row of its segment — stands verbatim (`y^2`: its own flag, not the flag of the page's first
row), its `label` cell is converted (`b\sub 1`) -/
example :
    shapeOk exRowwise.body.attrs.convert = true ∧
    (match encodeText exMeasure exRowwise with
     | .ok s => hasInfix " x\\super 2}".toList s && hasInfix " y^2}".toList s && hasInfix " b\\sub 1}".toList s &&
                hasInfix " G1}".toList s && hasInfix " G2}".toList s
     | .error _ => false) = true := by
  refine ⟨by decide, ?_⟩
  rw [encodeText, encode, Proofs.FontTable.encodeWith_eq]
  decide +kernel

/-- a `text_convert` that differs per column: `[[True, False]]` -/
def convPerColumn : TblAttrsOf Attr :=
  { Props.C01enc.exTbl with convert := .nested [[.bool true, .bool false]] }

open Props.C01enc in
/-- one row `a>=b | a>=b`, conversion on for the first column and off for the second -/
def exPerColumn : Doc :=
  { exTiny [1, 2] with
    rows := [[some "a>=b".toList, some "a>=b é".toList]],
    body := { (exTiny [1, 2]).body with attrs := convPerColumn } }

open Props.C01enc in
/-- the encoder accepts the document; in the string it returns the first cell is converted (`a≥ b`, escaped), the
second is not (`a>=b`, its `é` escaped); the bridge and the binding hypotheses hold (booleans, a well-shaped value) -/
example :
    (match encodeText exMeasure exPerColumn with
     | .ok s => hasInfix " a\\uc1\\u8805* b}".toList s && hasInfix " a>=b \\uc1\\u233*}".toList s
     | .error _ => false) = true ∧
    exPerColumn.body.attrs.convert = ofFlagVal (.nested [[true, false]]) ∧
    shapeOk exPerColumn.body.attrs.convert = true ∧
    flagAt (.nested [[true, false]]) 0 0 = some true ∧ flagAt (.nested [[true, false]]) 0 1 = some false ∧
    regular "a>=b".toList = true := by
  refine ⟨?_, rfl, by decide, by decide, by decide, by decide +kernel⟩
  rw [encodeText, encode, Proofs.FontTable.encodeWith_eq]
  decide +kernel

end Props.C11enc
