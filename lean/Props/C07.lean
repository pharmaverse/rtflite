import Model.Broadcast
import Model.Borders
import Proofs.Broadcast
import Proofs.Borders
/-!
# C07 — table edges are closed by the documented border hierarchy on every page

About `applyBorders` (Model/Borders.lean), the model of `_apply_pagination_borders` for one page:
`topAt o i c` / `bottomAt o i c` are the styles `_encode` reads for page row `i`, displayed column `c`.
Each clause reads off a branch of `topSpec` / `bottomSpec` (`topAt_applyBorders`, `bottomAt_applyBorders`).
-/
namespace Props.C07
open Model.Broadcast Model.Borders Proofs.Broadcast Proofs.Borders

/-- well-formed input: a non-empty page, rectangular non-empty user matrices -/
structure WF (b : BorderIn) : Prop where
  hpos : 0 < b.height
  wpos : 0 < b.width
  topNe : b.top ≠ []
  topRect : b.top.Rect
  topCols : 0 < b.top.ncols
  botNe : b.bottom ≠ []
  botRect : b.bottom.Rect
  botCols : 0 < b.bottom.ncols

theorem WF.topGood {b : BorderIn} (h : WF b) : Good b.top := ⟨h.topNe, h.topRect, h.topCols⟩
theorem WF.botGood {b : BorderIn} (h : WF b) : Good b.bottom := ⟨h.botNe, h.botRect, h.botCols⟩
theorem WF.hne {b : BorderIn} (h : WF b) : b.height ≠ 0 := Nat.pos_iff_ne_zero.mp h.hpos

/-- (1) first page, no header row: the first data row carries rtf_page.border_first -/
theorem C07_first_page_no_header (b : BorderIn) (h : WF b)
    (h1 : b.isFirst = true) (h2 : b.hasHeaders = false) (h3 : b.pageFirst ≠ "") :
    ∀ c, c < b.width → topAt (applyBorders b) 0 c = some b.pageFirst := by
  intro c hc
  rw [topAt_applyBorders h.topGood h.hpos hc]
  simp [topSpec, h1, h2, h3]

/-- (2) first page under a header row, and every later page: the first data row carries
rtf_body.border_first (column-wise, with the code's fall-back to column 0 and the user's longer
border_top row taking precedence where it is non-empty) -/
theorem C07_body_first (b : BorderIn) (h : WF b)
    (h1 : (b.isFirst = true ∧ b.hasHeaders = true) ∨ b.isFirst = false) (h2 : b.bodyFirst ≠ []) :
    ∀ c, c < b.width → topAt (applyBorders b) 0 c = some (bodyFirstStyle b c) := by
  intro c hc
  have hl : 0 < b.bodyFirst.length := List.length_pos_iff.mpr h2
  rw [topAt_applyBorders h.topGood h.hpos hc, topSpec,
    if_pos ⟨by rcases h1 with ⟨h1, h1'⟩ | h1 <;> simp [*], rfl⟩]

/-- with the default (1×1) body border_first and a user border_top that is not longer, the style is simply
rtf_body.border_first -/
theorem C07_body_first_default (b : BorderIn) (s : String) (hbf : b.bodyFirst = [[s]])
    (hbt : (b.bodyTopOrig.head?.getD []).length ≤ 1) (c : Nat) :
    bodyFirstStyle b c = s := by
  unfold bodyFirstStyle
  simp only [hbf, List.head?_cons, Option.getD_some, List.length_cons, List.length_nil]
  have hlt : ¬ ((b.bodyTopOrig.head?.getD []).length > 0 + 1) := by omega
  simp only [hlt, decide_false, Bool.and_false, Bool.false_and, Bool.false_eq_true, if_false]
  split
  · next hc => have : c = 0 := by omega
               subst this; rfl
  · rfl

/-- (3) what closes the table: rtf_body.border_last on a page that is not the last, rtf_page.border_last on
the last page -/
theorem C07_closing_style (b : BorderIn) :
    (b.isLast = false → b.bodyLast ≠ [] → bodyLastStyle b ≠ "" → closingStyle b = some (bodyLastStyle b)) ∧
    (b.isLast = true → b.pageLast ≠ "" → closingStyle b = some b.pageLast) ∧
    (b.isLast = true → b.pageLast = "" → closingStyle b = none) := by
  unfold closingStyle
  refine ⟨?_, ?_, ?_⟩
  · intro h1 h2 h3
    have hl : 0 < b.bodyLast.length := List.length_pos_iff.mpr h2
    simp [h1, hl, h3]
  · intro h1 h2; simp [h1, h2]
  · intro h1 h2; simp [h1, h2]

/-- (4) no table-rendered footnote/source on the page: the last data row carries the closing style -/
theorem C07_closing_on_last_data_row (b : BorderIn) (h : WF b) (s : String)
    (hs : closingStyle b = some s) (hf : b.fnTableHere = false) (hsrc : b.srcTableHere = false) :
    (∀ c, c < b.width → bottomAt (applyBorders b) (b.height - 1) c = some s) ∧
    (applyBorders b).fnOverride = none ∧ (applyBorders b).srcOverride = none := by
  refine ⟨fun c hc => ?_, ?_⟩
  · rw [bottomAt_applyBorders h.botGood (Nat.sub_lt h.hpos Nat.one_pos) hc]
    simp [bottomSpec, hs, hf, hsrc]
  · rw [applyBorders_data b h.hne s hs hf hsrc]
    exact ⟨rfl, rfl⟩

/-- (5) a table-rendered footnote/source ends the page: the closing style goes to it (the source when it
is a table, since it is rendered last; otherwise the footnote) and the data rows keep the user's borders -/
theorem C07_closing_on_component (b : BorderIn) (h : WF b) (s : String)
    (hs : closingStyle b = some s) (hc : b.fnTableHere = true ∨ b.srcTableHere = true) :
    (b.srcTableHere = true → (applyBorders b).srcOverride = some s ∧ (applyBorders b).fnOverride = none) ∧
    (b.srcTableHere = false → (applyBorders b).fnOverride = some s ∧ (applyBorders b).srcOverride = none) ∧
    (∀ i c, i < b.height → c < b.width →
        bottomAt (applyBorders b) i c = b.bottom.iloc (b.start + i) c) := by
  have hf : b.srcTableHere = false → b.fnTableHere = true := fun h1 => by
    rcases hc with hc | hc; exact hc; simp [h1] at hc
  refine ⟨?_, ?_, ?_⟩
  · intro h1; rw [applyBorders_src b h.hne s hs h1]; exact ⟨rfl, rfl⟩
  · intro h1
    rw [applyBorders_fn b h.hne s hs (hf h1) h1]; exact ⟨rfl, rfl⟩
  · intro i c hi hcw
    rw [bottomAt_applyBorders h.botGood hi hcw]
    cases h1 : b.srcTableHere <;> simp [bottomSpec, hs, h1, hf]

/-- (6) all other data-cell edges carry exactly the user's border_top / border_bottom of the cell's
original row -/
theorem C07_other_edges (b : BorderIn) (h : WF b) :
    (∀ i c, 0 < i → i < b.height → c < b.width →
        topAt (applyBorders b) i c = b.top.iloc (b.start + i) c) ∧
    (∀ i c, i + 1 < b.height → c < b.width →
        bottomAt (applyBorders b) i c = b.bottom.iloc (b.start + i) c) := by
  refine ⟨?_, ?_⟩
  · intro i c h0 hi hc
    rw [topAt_applyBorders h.topGood hi hc, topSpec, if_neg (fun h' => Nat.ne_of_gt h0 h'.2),
      if_neg (fun h' => Nat.ne_of_gt h0 h'.2)]
  · intro i c hi hc
    have hne : i ≠ b.height - 1 := by omega
    rw [bottomAt_applyBorders h.botGood (by omega) hc, bottomSpec]
    split <;> simp [hne]

/-- (7) when no top rule applies (first page, no header row, empty page border_first) the first row keeps
the user's top border too -/
theorem C07_top_untouched (b : BorderIn) (h : WF b)
    (h1 : b.isFirst = true) (h2 : b.hasHeaders = false) (h3 : b.pageFirst = "") :
    ∀ c, c < b.width → topAt (applyBorders b) 0 c = b.top.iloc b.start c := by
  intro c hc
  rw [topAt_applyBorders h.topGood h.hpos hc]
  simp [topSpec, h1, h2, h3]

/-- non-vacuity: page 2 of 3, four rows, two columns, paragraph footnote shown -/
example :
    let o := applyBorders ⟨false, false, 4, 4, 2, [[""]], [[""]], [["single"]], [[""]], [["single"]],
      "double", "double", true, false, false⟩
    (topAt o 0 0, topAt o 1 1, bottomAt o 3 1, bottomAt o 2 0) =
      (some "single", some "", some "single", some "") := by decide

end Props.C07
