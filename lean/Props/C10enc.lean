import Model.Encode
import Model.Escape
import Model.Convert
import Model.ConvertSpec
import Proofs.EncodeLift
import Proofs.EncodeAttrs
import Proofs.EncodeColor
import Proofs.EncodeText
import Props.C10
import Props.C11
import Props.C02enc
import Props.C01enc
/-!
# C10 for the whole-encoder model: every character reaches the reader intact

`Props/C10.lean` proves the property about the escaper (`Model.Escape.escape`) and the reader
(`Model.Escape.decode`) for every Unicode text.  Here it is stated about the ENCODER model `Model.Encode.encode`
(byte-exact against `rtf_encode()`), in the vocabulary of `Proofs/EncodeLift.lean` (`plan`, `Renders`, traces).

1. **Where text goes.**  Every text-bearing position the encoder renders writes the text hole
   `textNodes (convText conv t)` — the user's text `t` of that position, converted under the position's `text_convert`
   flag `conv` and escaped — and nothing else of the user's text:
   data cells (`C10enc_data_cell_hole`), column header cells (`C10enc_header_cell_hole`), spanning group headings
   (`C10enc_heading_hole`), the subline_by heading (`C10enc_sublineHeading_hole`: the escaper alone), title and subline
   (`C10enc_title_hole`, `C10enc_subline_hole`), page header / footer (`C10enc_page_header_footer_hole`), footnote and
   source (`C10enc_footnote_hole`, `C10enc_source_hole`).  `FlagAt M r c conv` says where the flag is read.
2. **What the bytes are.**  `holeBytes` of such a hole is the escaper's output on the converted text
   (`C10enc_hole_bytes`): 7-bit, its own UTF-8 encoding.
3. **What the reader sees.**  `C10enc_hole_intact`: under `HoleReadable conv t` the reader (`decode`) shows exactly
   `displayText conv t` — the text itself with conversion off (`C10enc_roundtrip_off`) or without conversion-triggering
   characters (`C10enc_roundtrip_inert`); with conversion on, the characters of the one-pass reading `spec t`
   (`C10enc_roundtrip_converted`) — meets nothing malformed, closes every group, and every `\u` it meets has a signed
   16-bit argument, is governed by `\uc1` and followed by exactly one fallback character (`C10enc_u_escapes`).
4. **End to end** for data cells: `C10enc_data_cell_end_to_end`.
-/
namespace Props.C10enc
open Model.Rtf Model.Emit Model.Encode Model.Broadcast Model.Layout
open Proofs.EncodeLift Proofs.EncodeAttrs Proofs.EncodeColor Proofs.EncodeText

/-! ## 1. where text goes -/

/-- **data cells.**  Every `.data i` block of the trace is one table row with one cell per value of row `i` of the
final frame; the hole of cell `j` is the converted display text of value `j` (`""` for null), under the flag read from
the page's attributes at the cell's page-relative position. -/
theorem C10enc_data_cell_hole (k : ColorCtx) (d : Doc) (pl : Plan) (R : Trace) (hR : Renders k d pl R)
    (x : PageCtx × List (Block × List Elem)) (hx : x ∈ R) (y : Block × List Elem) (hy : y ∈ x.2)
    (i : Nat) (hb : y.1 = Block.data i) :
    ∃ cells fmt, pl.rows[i]? = some cells ∧ y.2 = [rowElem fmt] ∧ fmt.cells.length = cells.length ∧
      ∀ j c, cells[j]? = some c → ∃ cf conv, fmt.cells[j]? = some cf ∧
        FlagAt (pageAttrs d pl.bodyA pl.p x.1).attrs.convert (i - x.1.dataStart) j conv ∧
        cf.body = textNodes (convText conv (c.getD [])) := by
  obtain ⟨cells, e, hcells, hy2, he⟩ := hR.data_block hx hy hb
  obtain ⟨fmt, rfl, hlen, hcell⟩ := encodeRow_holes he
  exact ⟨cells, fmt, hcells, hy2, hlen, hcell⟩

/-- **column header cells.**  A `.colHeader i` block renders header object `i`: nothing when it has no text (and
`as_colheader` is off), otherwise one row with one cell per header text (its own `text`, or the displayed column names);
the hole of cell `j` is the converted header text `j`, under the flag at `(0, j)` of the header's `text_convert`. -/
theorem C10enc_header_cell_hole (k : ColorCtx) (d : Doc) (pl : Plan) (R : Trace) (hR : Renders k d pl R)
    (x : PageCtx × List (Block × List Elem)) (hx : x ∈ R) (y : Block × List Elem) (hy : y ∈ x.2)
    (i : Nat) (hb : y.1 = Block.colHeader i) (hdr : Header) (hh : (d.headers[i]?).join = some hdr) :
    (headerText d pl.p hdr = none ∧ y.2 = []) ∨
    ∃ text A fmt, headerText d pl.p hdr = some text ∧ hdr.attrs.mapM Attr.toNested = .ok A ∧
      y.2 = [rowElem fmt] ∧ fmt.cells.length = text.length ∧
      ∀ j t, text[j]? = some t → ∃ cf conv, fmt.cells[j]? = some cf ∧ FlagAt A.convert 0 j conv ∧
        cf.body = textNodes (convText conv t) := by
  have h := hR.block hx hy hb
  simp only [renderBlock, hh] at h
  rcases renderHeader_text h with h0 | ⟨text, ht, hin⟩
  · exact Or.inl h0
  · obtain ⟨A, fmt, hA, hes, hlen, hcell⟩ := headerInner_holes hin
    exact Or.inr ⟨text, A, fmt, ht, hA, hes, hlen, hcell⟩

/-- **spanning group headings.**  A `.heading lvl t` block is one row of one cell whose hole is the converted heading
text `t`; the flag is the body's `text_convert` at row 0 of the page_by column, and `False` — the default of
`encode_spanning_row` — when the body holds no `text_convert`. -/
theorem C10enc_heading_hole (k : ColorCtx) (d : Doc) (pl : Plan) (R : Trace) (hR : Renders k d pl R)
    (x : PageCtx × List (Block × List Elem)) (hx : x ∈ R) (y : Block × List Elem) (hy : y ∈ x.2)
    (lvl : Nat) (t : String) (hb : y.1 = Block.heading lvl t) :
    ∃ fmt cf conv, y.2 = [rowElem fmt] ∧ fmt.cells = [cf] ∧ cf.body = textNodes (convText conv t.toList) ∧
      ((pl.bodyA.convert = none ∧ conv = false) ∨
       (pl.bodyA.convert ≠ none ∧ FlagAt pl.bodyA.convert 0 (spanCol d lvl) conv)) := by
  obtain ⟨e, hy2, he⟩ := hR.heading_block hx hy hb
  obtain ⟨fmt, cf, conv, rfl, h2, h3, h4⟩ := spanningRow_hole he
  exact ⟨fmt, cf, conv, hy2, h2, h3, h4⟩

/-- **the subline_by heading**: a fixed paragraph around the hole `textNodes (convText false t)` — the escaper alone,
never the conversion (empty heading text: nothing) -/
theorem C10enc_sublineHeading_hole (k : ColorCtx) (d : Doc) (pl : Plan) (R : Trace) (hR : Renders k d pl R)
    (x : PageCtx × List (Block × List Elem)) (hx : x ∈ R) (y : Block × List Elem) (hy : y ∈ x.2)
    (t : String) (hb : y.1 = Block.sublineHeading t) :
    y.2 = (if t.isEmpty then [] else
      [[BlockG.plain [Node.grp [cw0 "pard", cw0 "hyphpar", cwi "fi" 0, cwi "li" 0, cwi "ri" 0, cw0 "ql", cwi "fs" 18,
        Node.grp (Node.cw "f".toList (some 0) true :: textNodes (convText false t.toList)), cw0 "par"]]]]) := by
  have h := hR.block hx hy hb
  simp only [renderBlock] at h
  split at h
  · next he => rw [if_pos he]; exact (Except.ok.inj h).symm
  · next he => rw [if_neg he, ← sublineHeading_hole]; exact (Except.ok.inj h).symm

/-- the lines of a text component (title, subline, page header, page footer): line `i` of the paragraph is the hole of
the component's `i`-th text line, under the flag at `(i, 0)` of the component's `text_convert` -/
def LinesOf (c : TextComp) (text : List Model.Encode.Str) (ls : List (TextFmt × List Node)) : Prop :=
  ∃ a, c.attrs.mapM Attr.toNested = .ok a ∧ c.text = some text ∧ text ≠ [] ∧ ls.length = text.length ∧
    ∀ i t, text[i]? = some t → ∃ tf conv, ls[i]? = some (tf, textNodes (convText conv t)) ∧ FlagAt a.convert i 0 conv

/-- what the encoder makes of a title, subline, page header or page footer (`P`: how the paragraph is wrapped), in terms
of `LinesOf` -/
theorem linesOf_cases {α : Type} {k : ColorCtx} {c : Option TextComp} {r : List α}
    {P : TextFmt → List (TextFmt × List Node) → Prop}
    (h : (r = [] ∧ hasText c = false) ∨
      ∃ c' text a ls last body, c = some c' ∧ c'.text = some text ∧ text ≠ [] ∧
        c'.attrs.mapM Attr.toNested = .ok a ∧ resolveLines k a text = .ok ls ∧ ls.getLast? = some (last, body) ∧
        P last ls) :
    (hasText c = false ∧ r = []) ∨
    ∃ c' text ls last body, c = some c' ∧ LinesOf c' text ls ∧ ls.getLast? = some (last, body) ∧ P last ls := by
  rcases h with ⟨hr, h0⟩ | ⟨c', text, a, ls, last, body, hc, ht, hne, ha, hl, hlast, hr⟩
  · exact Or.inl ⟨h0, hr⟩
  · obtain ⟨h1, h2⟩ := resolveLines_holes hl
    exact Or.inr ⟨c', text, ls, last, body, hc, ⟨a, ha, ht, hne, h1, h2⟩, hlast, hr⟩

/-- **title**: nothing of the title when it has no text; otherwise ONE paragraph of its lines (joined by `\line`),
followed by the separating newline -/
theorem C10enc_title_hole (k : ColorCtx) (d : Doc) (pl : Plan) (R : Trace) (hR : Renders k d pl R)
    (x : PageCtx × List (Block × List Elem)) (hx : x ∈ R) (y : Block × List Elem) (hy : y ∈ x.2)
    (hb : y.1 = Block.title) :
    (hasText d.title = false ∧ y.2 = [[BlockG.plain [Node.nl]]]) ∨
    ∃ c text ls last body, d.title = some c ∧ LinesOf c text ls ∧ ls.getLast? = some (last, body) ∧
      y.2 = [[BlockG.plain [linesParagraph last ls]], [BlockG.plain [Node.nl]]] := by
  have h := hR.block hx hy hb
  simp only [renderBlock] at h
  obtain ⟨es, he, h⟩ := Proofs.Encode.bind_ok h
  have hy2 := (Proofs.Encode.pure_ok h).symm
  rcases linesOf_cases (textElem_inv he) with ⟨h0, rfl⟩ | ⟨c, text, ls, last, body, hc, hl, hlast, rfl⟩
  · exact Or.inl ⟨h0, hy2⟩
  · exact Or.inr ⟨c, text, ls, last, body, hc, hl, hlast, hy2⟩

/-- **subline** (the document's subline component, not the subline_by heading) -/
theorem C10enc_subline_hole (k : ColorCtx) (d : Doc) (pl : Plan) (R : Trace) (hR : Renders k d pl R)
    (x : PageCtx × List (Block × List Elem)) (hx : x ∈ R) (y : Block × List Elem) (hy : y ∈ x.2)
    (hb : y.1 = Block.subline) :
    (hasText d.subline = false ∧ y.2 = []) ∨
    ∃ c text ls last body, d.subline = some c ∧ LinesOf c text ls ∧ ls.getLast? = some (last, body) ∧
      y.2 = [[BlockG.plain [linesParagraph last ls]]] := by
  have h := hR.block hx hy hb
  simp only [renderBlock] at h
  exact linesOf_cases (textElem_inv h)

/-- what `{\header …}` / `{\footer …}` of the head holds for a page header / footer component -/
def HFOf (word : String) (c : Option TextComp) (ns : List Node) : Prop :=
  (hasText c = false ∧ ns = []) ∨
  ∃ c' text ls last body, c = some c' ∧ LinesOf c' text ls ∧ ls.getLast? = some (last, body) ∧
    ns = [Node.grp [cw0 word, linesParagraph last ls]]

/-- **page header / footer**: the two groups in the head of the document hold one paragraph of the component's lines -/
theorem C10enc_page_header_footer_hole (measure : Measure) (d : Doc) (g : DocG) (h : encode measure d = .ok g) :
    ∃ fontTbl colorTbl hdr ftr ps,
      g.head = [cw0 "ansi", Node.nl, cwi "deff" 0, cwi "deflang" 1033, Node.nl] ++ textNodes fontTbl ++
        [Node.nl] ++ textNodes colorTbl ++ [Node.nl, Node.nl, Node.nl] ++ hdr ++ [Node.nl] ++ ftr ++
        [Node.nl] ++ ps ++ [Node.nl] ∧
      HFOf "header" d.pageHeader hdr ∧ HFOf "footer" d.pageFooter ftr := by
  obtain ⟨fontTbl, colorTbl, hdr, ftr, ps, _, _, hh, hf, _, hhead⟩ := encode_head h
  exact ⟨fontTbl.toList, colorTbl.toList, hdr, ftr, ps, hhead, linesOf_cases (pageHF_inv hh), linesOf_cases (pageHF_inv hf)⟩

/-- what is rendered for a footnote / source component: as paragraph, one paragraph holding its text (nothing for an
empty text); as table, one row of one cell; in both the hole is the converted text under the flag at `(0, 0)` -/
def FootOf (f : Foot) (es : List Elem) : Prop :=
  ∃ A, f.attrs.mapM Attr.toNested = .ok A ∧
    (f.asTable = false →
      (f.text.getD [] = [] ∧ es = []) ∨
      (f.text.getD [] ≠ [] ∧ ∃ tf conv, FlagAt A.convert 0 0 conv ∧
        es = [[BlockG.plain [paragraph tf (textNodes (convText conv (f.text.getD [])))]]])) ∧
    (f.asTable = true → ∃ fmt cf conv, es = [rowElem fmt] ∧ fmt.cells = [cf] ∧ FlagAt A.convert 0 0 conv ∧
      cf.body = textNodes (convText conv (f.text.getD [])))

/-- **footnote** -/
theorem C10enc_footnote_hole (k : ColorCtx) (d : Doc) (pl : Plan) (R : Trace) (hR : Renders k d pl R)
    (x : PageCtx × List (Block × List Elem)) (hx : x ∈ R) (y : Block × List Elem) (hy : y ∈ x.2)
    (b : Bool) (hb : y.1 = Block.footnote b) (f : Foot) (hf : d.footnote = some f) : FootOf f y.2 := by
  have h := hR.block hx hy hb
  simp only [renderBlock, hf] at h
  exact renderFoot_holes h

/-- **source** -/
theorem C10enc_source_hole (k : ColorCtx) (d : Doc) (pl : Plan) (R : Trace) (hR : Renders k d pl R)
    (x : PageCtx × List (Block × List Elem)) (hx : x ∈ R) (y : Block × List Elem) (hy : y ∈ x.2)
    (b : Bool) (hb : y.1 = Block.source b) (f : Foot) (hf : d.source = some f) : FootOf f y.2 := by
  have h := hR.block hx hy hb
  simp only [renderBlock, hf] at h
  exact renderFoot_holes h

/-- the remaining block kind carries no text of the user: a page break is fixed material -/
theorem C10enc_break_no_text (k : ColorCtx) (d : Doc) (pl : Plan) (R : Trace) (hR : Renders k d pl R)
    (x : PageCtx × List (Block × List Elem)) (hx : x ∈ R) (y : Block × List Elem) (hy : y ∈ x.2)
    (hb : y.1 = Block.brk) : ∃ ns, pageBreak d.page = .ok ns ∧ y.2 = [[BlockG.plain ns]] := by
  have h := hR.block hx hy hb
  simp only [renderBlock] at h
  obtain ⟨ns, hns, h⟩ := Proofs.Encode.bind_ok h
  exact ⟨ns, hns, (Proofs.Encode.pure_ok h).symm⟩

/-! ## 2. the bytes of a text hole -/

open Model.Escape Model.Convert

/-- The bytes printed for the hole of text `t` under flag `conv` are the escaper's output on the converted text (the
text itself when `conv` is off); they are 7-bit, hence their own UTF-8 encoding: what `write_rtf` puts on disk does not
depend on the reader's code page. -/
theorem C10enc_hole_bytes (conv : Bool) (t : List Char) :
    printNodes (textNodes (convText conv t)) = convText conv t ∧
    holeBytes (textNodes (convText conv t)) = escape (cps (convertCore conv t)) ∧
    (∀ b ∈ holeBytes (textNodes (convText conv t)), b < 128) ∧
    utf8 (holeBytes (textNodes (convText conv t))) = some (holeBytes (textNodes (convText conv t))) := by
  rw [holeBytes_eq]
  exact ⟨print_hole conv t, rfl, Proofs.Escape.escape_ascii _, Proofs.Escape.utf8_escape _⟩

/-! ## 3. what the reader sees -/

/-- the characters the reader is to show for text `t` under flag `conv`: the text itself, or — conversion on — the
characters of its one-pass reading (`Model.Convert.spec`): plain and mapped characters, `≥` / `≤` followed by the blank
rtflite leaves (D15); switches, line breaks and page fields show no character -/
def displayText (conv : Bool) (t : List Char) : List Nat :=
  if conv then (spec t).flatMap shown else cps t

/-- the number of formatting control words the reader is to meet -/
def displayWords (conv : Bool) (t : List Char) : Nat :=
  if conv then ((spec t).map evWords).sum else 0

/-- the texts the reader theorem covers.  Conversion off: no raw `\ { }`, CR, LF (every other Unicode scalar value is
allowed, C0/C1 controls included).  Conversion on: a `regular` text (C11) whose reading consists of such characters and
the five one-word switches `^ _ newline \pagenumber \totalpage` — no unknown command, no `\pagefield`. -/
def HoleReadable (conv : Bool) (t : List Char) : Prop :=
  if conv then regular t = true ∧ ∀ e ∈ spec t, simpleEv e = true else ∀ c ∈ t, readable c.toNat = true

/-- C10's domain (`Props.C10.Plain`: no control character, no raw `\ { }`) is inside `HoleReadable false` -/
theorem C10enc_plain_readable (t : List Char) (h : ∀ c ∈ t, Props.C10.Plain c) : HoleReadable false t := by
  intro c hc
  exact Proofs.Escape.inDomain_readable _ (h c hc)

theorem shown_plain (t : List Char) : (t.map Event.plain).flatMap shown = cps t := by
  induction t with
  | nil => rfl
  | cons c t ih =>
    rw [List.map_cons, List.flatMap_cons, ih]
    rfl

theorem words_plain (t : List Char) : ((t.map Event.plain).map evWords).sum = 0 := by
  induction t with
  | nil => rfl
  | cons c t ih =>
    rw [List.map_cons, List.map_cons, List.sum_cons, ih]
    rfl

/-- … and a text of such characters without `^ _ > < newline` is inside `HoleReadable true`, with itself as display
text: conversion leaves it alone -/
theorem C10enc_inert_readable (t : List Char) (h : ∀ c ∈ t, Props.C10.Plain c) (hi : t.all inertC = true) :
    HoleReadable true t ∧ displayText true t = cps t ∧ displayWords true t = 0 ∧ convertCore true t = t := by
  have hspec : spec t = t.map Event.plain := specGo_inert latexTable t hi
  have hreg : regular t = true := regularGo_inert t hi
  refine ⟨⟨hreg, ?_⟩, ?_, ?_, ?_⟩
  · intro e he
    rw [hspec] at he
    obtain ⟨c, hc, rfl⟩ := List.mem_map.mp he
    exact Proofs.Escape.inDomain_readable _ (h c hc)
  · simp only [displayText, if_true, hspec]
    exact shown_plain t
  · simp only [displayWords, if_true, hspec]
    exact words_plain t
  · rw [Props.C11.C11_conversion_upto_D15 t hreg, hspec, renderD15_plain]

/-- the display text of a covered text consists of readable characters -/
theorem display_readable (conv : Bool) (t : List Char) (h : HoleReadable conv t) :
    ∀ n ∈ displayText conv t, readable n = true := by
  cases conv with
  | false =>
    intro n hn
    obtain ⟨c, hc, rfl⟩ := List.mem_map.mp hn
    exact h c hc
  | true => exact shown_readable (spec t) h.2

/-- **the reader on a text hole.**  For every text in the covered class the reader shows exactly the display text,
meets nothing malformed, closes every group, counts one formatting word per switch, and the `\u` escapes it meets are
those of the display text. -/
theorem C10enc_hole_decoded (conv : Bool) (t : List Char) (h : HoleReadable conv t) :
    decode (holeBytes (textNodes (convText conv t))) =
      { text := displayText conv t, us := uTrace (displayText conv t), words := displayWords conv t, errs := [],
        depth := 0 } := by
  rw [holeBytes_eq]
  cases conv with
  | false => exact Proofs.Escape.decode_escape (cps t) (display_readable false t h)
  | true =>
    rw [Props.C11.C11_conversion_upto_D15 t h.1]
    exact decode_render (spec t) h.2

/-- the decidable oracle used on the implementation's output holds of the encoder model's holes -/
theorem C10enc_hole_intact (conv : Bool) (t : List Char) (h : HoleReadable conv t) :
    intact (displayText conv t) (decode (holeBytes (textNodes (convText conv t)))) = true := by
  rw [C10enc_hole_decoded conv t h]
  exact intact_of_readable _ _ (display_readable conv t h)

/-- conversion off: the reader shows the user's text, character for character -/
theorem C10enc_roundtrip_off (t : List Char) (h : ∀ c ∈ t, Props.C10.Plain c) :
    (utf8 (holeBytes (textNodes (convText false t)))).map decode =
      some { text := cps t, us := uTrace (cps t), words := 0, errs := [], depth := 0 } := by
  rw [(C10enc_hole_bytes false t).2.2.2, Option.map_some, C10enc_hole_decoded false t (C10enc_plain_readable t h)]
  rfl

/-- conversion on, no conversion-triggering character: the same -/
theorem C10enc_roundtrip_inert (t : List Char) (h : ∀ c ∈ t, Props.C10.Plain c) (hi : t.all inertC = true) :
    (utf8 (holeBytes (textNodes (convText true t)))).map decode =
      some { text := cps t, us := uTrace (cps t), words := 0, errs := [], depth := 0 } := by
  obtain ⟨h1, h2, h3, _⟩ := C10enc_inert_readable t h hi
  rw [(C10enc_hole_bytes true t).2.2.2, Option.map_some, C10enc_hole_decoded true t h1, h2, h3]

/-- conversion on: the reader shows the characters of the one-pass reading of the text — exactly the documented tokens
are translated (C11), every other character reaches the reader as it is -/
theorem C10enc_roundtrip_converted (t : List Char) (hreg : regular t = true)
    (hev : ∀ e ∈ spec t, simpleEv e = true) :
    (utf8 (holeBytes (textNodes (convText true t)))).map decode =
      some { text := (spec t).flatMap shown, us := uTrace ((spec t).flatMap shown),
             words := ((spec t).map evWords).sum, errs := [], depth := 0 } := by
  rw [(C10enc_hole_bytes true t).2.2.2, Option.map_some, C10enc_hole_decoded true t ⟨hreg, hev⟩]
  rfl

/-- every `\uN` the reader meets in a text hole has `N` in the signed 16-bit range, is governed by `\uc1`, and is
followed by exactly that one fallback character -/
theorem C10enc_u_escapes (conv : Bool) (t : List Char) (h : HoleReadable conv t) :
    ∀ e ∈ (decode (holeBytes (textNodes (convText conv t)))).us,
      -32768 ≤ e.arg ∧ e.arg ≤ 32767 ∧ e.uc = 1 ∧ e.skipped = e.uc := by
  rw [C10enc_hole_decoded conv t h]
  intro e he
  have := Proofs.Escape.uTrace_ok (displayText conv t) (fun n hn => Proofs.Escape.readable_lt n (display_readable conv t h n hn)) e he
  simp only [Model.Escape.uOk, Bool.and_eq_true, decide_eq_true_eq, beq_iff_eq] at this
  exact ⟨this.1.1.1, this.1.1.2, this.2, this.1.2⟩

/-! ## 4. end to end: a frame cell reaches the reader -/

/-- **End to end for data cells.**  For every accepted document (no group_by, unique column names), every frame row `i`
and every displayed column `j` (named `c`, original column `kk`): the trace has the `.data i` block, rendered as one
table row; the hole of its `j`-th cell is the converted display text of the frame's value `v` at `(i, kk)` under the
flag `conv` read at the cell's position; and whenever that text is in the covered class, the bytes printed for the cell's
content decode to its display text — intact, nothing malformed, all `\u` in range with one fallback. -/
theorem C10enc_data_cell_end_to_end (measure : Measure) (d : Doc) (g : DocG) (h : encode measure d = .ok g)
    (hgb : d.body.groupByL = []) (hnd : d.cols.Nodup) (i : Nat) (row : List (Option Model.Encode.Str))
    (hrow : d.rows[i]? = some row) (hlen : row.length = d.cols.length) :
    ∃ pl R x y fmt, plan measure d = .ok pl ∧ Renders (mkColorCtx d) d pl R ∧
      g.blocks = joinElems R.elems ++ [BlockG.plain [Node.nl, Node.nl, Node.nl, Node.nl]] ∧
      x ∈ R ∧ y ∈ x.2 ∧ y.1 = Block.data i ∧ y.2 = [rowElem fmt] ∧
      ∀ j c, pl.p.dispCols[j]? = some c → ∃ (kk : Nat) (v : Option Model.Encode.Str) (cf : CellFmt) (conv : Bool),
        d.cols[kk]? = some c ∧ row[kk]? = some v ∧ fmt.cells[j]? = some cf ∧
        FlagAt (pageAttrs d pl.bodyA pl.p x.1).attrs.convert (i - x.1.dataStart) j conv ∧
        cf.body = textNodes (convText conv (v.getD [])) ∧
        (HoleReadable conv (v.getD []) →
          decode (holeBytes cf.body) =
            { text := displayText conv (v.getD []), us := uTrace (displayText conv (v.getD [])),
              words := displayWords conv (v.getD []), errs := [], depth := 0 } ∧
          intact (displayText conv (v.getD [])) (decode (holeBytes cf.body)) = true) := by
  obtain ⟨pl, R, hp, hR, hg⟩ := encode_trace h
  have hi : i < d.rows.length := (List.getElem?_eq_some_iff.mp hrow).1
  have hmem : i ∈ R.flatMap (fun x => Props.C02.dataIdx (x.2.map Prod.fst)) := by
    rw [Props.C02enc.C02enc_trace_rows_once measure _ d pl R hp hR]
    exact List.mem_range.mpr hi
  obtain ⟨x, hx, hix⟩ := List.mem_flatMap.mp hmem
  simp only [Props.C02.dataIdx, List.mem_filterMap, List.mem_map] at hix
  obtain ⟨b, ⟨y, hy, rfl⟩, hbi⟩ := hix
  have hb : y.1 = Block.data i := by
    cases hy1 : y.1 <;> rw [hy1] at hbi <;> simp at hbi
    rw [hbi]
  obtain ⟨cells, fmt, hcells, hy2, hflen, hcell⟩ := C10enc_data_cell_hole _ d pl R hR x hx y hy i hb
  refine ⟨pl, R, x, y, fmt, hp, hR, hg, hx, hy, hb, hy2, ?_⟩
  intro j c hj
  obtain ⟨kk, v, hk, hv, hres⟩ := Props.C02enc.C02enc_row_cells measure d pl hp hgb hnd i row cells hrow hlen hcells j c hj
  cases hcj : cells[j]? with
  | none => rw [hcj] at hres; simp at hres
  | some cv =>
    rw [hcj] at hres
    simp only [Option.map_some, Option.some.injEq] at hres
    have hcv : cv.getD [] = v.getD [] := String.ofList_injective hres
    obtain ⟨cf, conv, h1, h2, h3⟩ := hcell j cv hcj
    rw [hcv] at h3
    refine ⟨kk, v, cf, conv, hk, hv, h1, h2, h3, ?_⟩
    intro hread
    rw [h3]
    exact ⟨C10enc_hole_decoded conv _ hread, C10enc_hole_intact conv _ hread⟩

/-! ## non-vacuity -/

set_option maxRecDepth 100000

/-- the hypotheses are satisfiable and the conclusions are not trivial: a text with a Latin-1 letter, Greek, a BMP
character above U+7FFF (negative `\u`) and an astral character is readable with conversion off and (no trigger
character) on; a text with `^`, `>=`, a LaTeX command and a non-ASCII letter is readable with conversion on and shows
`x²`-style switches as words, `≥ ` and `α` as characters -/
example :
    let t := ['c', 'a', 'f', 'é', ' ', 'α', '€', '�', '😀', '!']
    (∀ c ∈ t, Props.C10.Plain c) ∧ t.all inertC = true ∧
    displayText true "n>=3 m^2 \\alpha é".toList = [110, 8805, 32, 51, 32, 109, 50, 32, 945, 32, 233] ∧
    displayWords true "n>=3 m^2 \\alpha é".toList = 1 ∧
    regular "n>=3 m^2 \\alpha é".toList = true ∧
    (spec "n>=3 m^2 \\alpha é".toList).all simpleEv = true ∧
    (decode (holeBytes (textNodes (convText true "n>=3 m^2 \\alpha é".toList)))).text =
      [110, 8805, 32, 51, 32, 109, 50, 32, 945, 32, 233] := by
  decide +kernel

open Props.C01enc in
/-- the end-to-end theorem applies to the example document of `Props/C01enc.lean` (converted `>=`, `^`, non-ASCII `é`,
conversion on in the body): the encoder accepts it, it has no group_by and unique column names, and its cell texts are
in the covered class -/
example :
    (match encode exMeasure (exDoc [1, 2]) with | .ok _ => true | .error _ => false) = true ∧
    (exDoc [1, 2]).body.groupByL = [] ∧ (exDoc [1, 2]).cols.Nodup ∧
    (regular "n>=3 m^2".toList = true ∧ (spec "n>=3 m^2".toList).all simpleEv = true) ∧
    (regular "é".toList = true ∧ (spec "é".toList).all simpleEv = true) := by
  refine ⟨by decide +kernel, rfl, by decide, by decide +kernel, by decide +kernel⟩

end Props.C10enc
