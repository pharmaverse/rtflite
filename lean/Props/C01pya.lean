import Generated.PyTextAsRtf
import Generated.PyParagraphFormatting
import Generated.PyTextFormatting
import Props.C01pyp
import Props.C01pyt
/-!
# C01 — translator tie for the text emitter

`Generated.Py.TextAsRtf.run` is regenerated on every run from the source of `TextContent._as_rtf` (`row.py`); it calls
the translated `_get_paragraph_formatting` and `_get_text_formatting`; `_convert_special_chars` stays a parameter (its
result on this object).  Proved here, per `method`: "paragraph" prints `Model.Emit.paragraph t body`, "cell" prints the
model's `cellContent t body` followed by `\cell` (without the newline of the caller's join), "plain" prints
`plainRun t body`; "paragraph_format" / "cell_format" put the paragraph formatting around the raw text; any other method
raises `ValueError`; an exception of `_convert_special_chars` propagates whatever the method is.

`Props/C01pyar.lean` puts this emitter in the place of the parameter `text_as_rtf` of the translated `Row._as_rtf`.
-/
namespace Props.C01pya
open Model.Rtf Model.Emit Generated.Py Generated.Py.TextAsRtf Props.C01py Props.C01pyc

/-- the paragraph fields of a Python text against the model's text format (hypotheses of
`C01py_paragraph_formatting_translated`) -/
structure ParaRel (i2t : Rat → Int) (tjc : List Nat → Option (List Nat)) (hyph : Bool)
    (sb sa space fi li ri : Int) (just : List Nat) (t : TextFmt) : Prop where
  hyph : t.hyph = hyph
  sb : t.sb = sb
  sa : t.sa = sa
  sl : t.sl = if space ≠ 1 then some (space * 240) else none
  fi : t.fi = i2t ((fi : Rat) / 1440)
  li : t.li = i2t ((li : Rat) / 1440)
  ri : t.ri = i2t ((ri : Rat) / 1440)
  just : tjc just = some (codeText t.just)

/-- the run fields (hypotheses of `C01py_text_formatting_translated`) -/
structure RunRel (p2h : Rat → Int) (gci : List Nat → Except Exc Int) (fc : List Nat → Option (List Nat))
    (size : Rat) (font : Int) (color bg format : Option (List Nat)) (t : TextFmt) : Prop where
  half : t.halfPts = p2h size
  font : t.fontIdx = font - 1
  color : C01pyt.ColorRel gci color t.color
  bg : C01pyt.ColorRel gci bg t.bg
  fmt : C01pyt.FmtRel fc (C01pyt.fmtChars format) t.formats

section
variable (i2t : Rat → Int) (tjc : List Nat → Option (List Nat)) (tjk : List (List Nat)) (p2h : Rat → Int)
  (gci : List Nat → Except Exc Int) (fc : List Nat → Option (List Nat)) (fk : List (List Nat))
  (conv : Except Exc (List Nat)) (text : List Nat) (font : Int) (size : Rat) (format color bg : Option (List Nat))
  (just : List Nat) (fi li ri space sb sa : Int) (hyph : Bool)

theorem para_ok {t : TextFmt} (hp : ParaRel i2t tjc hyph sb sa space fi li ri just t) :
    ParagraphFormatting.run i2t tjc tjk hyph sb sa space fi li ri just = .ok (cps (printNodes (paraFormat t))) :=
  C01pyp.C01py_paragraph_formatting_translated i2t tjc tjk hyph sb sa space fi li ri just t
    hp.hyph hp.sb hp.sa hp.sl hp.fi hp.li hp.ri hp.just

theorem run_ok {t : TextFmt} (hr : RunRel p2h gci fc size font color bg format t) :
    TextFormatting.run p2h gci fc fk size font color bg format =
      .ok (cps (printNodes [cwi "fs" t.halfPts]) ++ 123 :: cps (printNodes (runWords t))) :=
  C01pyt.C01py_text_formatting_translated p2h gci fc fk size font color bg format t
    hr.half hr.font hr.color hr.bg hr.fmt

theorem cps_cons (c : Char) (l : List Char) : cps (c :: l) = c.toNat :: cps l := rfl

/-- the run with the caller's blank, text and closing brace, as code points -/
theorem plainRun_cps (t : TextFmt) (body : List Node) :
    cps (printNodes (plainRun t body)) =
      (cps (printNodes [cwi "fs" t.halfPts]) ++ 123 :: cps (printNodes (runWords t))) ++ [32] ++
        cps (printNodes body) ++ [125] := by
  simp [C01pyt.print_plainRun, cps]

/-! The method names and the fixed words as code points; the `if` chain of `run` compares the method with the names one
after the other, and `simp` decides each comparison of two literals at their first difference. -/

theorem method_paragraph : cps "paragraph".toList = [112, 97, 114, 97, 103, 114, 97, 112, 104] := by decide +kernel
theorem method_cell : cps "cell".toList = [99, 101, 108, 108] := by decide +kernel
theorem method_plain : cps "plain".toList = [112, 108, 97, 105, 110] := by decide +kernel
theorem method_paragraph_format : cps "paragraph_format".toList =
    [112, 97, 114, 97, 103, 114, 97, 112, 104, 95, 102, 111, 114, 109, 97, 116] := by decide +kernel
theorem method_cell_format : cps "cell_format".toList = [99, 101, 108, 108, 95, 102, 111, 114, 109, 97, 116] := by decide +kernel
theorem word_pard : cps "pard".toList = [112, 97, 114, 100] := by decide +kernel
theorem word_par : cps "par".toList = [112, 97, 114] := by decide +kernel

/-- **method "cell"**: `\pard` + paragraph format + run + `\cell` — the model's cell content -/
theorem C01py_text_cell (t : TextFmt) (body : List Node) (hc : conv = .ok (cps (printNodes body)))
    (hp : ParaRel i2t tjc hyph sb sa space fi li ri just t) (hr : RunRel p2h gci fc size font color bg format t) :
    run i2t tjc tjk p2h gci fc fk conv text font size format color bg just fi li ri space sb sa hyph
        (cps "cell".toList) =
      .ok (cps (printNodes ((cellContent t body).tail ++ [cw0 "cell"]))) := by
  simp only [TextAsRtf.run, hc, method_cell, para_ok i2t tjc tjk just fi li ri space sb sa hyph hp,
    run_ok p2h gci fc fk font size format color bg hr, bind, Except.bind, pure, Except.pure, List.cons.injEq,
    Nat.reduceEqDiff, false_and, and_self, decide_false, decide_true, if_false, if_true, Bool.false_eq_true]
  simp only [cellContent, List.tail_cons, cw0, Proofs.Emit.printNodes_append, cps_append, cps_printNodes_cons,
    cps_printNodes_nil, cps_cw, plainRun_cps, word_pard, method_cell, List.append_nil, List.append_assoc, List.cons_append,
    List.nil_append]

/-- **method "paragraph"**: the model's paragraph group -/
theorem C01py_text_paragraph (t : TextFmt) (body : List Node) (hc : conv = .ok (cps (printNodes body)))
    (hp : ParaRel i2t tjc hyph sb sa space fi li ri just t) (hr : RunRel p2h gci fc size font color bg format t) :
    run i2t tjc tjk p2h gci fc fk conv text font size format color bg just fi li ri space sb sa hyph
        (cps "paragraph".toList) =
      .ok (cps (printNode (paragraph t body))) := by
  simp only [TextAsRtf.run, hc, method_paragraph, para_ok i2t tjc tjk just fi li ri space sb sa hyph hp,
    run_ok p2h gci fc fk font size format color bg hr, bind, Except.bind, pure, Except.pure, decide_true, if_true]
  simp only [paragraph, printNode, cps_cons, cw0, Proofs.Emit.printNodes_append, cps_append, cps_printNodes_cons,
    cps_printNodes_nil, plainRun_cps, word_pard, word_par, List.append_nil, List.append_assoc, List.cons_append,
    List.nil_append]
  rfl

/-- **method "plain"**: the model's text run -/
theorem C01py_text_plain (t : TextFmt) (body : List Node) (hc : conv = .ok (cps (printNodes body)))
    (hr : RunRel p2h gci fc size font color bg format t) :
    run i2t tjc tjk p2h gci fc fk conv text font size format color bg just fi li ri space sb sa hyph
        (cps "plain".toList) =
      .ok (cps (printNodes (plainRun t body))) := by
  simp only [TextAsRtf.run, hc, method_plain, run_ok p2h gci fc fk font size format color bg hr, bind, Except.bind, pure,
    Except.pure, List.cons.injEq, Nat.reduceEqDiff, false_and, and_self, and_false, decide_false, decide_true,
    if_false, if_true, Bool.false_eq_true, plainRun_cps]

/-- **method "paragraph_format"**: the paragraph formatting around the RAW text (no run, no conversion of the text) -/
theorem C01py_text_paragraph_format (t : TextFmt) (raw : List Node) (x : List Nat) (hc : conv = .ok x)
    (hraw : text = cps (printNodes raw)) (hp : ParaRel i2t tjc hyph sb sa space fi li ri just t) :
    run i2t tjc tjk p2h gci fc fk conv text font size format color bg just fi li ri space sb sa hyph
        (cps "paragraph_format".toList) =
      .ok (cps (printNode (Node.grp (cw0 "pard" :: paraFormat t ++ raw ++ [cw0 "par"])))) := by
  simp only [TextAsRtf.run, hc, method_paragraph_format, hraw, para_ok i2t tjc tjk just fi li ri space sb sa hyph hp, bind,
    Except.bind, pure, Except.pure, List.cons.injEq, Nat.reduceEqDiff, reduceCtorEq, and_self, and_false,
    decide_false, decide_true, if_false, if_true, Bool.false_eq_true]
  simp only [printNode, cps_cons, cw0, Proofs.Emit.printNodes_append, cps_append, cps_printNodes_cons,
    cps_printNodes_nil, word_pard, word_par, List.append_nil, List.append_assoc, List.cons_append, List.nil_append]
  rfl

/-- **method "cell_format"** -/
theorem C01py_text_cell_format (t : TextFmt) (raw : List Node) (x : List Nat) (hc : conv = .ok x)
    (hraw : text = cps (printNodes raw)) (hp : ParaRel i2t tjc hyph sb sa space fi li ri just t) :
    run i2t tjc tjk p2h gci fc fk conv text font size format color bg just fi li ri space sb sa hyph
        (cps "cell_format".toList) =
      .ok (cps (printNodes (cw0 "pard" :: paraFormat t ++ raw ++ [cw0 "cell"]))) := by
  simp only [TextAsRtf.run, hc, method_cell_format, hraw, para_ok i2t tjc tjk just fi li ri space sb sa hyph hp, bind,
    Except.bind, pure, Except.pure, List.cons.injEq, Nat.reduceEqDiff, reduceCtorEq, and_self, and_false,
    decide_false, decide_true, if_false, if_true, Bool.false_eq_true]
  simp only [cw0, Proofs.Emit.printNodes_append, cps_append, cps_printNodes_cons, cps_printNodes_nil, cps_cw, word_pard,
    method_cell, List.append_nil, List.append_assoc, List.cons_append, List.nil_append]

/-- any other method: `ValueError` (after `_convert_special_chars` has returned) -/
theorem C01py_text_unknown_method (x : List Nat) (method : List Nat) (hc : conv = .ok x)
    (h1 : method ≠ cps "paragraph".toList) (h2 : method ≠ cps "cell".toList) (h3 : method ≠ cps "plain".toList)
    (h4 : method ≠ cps "paragraph_format".toList) (h5 : method ≠ cps "cell_format".toList) :
    run i2t tjc tjk p2h gci fc fk conv text font size format color bg just fi li ri space sb sa hyph method =
      .error .ValueError := by
  rw [method_paragraph] at h1
  rw [method_cell] at h2
  rw [method_plain] at h3
  rw [method_paragraph_format] at h4
  rw [method_cell_format] at h5
  simp only [TextAsRtf.run, hc, h1, h2, h3, h4, h5, bind, Except.bind, decide_false, if_false, Bool.false_eq_true]
  rfl

/-- `_convert_special_chars` is evaluated first: its exception leaves the function whatever the method is -/
theorem C01py_text_convert_error (e : Exc) (method : List Nat) (hc : conv = .error e) :
    run i2t tjc tjk p2h gci fc fk conv text font size format color bg just fi li ri space sb sa hyph method =
      .error e := by
  simp [TextAsRtf.run, hc, bind, Except.bind]

end

end Props.C01pya
