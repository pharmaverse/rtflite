import Model.Layout
import Proofs.Layout
/-!
# C06 — titles, headers, footnotes and sources appear on exactly the configured pages

About `renderPage d pg` / `layout d` of Model/Layout.lean.  "first"/"last" refer to `pg.number = 1`
and `pg.number = pg.total`; that page numbers are `1..P` with `total = P` is
Props.C02.C02_pages_structure.
-/
namespace Props.C06
open Model.Paginate Model.Layout Proofs.LayoutRoles

/-- position of a block kind in the required order
break, title, subline, subline heading, column headers, body (headings + data), footnote, source -/
def rank : Block → Nat
  | .brk => 0
  | .title => 1
  | .subline => 2
  | .sublineHeading _ => 3
  | .colHeader _ => 4
  | .heading _ _ => 5
  | .data _ => 5
  | .footnote _ => 6
  | .source _ => 7

theorem rank_eq_rk : rank = rk := by funext b; cases b <;> rfl

def isFirst (pg : PageCtx) : Bool := pg.number == 1
def isLast (pg : PageCtx) : Bool := pg.number == pg.total

/-- (1) order: on every page the blocks appear in the order title, subline, column headers, body,
footnote, source (after the page break) -/
theorem C06_order (d : LDoc) (pg : PageCtx) :
    ((renderPage d pg).map rank).Pairwise (· ≤ ·) := by
  rw [rank_eq_rk]
  exact (renderPage_sorted d pg).1

/-- (2) each of title / subline / footnote / source appears at most once, and exactly on the pages
its placement option selects -/
theorem C06_title (d : LDoc) (pg : PageCtx) :
    (renderPage d pg).count Block.title =
      if d.hasTitle && d.pageTitle.shows (isFirst pg) (isLast pg) then 1 else 0 := by
  rw [count_renderPage]
  show (segTitle d pg).count Block.title = _
  unfold segTitle isFirst isLast
  split <;> simp

theorem C06_subline (d : LDoc) (pg : PageCtx) :
    (renderPage d pg).count Block.subline =
      if d.hasSublineTxt && d.pageTitle.shows (isFirst pg) (isLast pg) then 1 else 0 := by
  rw [count_renderPage]
  show (segSubline d pg).count Block.subline = _
  unfold segSubline isFirst isLast
  split <;> simp

theorem C06_footnote (d : LDoc) (pg : PageCtx) :
    ((renderPage d pg).filter (fun b => match b with | .footnote _ => true | _ => false)) =
      if d.footnote != .absent && d.pageFootnote.shows (isFirst pg) (isLast pg)
      then [Block.footnote (d.footnote == .table)] else [] := by
  rw [filter_renderPage (m := 6) (fun b => by cases b <;> simp [rk])]
  show (segFootnote d pg).filter _ = _
  unfold segFootnote isFirst isLast
  split <;> simp

theorem C06_source (d : LDoc) (pg : PageCtx) :
    ((renderPage d pg).filter (fun b => match b with | .source _ => true | _ => false)) =
      if d.source != .absent && d.pageSource.shows (isFirst pg) (isLast pg)
      then [Block.source (d.source == .table)] else [] := by
  rw [filter_renderPage (m := 7) (fun b => by cases b <;> simp [rk])]
  show (segSource d pg).filter _ = _
  unfold segSource isFirst isLast
  split <;> simp

/-- (3) column headers: on the first page, and on later pages exactly when pageby_header is true;
one row per header object that has text or is auto-populated -/
theorem C06_col_headers (d : LDoc) (pg : PageCtx) :
    ((renderPage d pg).filterMap (fun b => match b with | .colHeader k => some k | _ => none)) =
      if d.pagebyHeader || isFirst pg then
        (d.headers.zipIdx.filterMap fun (x : Bool × Nat) => if x.1 || d.asColheader then some x.2 else none)
      else [] := by
  rw [filterMap_renderPage (m := 4) (fun b => by cases b <;> simp [rk])]
  show (segColHeaders d pg).filterMap _ = _
  unfold segColHeaders isFirst
  split
  · simp only [List.filterMap_filterMap]
    congr 1
    funext x
    cases h : (x.1 || d.asColheader) <;> simp
  · rfl

/-- (4) every page after the first begins with exactly one page break; the first page has none -/
theorem C06_break (d : LDoc) (pg : PageCtx) :
    (isFirst pg = true → Block.brk ∉ renderPage d pg) ∧
    (isFirst pg = false → ∃ rest, renderPage d pg = Block.brk :: rest ∧ Block.brk ∉ rest) := by
  have hc : (renderPage d pg).count Block.brk = (segBrk pg).count Block.brk := count_renderPage _ d pg
  unfold isFirst
  constructor
  · intro h
    rw [segBrk, if_pos h] at hc
    exact List.count_eq_zero.mp hc
  · intro h
    -- the page starts with the break, and the break is counted once
    obtain ⟨rest, hrest⟩ : ∃ rest, renderPage d pg = Block.brk :: rest := by
      rw [renderPage_eq, segBrk, if_neg (by rw [h]; decide)]
      exact ⟨_, rfl⟩
    rw [segBrk, if_neg (by rw [h]; decide), hrest, List.count_cons_self, List.count_singleton_self,
      Nat.add_eq_right] at hc
    exact ⟨rest, hrest, List.count_eq_zero.mp hc⟩

/-- (5) under an explicit description of the page list (independent of how `LDoc.pages` is computed) -/
theorem C06_single_page_of_struct (d : LDoc) (pt pf ps : Placement)
    (hstruct : ∀ pg ∈ d.pages, pg.number = 1 ∧ pg.total = 1) :
    layout { d with pageTitle := pt, pageFootnote := pf, pageSource := ps } = layout d := by
  unfold layout
  rw [pages_placement]
  apply List.map_congr_left
  intro pg hpg
  exact renderPage_placement_of_single d pt pf ps pg (hstruct pg hpg).1 (hstruct pg hpg).2

/-- (5) on a one-page document 'first', 'last' and 'all' are indistinguishable -/
theorem C06_single_page (d : LDoc) (pt pf ps : Placement) (h : d.pages.length = 1) :
    layout { d with pageTitle := pt, pageFootnote := pf, pageSource := ps } = layout d :=
  C06_single_page_of_struct d pt pf ps (Proofs.Layout.single_page_struct d h)

/-- (6) `shows` is what the option names mean -/
theorem C06_shows (f l : Bool) :
    Placement.all.shows f l = true ∧ Placement.first.shows f l = f ∧ Placement.last.shows f l = l :=
  ⟨rfl, rfl, rfl⟩

/-- non-vacuity: 3 pages, title first, footnote last, source all, headers repeated -/
example :
    (layout { nrow := 5, rows := (List.range 5).map (fun _ => ⟨1, [], [], 1, 1⟩), hasPageBy := false,
              hasSubline := false, newPage := false, pagebyColumn := true, pagebyHeader := true,
              headers := [true], asColheader := true, hasTitle := true, hasSublineTxt := false,
              footnote := .table, source := .para, pageTitle := .first, pageFootnote := .last,
              pageSource := .all })
      = [[.title, .colHeader 0, .data 0, .data 1, .source false],
         [.brk, .colHeader 0, .data 2, .data 3, .source false],
         [.brk, .colHeader 0, .data 4, .footnote true, .source false]] := by decide

end Props.C06
