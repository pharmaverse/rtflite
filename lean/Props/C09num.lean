import Model.Encode
import Proofs.Widths
/-!
# C09: the numbers the encoder model emits for numeric body attributes

`Props/C09enc.lean` (`C09enc_binding`) says WHICH attribute value every page cell is built from (the one at the
cell's original position); the emitted NUMBER is then `gaphOf` of the row height (`\trgaphN`), `pyInt (size * 2)` of
the font size (`\fsN`), the value itself for indents / spacing / border width.  Here: what these two conversions are
on every non-negative input — the row height is converted to the NEAREST twip (ties to even) and then HALVED WITH
TRUNCATION (an odd number of twips `2k + 1` gives `k`, in both residues mod 4: never `k + 1`); the font size is doubled
and truncated.  The harness (`props/c09.py: model_numbers`, driver op `emit_num`) compares these numbers with the ones
read off the real output for fine-grained heights (every parity / residue of the twip count, exact ties `m / 64`) and
sizes (half, quarter, tenth points).
-/
namespace Props.C09num
open Model.Encode

/-- `k ≤ n / 2` on exact rationals is `2 k ≤ n` -/
private theorem le_half_iff (n k : Int) : (k : Rat) ≤ (n : Rat) / 2 ↔ k * 2 ≤ n := by
  have h2 : (0 : Rat) < 2 := by decide
  rw [← Rat.not_lt, Rat.div_lt_iff h2, Rat.not_lt]
  rw [show ((k:Rat) * 2) = ((k * 2 : Int) : Rat) by simp [Rat.intCast_mul]]
  exact Rat.intCast_le_intCast

private theorem pyInt_half (n : Int) (h : 0 ≤ n) : pyInt ((n : Rat) / 2) = n / 2 := by
  have h0 : (0 : Rat) ≤ (n : Rat) / 2 := by
    have := (le_half_iff n 0).mpr (by omega)
    simpa using this
  simp only [pyInt, h0, if_true]
  apply Int.le_antisymm
  · have := (le_half_iff n ((n : Rat) / 2).floor).mp (Rat.le_floor_iff.mp (Int.le_refl _))
    omega
  · exact Rat.le_floor_iff.mpr ((le_half_iff n (n / 2)).mpr (by omega))

private theorem twip_nonneg {h : Rat} (hh : 0 ≤ h) : 0 ≤ twip h := by
  have := Proofs.Widths.twip_mono hh
  have z : Model.Widths.twip 0 = 0 := by decide +kernel
  rw [z] at this
  exact this

/-- the height in twips is the nearest integer to `1440 · h` -/
theorem C09num_twip_nearest (h : Rat) :
    (twip h : Rat) - h * 1440 ≤ 1 / 2 ∧ h * 1440 - (twip h : Rat) ≤ 1 / 2 :=
  Proofs.Widths.round_near _

/-- `\trgaphN`: `N` is the floor of half the height in twips -/
theorem C09num_row_height (h : Rat) (hh : 0 ≤ h) : gaphOf h = twip h / 2 :=
  pyInt_half (twip h) (twip_nonneg hh)

/-- halving truncates: an even number of twips `2k` and the odd number `2k + 1` both give `k` -/
theorem C09num_row_height_trunc (h : Rat) (hh : 0 ≤ h) :
    twip h = 2 * gaphOf h ∨ twip h = 2 * gaphOf h + 1 := by
  rw [C09num_row_height h hh]; omega

/-- an odd height `2k + 1` twips (whatever the parity of `k`, i.e. `≡ 1` and `≡ 3 mod 4` alike) is emitted as `k`,
never as `k + 1` -/
theorem C09num_row_height_odd (h : Rat) (hh : 0 ≤ h) (k : Int) (hk : twip h = 2 * k + 1) : gaphOf h = k := by
  rw [C09num_row_height h hh, hk]; omega

/-- `\fsN`: `N` is twice the size, truncated -/
theorem C09num_half_points (s : Rat) (hs : 0 ≤ s) :
    (pyInt (s * 2) : Rat) ≤ s * 2 ∧ s * 2 < (pyInt (s * 2) : Rat) + 1 := by
  have h0 : (0 : Rat) ≤ s * 2 := Rat.mul_nonneg hs (by decide)
  simp only [pyInt, h0, if_true]
  exact ⟨Rat.floor_le _, by simpa using Rat.lt_floor_add_one (s * 2)⟩

/-- the hypotheses are satisfiable by the inputs the class is about: 0.18 in = 259 twips (≡ 3 mod 4) → 129,
0.17 in = 245 twips (≡ 1 mod 4) → 122, the exact tie 11/64 in = 247.5 → 248 twips → 124; 9.75 pt → `\fs19` -/
example : gaphOf (18 / 100) = 129 ∧ gaphOf (17 / 100) = 122 ∧ twip (11 / 64) = 248 ∧ gaphOf (11 / 64) = 124 ∧
    pyInt ((39 / 4 : Rat) * 2) = 19 := by decide +kernel

end Props.C09num
