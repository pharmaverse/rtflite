import Model.Rtf
import Model.RtfDoc
import Proofs.Rtf
/-!
# C01 — every accepted document encodes to well-formed RTF   (grammar part)

`wellFormed` (Model/Rtf.lean) is the decidable form of C01's clauses on a document string: it lexes
(`lex = some _` — every control sequence is lexically valid), begins with `{\rtf1`, is exactly one top-level
group with balanced nested groups and nothing after its closing brace, every `\u` is a signed 16-bit value
followed by its `\uc` fallback characters, and every `\trowd…\row` declares as many `\cellx` as `\cell`
with positive non-decreasing boundaries.

`DocG` (Model/RtfDoc.lean) is the grammar of what rtflite prints: plain material and table rows printed from
ONE list of cells.  The theorems: the printer is inverted by the lexer, and every document of the grammar that
satisfies the decidable side condition `docOk` is well-formed — for every number of pages, rows, cells and
every text.  That each real output IS such a document is re-checked on every run (the harness parses the real
string into a `DocG`, the driver prints it back and evaluates `docOk`).
-/
namespace Props.C01
open Model.Rtf

/-- the lexer inverts the printer (compositional lexer inversion) -/
theorem C01_lex_print (ns : List Node) (h : nodesOk ns none = true) :
    lex (printNodes ns) = some (toksNodes ns) :=
  Proofs.Rtf.lex_print ns h

/-- one top-level group: balanced, depth returns to 0 exactly at the last token -/
theorem C01_balanced (ns : List Node) :
    depthOk 0 (toksNode (Node.grp ns)) = true :=
  Proofs.Rtf.balanced ns

/-- rows printed from one cell list have as many `\cellx` as `\cell`, boundaries positive and non-decreasing -/
theorem C01_rows (d : DocG) (h1 : plainNodes d.head = true) (h2 : d.blocks.all blockOk = true) :
    rowsOk false 0 0 0 (toksNode (Node.grp (docNodes d))) = true :=
  Proofs.Rtf.rows_doc d h1 h2

/-- every document of the grammar is well-formed RTF -/
theorem C01_grammar_wellformed (d : DocG) (h : docOk d = true) :
    wellFormed (printDoc d) = true := by
  simp only [docOk, Bool.and_eq_true] at h
  obtain ⟨⟨⟨h1, h2⟩, h3⟩, h4⟩ := h
  have hl := C01_lex_print [Node.grp (docNodes d)] h3
  simp only [printNodes, toksNodes, List.append_nil] at hl
  have hs : signatureOk (toksNode (Node.grp (docNodes d))) = true := by
    simp [toksNode, docNodes, toksNodes, signatureOk]
  simp only [wellFormed, printDoc, hl, tokensOk, hs, C01_balanced, h4, C01_rows d h1 h2, Bool.and_self]

/-- the same with the linear-time side condition the driver evaluates (`docOkFast d = docOk d`) -/
theorem C01_grammar_wellformed_fast (d : DocG) (h : docOkFast d = true) :
    wellFormed (printDoc d) = true :=
  C01_grammar_wellformed d (by rw [← Proofs.Rtf.docOkFast_eq]; exact h)

/-- the decimal printer used for parameters is inverted by the lexer's digit reader -/
theorem C01_digits (n : Nat) : digitsValRev (natDigits n).reverse = n ∧ (natDigits n) ≠ [] ∧
    (natDigits n).all isDigit = true :=
  Proofs.Rtf.natDigits_spec n

/-- non-vacuity: a two-cell row inside a document -/
example :
    let cell (x : Int) (t : String) : CellG :=
      { defn := [cw0 "clbrdrl", cw0 "brdrs", Node.cw "brdrw".toList (some 15) false], cellx := x,
        content := [Node.nl, cw0 "pard", Node.cw "fs".toList (some 18) false,
                    Node.grp [Node.cw "f".toList (some 0) true, Node.txt t.toList]] }
    let d : DocG := { head := [cw0 "ansi", Node.nl],
                      blocks := [BlockG.row [Node.cw "trgaph".toList (some 108) false] [cell 4500 "a b", cell 9000 "c"]
                                   [Node.nl, cw0 "intbl"], BlockG.plain [cw0 "pard", Node.nl]] }
    docOk d = true ∧ wellFormed (printDoc d) = true := by decide +kernel

end Props.C01
