import Generated.PyIloc
import Model.Broadcast
/-!
# C09 — translator tie for the binding rule of cell attributes

`Generated.Py.Iloc.run` is regenerated on every run from the source of `BroadcastValue.iloc` (harness/pytranslate.py),
in the exception monad: `%` by `len(...)` raises `ZeroDivisionError` on an empty matrix / empty first row (NOT caught by
the function's `except IndexError`), `value[i]` raises `IndexError`, which the handler turns into `ValueError`.

This file proves that it is, for every matrix and every pair of int indices, `Model.Broadcast.Mat.iloc` — the lookup all
C09 theorems are about: the same element whenever the model finds one, an exception exactly when the model answers
`none` (and which one).
-/
namespace Props.C09py
open Model.Broadcast Generated.Py Generated.Py.Iloc

variable {α : Type}

/-- `a % n` for a positive length: no exception, the mathematical remainder -/
theorem pyMod_pos (a : Int) (n : Nat) (h : 0 < n) : pyMod a (Int.ofNat n) = .ok (a % (n : Int)) := by
  have hn : (Int.ofNat n) ≠ 0 := by simp; omega
  simp only [pyMod, hn, if_false]
  rw [Int.fmod_eq_emod_of_nonneg]
  · rfl
  · simp

/-- `xs[i]` for a non-negative index -/
theorem pyIndex_nonneg (xs : List α) (i : Int) (h : 0 ≤ i) :
    pyIndex xs i = match xs[i.toNat]? with
      | some x => .ok x
      | none => .error .IndexError := by
  have h1 : ¬ i < 0 := by omega
  simp only [pyIndex, h1, if_false]
  rfl

/-- the value is `None`: `None` -/
theorem C09py_iloc_none (r c : Int) : run (none : Option (List (List α))) r c = .ok none := rfl

/-- **the translated `iloc` is the model's lookup**, for every matrix and all int indices (negative ones included:
`r % len` is the floor remainder, the model's natural-number index is its value) -/
theorem C09py_iloc_translated (m : Mat α) (r c : Int) :
    run (some m) r c =
      match m.iloc (r % (m.length : Int)).toNat (c % (m.ncols : Int)).toNat with
      | some x => .ok (some x)
      | none => .error (if m.length = 0 ∨ m.ncols = 0 then .ZeroDivisionError else .ValueError) := by
  cases m with
  | nil => simp [run, pyMod, Mat.iloc, bind, Except.bind]
  | cons row0 rest =>
    have hlen : 0 < (row0 :: rest).length := by simp
    have e3 : pyIndex (row0 :: rest) 0 = .ok row0 := by simp [pyIndex]
    have hnc : Mat.ncols (row0 :: rest) = row0.length := by simp [Mat.ncols]
    generalize row0 :: rest = L at hlen e3 hnc ⊢
    have hL0 : L.length ≠ 0 := by omega
    have hi0 := Int.emod_nonneg r (b := (L.length : Int)) (by omega)
    have hi1 := Int.emod_lt_of_pos r (b := (L.length : Int)) (by omega)
    generalize hi : r % (L.length : Int) = i at hi0 hi1
    have hk : i.toNat < L.length := by omega
    have hmod : i.toNat % L.length = i.toNat := Nat.mod_eq_of_lt hk
    have hrow : L[i.toNat]? = some L[i.toNat] := List.getElem?_eq_getElem hk
    generalize L[i.toNat] = row at hrow
    have e1 : pyMod r (Int.ofNat L.length) = .ok i := by rw [pyMod_pos _ _ hlen, hi]
    have e2 : pyIndex L i = .ok row := by rw [pyIndex_nonneg _ _ hi0, hrow]
    rw [hnc]
    by_cases hz : row0.length = 0
    · have e4 : pyMod c (Int.ofNat row0.length) = .error .ZeroDivisionError := by simp [pyMod, hz]
      simp only [run, e1, e2, e3, e4, bind, Except.bind]
      simp [Mat.iloc, hL0, hmod, hrow, hnc, hz]
    · have hpos : 0 < row0.length := by omega
      have hj0 := Int.emod_nonneg c (b := (row0.length : Int)) (by omega)
      have hj1 := Int.emod_lt_of_pos c (b := (row0.length : Int)) (by omega)
      generalize hj : c % (row0.length : Int) = j at hj0 hj1
      have hjm : j.toNat % row0.length = j.toNat := Nat.mod_eq_of_lt (by omega)
      have e4 : pyMod c (Int.ofNat row0.length) = .ok j := by rw [pyMod_pos _ _ hpos, hj]
      have e5 := pyIndex_nonneg row j hj0
      cases hx : row[j.toNat]? with
      | none =>
        rw [hx] at e5
        simp only [run, e1, e2, e3, e4, e5, bind, Except.bind]
        simp [Mat.iloc, hL0, hmod, hjm, hrow, hnc, hz, hx, throw, throwThe, MonadExceptOf.throw]
      | some x =>
        rw [hx] at e5
        simp only [run, e1, e2, e3, e4, e5, bind, Except.bind]
        simp [Mat.iloc, hL0, hmod, hjm, hrow, hnc, hz, hx, pure, Except.pure]

/-- natural-number indices (what the encoder passes) -/
theorem C09py_iloc_nat (m : Mat α) (r c : Nat) :
    (run (some m) (Int.ofNat r) (Int.ofNat c)).toOption = (m.iloc r c).map some := by
  rw [C09py_iloc_translated]
  have : ∀ (a b : Nat), ((Int.ofNat a) % (b : Int)).toNat = a % b := by
    intro a b; simp only [Int.ofNat_eq_natCast]; omega
  have h2 : m.iloc (r % m.length) (c % m.ncols) = m.iloc r c := by
    simp [Mat.iloc]
  rw [this, this, h2]
  cases m.iloc r c <;> simp [Except.toOption]

example : run (some [[1, 2, 3], [4, 5, 6]]) 3 (-1) = .ok (some 6) := by rfl
example : run (some [[1, 2, 3], [4]]) 1 2 = .error Exc.ValueError := by rfl
example : run (some ([] : List (List Nat))) 0 0 = .error Exc.ZeroDivisionError := by rfl

end Props.C09py
