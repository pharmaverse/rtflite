import Model.StrWidth
import Proofs.StrWidthVal
/-!
# C20 — "Unsupported fonts or units raise ValueError", for every *value class*

`Props/C20.lean` proves the clause for the typed model (`FontArg` = an int or a string, `unit : String`).  Nothing in
`get_string_width` enforces its annotations, so the refused value can be `None`, a float, bytes, a tuple, a numpy
scalar, …; building the refusal must not depend on the value being a string.  Here the clause is stated over
`Model.StrWidth.Val` (every Python value class a caller can pass) for the value-level model `getStringWidthV`:

* `fontClass` / `unitClass` (specification level, independent of the model): `supported` (a documented value in its
  documented type), `unsupported` (equals no documented value), `lenient` (another type whose value equals a
  documented one — `True`, `4.0`, `numpy.int64(4)`, `numpy.str_("Arial")` — accepted or refused, nothing else),
  `free` (unhashable: the dictionary lookup raised `TypeError` before any change; outside the judged set);
* `expected` = what the statement demands of a call whose text / size / dpi lie in its quantifier;
* `C20_val_expected`: the model meets the demand on **every** call; the stronger forms
  `C20_val_unsupported_font` (whatever the other four arguments are) and `C20_val_unsupported_unit` (whatever the
  dpi is) say that the refusal does not depend on arguments that are looked at later;
* `C20_val_refines`: on typed arguments the value-level model is the typed model, so every theorem of
  `Props/C20.lean` speaks about it.

The harness (`harness/props/c20.py`, value stream) evaluates `expected` through the driver on every generated call
and compares it with what the real function did; the model outcome is compared as correspondence.
-/
namespace Props.C20val
open Model.StrWidth Proofs.StrWidthVal Generated

/-- the documented names and numbers are the generated tables of the code under test -/
theorem C20_val_spec_tables :
    fontPaths.map (·.1) = specFontNames ∧
    fontNumberToName = (List.range 10).map (fun k => (k + 1, specFontNames.getD k "")) :=
  spec_tables

/-- an unsupported font — of whatever type — is a `ValueError`, whatever the other four arguments are -/
theorem C20_val_unsupported_font (measure : String → Rat → List Char → Rat) (font : Val)
    (h : fontClass font = .unsupported) (text size unit dpi : Val) :
    getStringWidthV measure text font size unit dpi = .raises .valueError :=
  gswV_font_error measure (fontPathV_unsupported h) text size unit dpi

/-- an unsupported unit — of whatever type — is a `ValueError` whenever the call gets as far as the unit (font
accepted, size and text in the domain), whatever the dpi value is -/
theorem C20_val_unsupported_unit (measure : String → Rat → List Char → Rat) (text font size unit : Val)
    (hu : unitClass unit = .unsupported) (hf : font.hashable = true)
    (ht : textInDomain text = true) (hs : sizeInDomain size = true) (dpi : Val) :
    getStringWidthV measure text font size unit dpi = .raises .valueError := by
  obtain ⟨q, t, hw⟩ := gswV_domain measure font unit dpi ht hs
  rcases fontPathV_hashable hf with ⟨p, hp⟩ | hp
  · rw [hw p hp, convertV_unsupported hu]
  · exact gswV_font_error measure hp text size unit dpi

/-- a supported font and unit give a width on the statement's domain -/
theorem C20_val_supported (measure : String → Rat → List Char → Rat) (text font size unit dpi : Val)
    (hf : fontClass font = .supported) (hu : unitClass unit = .supported)
    (ht : textInDomain text = true) (hs : sizeInDomain size = true) (hd : dpiInDomain dpi = true) :
    ∃ w, getStringWidthV measure text font size unit dpi = .ok w := by
  obtain ⟨q, t, hw⟩ := gswV_domain measure font unit dpi ht hs
  obtain ⟨p, hp⟩ := fontPathV_supported hf
  rw [hw p hp]
  exact convertV_supported (.inl hu) hd _

/-- hashable font and unit on the statement's domain: a width or a `ValueError`, never anything else -/
theorem C20_val_decided (measure : String → Rat → List Char → Rat) (text font size unit dpi : Val)
    (hf : font.hashable = true) (hu : unit.hashable = true)
    (ht : textInDomain text = true) (hs : sizeInDomain size = true) (hd : dpiInDomain dpi = true) :
    (∃ w, getStringWidthV measure text font size unit dpi = .ok w) ∨
    getStringWidthV measure text font size unit dpi = .raises .valueError := by
  obtain ⟨q, t, hw⟩ := gswV_domain measure font unit dpi ht hs
  rcases fontPathV_hashable hf with ⟨p, hp⟩ | hp
  · rw [hw p hp]
    exact convertV_hashable hu hd _
  · exact .inr (gswV_font_error measure hp text size unit dpi)

/-- **the clause over every value class**: on every call the value-level model meets what the statement demands —
`ValueError` for an unsupported font or unit of any type, a width for supported ones, one of the two for lenient
values; calls outside the statement's quantifier (`Expect.free`) demand nothing -/
theorem C20_val_expected (measure : String → Rat → List Char → Rat) (text font size unit dpi : Val) :
    meets (expected text font size unit dpi) (getStringWidthV measure text font size unit dpi) = true := by
  unfold expected
  split
  · rename_i hdom
    simp only [Bool.and_eq_true] at hdom
    obtain ⟨⟨ht, hs⟩, hd⟩ := hdom
    have hhf : fontClass font ≠ .free → font.hashable = true := by
      intro hne
      cases hv : font.hashable
      · exact absurd (by simp [fontClass, hv]) hne
      · rfl
    have hhu : unitClass unit ≠ .free → unit.hashable = true := by
      intro hne
      cases hv : unit.hashable
      · exact absurd (by simp [unitClass, hv]) hne
      · rfl
    have A := fun h => C20_val_unsupported_font measure font h text size unit dpi
    have B := fun hu hf => C20_val_unsupported_unit measure text font size unit hu hf ht hs dpi
    have C := fun hf hu => C20_val_supported measure text font size unit dpi hf hu ht hs hd
    have D := fun hf hu => C20_val_decided measure text font size unit dpi hf hu ht hs hd
    generalize getStringWidthV measure text font size unit dpi = O at A B C D
    cases hf : fontClass font with
    | free => cases unitClass unit <;> rfl
    | unsupported => rw [A hf]; cases unitClass unit <;> rfl
    | supported =>
      have hh := hhf (by rw [hf]; decide)
      cases hu : unitClass unit with
      | free => rfl
      | unsupported =>
        rw [B hu hh]
        rfl
      | supported =>
        obtain ⟨w, hw⟩ := C hf hu
        rw [hw]
        rfl
      | lenient => rcases D hh (hhu (by rw [hu]; decide)) with ⟨w, hw⟩ | hw <;> rw [hw] <;> rfl
    | lenient =>
      have hh := hhf (by rw [hf]; decide)
      cases hu : unitClass unit with
      | free => rfl
      | unsupported =>
        rw [B hu hh]
        rfl
      | supported => rcases D hh (hhu (by rw [hu]; decide)) with ⟨w, hw⟩ | hw <;> rw [hw] <;> rfl
      | lenient => rcases D hh (hhu (by rw [hu]; decide)) with ⟨w, hw⟩ | hw <;> rw [hw] <;> rfl
  · rfl

/-- the baseline of the `free` class: an unhashable font (list, dict, set, ndarray, a tuple containing one) fails
in the dictionary lookup with `TypeError` — before anything else is looked at; likewise an unhashable unit once the
call gets that far.  These classes are kept out of the judged set (and listed in the evidence). -/
theorem C20_val_unhashable_font (measure : String → Rat → List Char → Rat) (font : Val)
    (h : font.hashable = false) (text size unit dpi : Val) :
    getStringWidthV measure text font size unit dpi = .raises .typeError :=
  gswV_font_error measure (fontPathV_free h) text size unit dpi

theorem C20_val_unhashable_unit (measure : String → Rat → List Char → Rat) (text font size unit : Val)
    (hu : unit.hashable = false) (hf : fontClass font = .supported)
    (ht : textInDomain text = true) (hs : sizeInDomain size = true) (dpi : Val) :
    getStringWidthV measure text font size unit dpi = .raises .typeError := by
  obtain ⟨q, t, hw⟩ := gswV_domain measure font unit dpi ht hs
  obtain ⟨p, hp⟩ := fontPathV_supported hf
  rw [hw p hp, convertV_free hu]

/-- on typed arguments of the statement's domain the value-level model **is** the typed model of `Props/C20.lean`
(font an int or a `str`, unit a `str`, size and dpi Python numbers) -/
theorem C20_val_refines (measure : String → Rat → List Char → Rat) (s : String) (font : FontArg) (unit : String)
    (size dpi : Rat) (hs : 4 ≤ size ∧ size ≤ 48) (hd : 36 ≤ dpi ∧ dpi ≤ 600) :
    getStringWidthV measure (.str s) (match font with | .num n => .int n | .name nm => .str nm) (.float size)
        (.str unit) (.float dpi) =
      Stage.ofExcept (getStringWidth measure s.toList font size unit dpi) := by
  have hsd : sizeInDomain (.float size) = true := by simp [sizeInDomain, numIn, hs.1, hs.2]
  have hdd : dpiInDomain (.float dpi) = true := by simp [dpiInDomain, numIn, hd.1, hd.2]
  obtain ⟨q, _, hqn, hq, hqpos⟩ := sizeStage_domain hsd
  obtain ⟨d, _, hdn, hdq, hdpos⟩ := dpiStage_domain hdd
  simp only [Val.num?, Option.some.injEq, Prod.mk.injEq] at hqn hdn
  obtain ⟨rfl, _⟩ := hqn
  obtain ⟨rfl, _⟩ := hdn
  have hnot : ¬ size ≤ 0 := Rat.not_le.mpr hqpos
  have hpath : fontPathV (match font with | .num n => .int n | .name nm => .str nm) = fontPath font := by
    rw [fontPathV_eq]
    cases font <;> rfl
  unfold getStringWidthV getStringWidth
  rw [hpath]
  cases fontPath font with
  | error e => rfl
  | ok p =>
    simp only [hq, textStage, Stage.bind, bind, Except.bind, hnot, if_false]
    unfold convertV convert
    simp only [Val.hashable, Val.str?, if_true]
    by_cases h1 : unit = "px"
    · simp [h1, Stage.ofExcept]
    · by_cases h2 : unit = "in"
      · have hne : dpi ≠ 0 := by grind
        subst h2
        simp [hdq, Stage.bind, Stage.ofExcept, hne]
      · by_cases h3 : unit = "mm"
        · have hne : dpi ≠ 0 := by grind
          subst h3
          simp [hdq, Stage.bind, Stage.ofExcept, hne]
        · simp [h1, h2, h3, Stage.ofExcept]

/-! ## the classes are inhabited and the demands are not vacuous -/

/-- every class of the refusal clause on concrete values: a value of another type (`None`, a float, an int as unit)
is `unsupported`, hence a `ValueError`; equal-valued other types are lenient; unhashables are free -/
example :
    fontClass .null = .unsupported ∧ fontClass (.float (3 / 2)) = .unsupported ∧ fontClass (.float 4) = .lenient ∧
    fontClass (.bool true) = .lenient ∧ fontClass (.bool false) = .unsupported ∧ fontClass (.npInt 3) = .lenient ∧
    fontClass (.int 11) = .unsupported ∧ fontClass (.int 4) = .supported ∧ fontClass (.str "Arial") = .supported ∧
    fontClass (.str "arial") = .unsupported ∧ fontClass .bytes = .unsupported ∧ fontClass (.tuple true) = .unsupported ∧
    fontClass (.tuple false) = .free ∧ fontClass .list = .free ∧ fontClass .nan = .unsupported ∧
    unitClass .null = .unsupported ∧ unitClass (.int 72) = .unsupported ∧ unitClass (.float (127 / 5)) = .unsupported ∧
    unitClass (.str "mm") = .supported ∧ unitClass (.npStr "mm") = .lenient ∧ unitClass (.str "MM") = .unsupported ∧
    unitClass .list = .free := by
  decide +kernel

example :
    expected (.str "Placebo") .null (.int 12) (.str "in") (.float 72) = .valueError ∧
    expected (.str "Placebo") (.int 9) (.float (19 / 2)) .null (.int 300) = .valueError ∧
    expected (.str "Placebo") (.str "Courier New") (.npFloat 12) (.int 1) (.npInt 72) = .valueError ∧
    expected (.str "Placebo") (.int 9) (.int 12) (.str "px") (.float 72) = .width ∧
    expected (.str "Placebo") (.float 4) (.int 12) (.str "px") (.float 72) = .either ∧
    expected (.str "Placebo") .list (.int 12) (.str "px") (.float 72) = .free ∧
    expected .null .null (.int 12) (.str "px") (.float 72) = .free := by
  decide +kernel

/-- a measure-independent evaluation: `None` as font or unit, a float font, an int unit — `ValueError` each -/
example (measure : String → Rat → List Char → Rat) :
    getStringWidthV measure (.str "x") .null (.int 12) (.str "in") (.float 72) = .raises .valueError ∧
    getStringWidthV measure (.str "x") (.float (3 / 2)) (.int 12) (.str "in") (.float 72) = .raises .valueError ∧
    getStringWidthV measure (.str "x") (.int 4) (.int 12) .null (.float 72) = .raises .valueError ∧
    getStringWidthV measure (.str "x") (.str "Arial") (.int 12) (.int 72) .null = .raises .valueError := by
  refine ⟨C20_val_unsupported_font measure _ (by decide +kernel) _ _ _ _,
    C20_val_unsupported_font measure _ (by decide +kernel) _ _ _ _,
    C20_val_unsupported_unit measure _ _ _ _ (by decide +kernel) rfl rfl (by decide +kernel) _,
    C20_val_unsupported_unit measure _ _ _ _ (by decide +kernel) rfl rfl (by decide +kernel) _⟩

/-- the unchanged code refuses the lenient values `4.0` and `numpy.int64(4)` (not `int` instances, so they are looked
up as names) and accepts `True` as font 1 — both allowed -/
example (measure : String → Rat → List Char → Rat) :
    getStringWidthV measure (.str "x") (.float 4) (.int 12) (.str "px") (.float 72) = .raises .valueError ∧
    getStringWidthV measure (.str "x") (.npInt 4) (.int 12) (.str "px") (.float 72) = .raises .valueError ∧
    getStringWidthV measure (.str "x") (.bool true) (.int 12) (.str "px") (.float 72) =
      getStringWidthV measure (.str "x") (.int 1) (.int 12) (.str "px") (.float 72) := by
  refine ⟨?_, ?_, ?_⟩ <;> simp [getStringWidthV, fontPathV, fontKeyV, Val.pyInt?, strKeyLookup, Val.hashable, Val.str?]

end Props.C20val
