import Model.Widths
import Model.Encode
import Model.EncodeAccepted
import Proofs.Widths
import Props.C01total
/-!
# C01, first clause: explicit header rows written without regard to the columns the table displays

`shapesInQuantifier` asks of every header row that "its width vector covers its cells" — stated on the vector the
renderer USES (`headerCells`: the header's `col_rel_width` after `_displayed_col_rel_width`, the slice that drops the
entries of the columns page_by / subline_by take out of the table).  This file shows that the clause can be read on
the vector the user WROTE (or the header inherited from the body at construction): the slice is taken only when the
row has exactly one cell per DISPLAYED column, so it never leaves a row with fewer width entries than cells.

Hence every explicit header row with 1 … `len(col_rel_width)` cells is inside C01's quantifier under every
column-removal mode — a spanning cell, fewer cells than displayed columns, one cell per displayed column, one cell per
ORIGINAL column (the row still names the page_by / subline_by columns), anything in between — and the totality theorem
`C01_encode_total` applies to it: the encoder must return a document.  (A row with MORE cells than width entries is
outside the quantifier: `C01total_outside_short_widths`.)
-/
namespace Props.C01totalhdr
open Model.Rtf Model.Encode Model.EncodeDomain Model.EncodeAccepted
open Model.Widths (headerDisplayed nDisplayed anyRemoved slice)

/-- the removal slice is taken only for a row with one cell per displayed column; every other row keeps the vector
it was constructed with — whatever its length and whichever columns are removed -/
theorem C01_header_widths_kept (hw : List Rat) (keep : List Bool) (n : Nat) (h : n ≠ nDisplayed keep) :
    headerDisplayed hw keep n = hw := by
  unfold headerDisplayed
  simp [h]

/-- where the slice is taken the result has exactly one entry per cell -/
theorem C01_header_widths_sliced (hw : List Rat) (keep : List Bool) (n : Nat)
    (h : headerDisplayed hw keep n ≠ hw) : (headerDisplayed hw keep n).length = n := by
  unfold headerDisplayed at h ⊢
  by_cases hc : (anyRemoved keep && decide (hw.length = keep.length) && decide (n = nDisplayed keep)) = true
  · simp only [hc, if_true]
    simp only [Bool.and_eq_true, decide_eq_true_eq] at hc
    rw [Proofs.Widths.slice_length hw keep hc.1.2, hc.2]
  · simp [hc] at h

/-- **the widths a header row was constructed with cover its cells ⇒ the widths the renderer uses cover them**:
`_displayed_col_rel_width` never produces a vector shorter than the row -/
theorem C01_header_widths_cover (hw : List Rat) (keep : List Bool) (n : Nat) (h : n ≤ hw.length) :
    n ≤ (headerDisplayed hw keep n).length := by
  by_cases hk : headerDisplayed hw keep n = hw
  · rw [hk]; exact h
  · rw [C01_header_widths_sliced hw keep n hk]; exact Nat.le_refl n

/-- the header clause of `shapesInQuantifier` read on the constructed state: an explicit header row with at least one
cell, attribute shapes of the quantifier and a width vector (own, or inherited from the body) with at least as many
entries as the row has cells satisfies `headerShape` — for every set of removed columns -/
theorem C01_headerShape_of_constructed (d : Doc) (removed : List Nat) (h : Header) (t : List Str) (w : List Rat)
    (ht : h.text = some t) (hw : h.colRelWidth = some w) (hpos : 0 < t.length) (hcov : t.length ≤ w.length)
    (hattrs : TblAttrsOf.zipAll shpAttr tblSpec h.attrs = true) :
    headerShape d removed (some h) = true := by
  have hc := C01_header_widths_cover w (keepMask d.cols.length removed) t.length hcov
  have hcells : headerCells d removed h =
      some (t.length, match some (headerDisplayed w (keepMask d.cols.length removed) t.length) with
        | some (x :: xs) => x :: xs
        | _ => List.replicate t.length 1) := by
    unfold headerCells
    rw [ht, hw]
    rfl
  unfold headerShape
  simp only [hattrs, Bool.true_and, hcells]
  cases hv : headerDisplayed w (keepMask d.cols.length removed) t.length with
  | nil =>
    rw [hv] at hc
    have : t.length = 0 := by simpa using hc
    omega
  | cons x xs =>
    rw [hv] at hc
    simp only [Bool.and_eq_true, decide_eq_true_eq]
    exact ⟨hpos, hc⟩

/-! ## non-vacuity: `exDoc` of `Props/C01total.lean` (page_by column `g` shown as spanning rows, so the table displays
`a`, `b`) under header rows that ignore the removal -/

open Props.C01total

/-- one cell per ORIGINAL column (the row still names the page_by column), widths per original column -/
def exHdrOriginal : Doc :=
  { exDoc with headers := [some { text := some ["G".toList, "A".toList, "B".toList], colRelWidth := some [1, 2, 1],
                                  attrs := exTbl }] }

/-- a spanning row over a row with one cell per original column; both inherit the body's three widths -/
def exHdrSpanOriginal : Doc :=
  { exDoc with headers := [some { text := some ["All".toList], colRelWidth := some [1, 2, 1], attrs := exTbl },
                           some { text := some ["G".toList, "A".toList, "B".toList], colRelWidth := some [1, 2, 1],
                                  attrs := exTbl }] }

/-- one cell MORE than the frame has columns, with a width vector of its own that covers them -/
def exHdrOver : Doc :=
  { exDoc with headers := [some { text := some ["G".toList, "A".toList, "B".toList, "C".toList],
                                  colRelWidth := some [1, 2, 1, 1], attrs := exTbl }] }

set_option maxRecDepth 100000

/-- they are accepted, inside the quantifier, measurable and in the text domain … -/
theorem C01total_header_rows_in_quantifier :
    (accepted exHdrOriginal && shapesInQuantifier exHdrOriginal && measureOk exMeasure exHdrOriginal) = true ∧
    (accepted exHdrSpanOriginal && shapesInQuantifier exHdrSpanOriginal && measureOk exMeasure exHdrSpanOriginal) = true ∧
    (accepted exHdrOver && shapesInQuantifier exHdrOver && measureOk exMeasure exHdrOver) = true := by
  decide +kernel

/-- … so the encoder model returns a document for each (totality applied; no evaluation of the encoder) -/
theorem C01total_header_original_columns_encodes :
    (∃ g, encode exMeasure exHdrOriginal = .ok g) ∧ (∃ g, encode exMeasure exHdrSpanOriginal = .ok g) ∧
    (∃ g, encode exMeasure exHdrOver = .ok g) := by
  have enc : ∀ d, (accepted d && shapesInQuantifier d && measureOk exMeasure d) = true →
      groupKeysContiguous d = true → ∃ g, encode exMeasure d = .ok g := by
    intro d h hc
    simp only [Bool.and_eq_true] at h
    exact C01_encode_total_contiguous exMeasure d h.1.1 h.1.2 h.2 ((C01_groupKeysContiguous_decidable d).mp hc)
  obtain ⟨h1, h2, h3⟩ := C01total_header_rows_in_quantifier
  exact ⟨enc _ h1 (by decide +kernel), enc _ h2 (by decide +kernel), enc _ h3 (by decide +kernel)⟩

/-- the rows keep one boundary per cell: three cells on the row that names every original column although the table
below it has two columns (the vector is NOT cut to the displayed columns) -/
theorem C01total_header_original_columns_cells :
    headerCells exHdrOriginal [0] (exHdrOriginal.headers.head!.get!) = some (3, [1, 2, 1]) := by
  decide +kernel

end Props.C01totalhdr
