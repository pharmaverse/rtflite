import Generated.PyAssignPages
import Model.Paginate
/-!
# C04 — translator tie for the page-assignment loop

`Generated.Py.AssignPages.run` is regenerated on every run from the source of
`PageBreakCalculator._assign_pages` (harness/pytranslate.py; the record `Row` from the fields of `RowMetadata`).
This file proves that it computes, for every input, exactly what the hand-written model
`Model.Paginate.assignPages` computes — the function all C03/C04 theorems are about.  So those theorems are
theorems about the loop as it reads now; a change of the loop that is not an equivalent rewrite breaks
`C04py_assign_pages_translated`.
-/
-- the `simp` sets below serve several cases at once, or every way the regenerated function may be cut into steps: a
-- lemma that one of them does not call for is not a defect
set_option linter.unusedSimpArgs false
namespace Props.C04py
open Model.Paginate Generated.Py.AssignPages

/-- what the model reads of one `RowMetadata` (only the three fields `_assign_pages` may depend on) -/
def ofPy (r : Row) : RowMeta :=
  { total := r.total_rows.toNat, grp := r.is_group_start, sub := r.is_subline_start }

/-- one iteration of the translated loop against one unfolding of the model's recursion -/
theorem loop1_step (nrow addl : Int) (np : Bool) (rows : List Row) (s : St) (r : Row) (hr : 0 ≤ r.total_rows)
    (k avail page cur : Nat)
    (ha : s.v0 = Int.ofNat avail) (hp : s.v1 = Int.ofNat page)
    (hc : s.v2 = Int.ofNat cur) :
    let brk := breaksBefore avail np cur (decide (k > 0)) (ofPy r)
    let page' := if brk then page + 1 else page
    let cur' := if brk then 0 else cur
    let s' := loop1 nrow addl np rows s (r, k)
    s'.v0 = Int.ofNat avail ∧ s'.v1 = Int.ofNat page' ∧
      s'.v2 = Int.ofNat (cur' + (ofPy r).total) ∧ s'.out_page = s.out_page ++ [Int.ofNat page'] := by
  have ht : r.total_rows = Int.ofNat r.total_rows.toNat := by simp; omega
  generalize r.total_rows.toNat = t at ht
  have e1 : decide ((avail : Int) < (cur : Int) + (t : Int)) = decide (avail < cur + t) := by
    simp only [decide_eq_decide]; omega
  have e2 : decide ((0 : Int) < (cur : Int)) = decide (0 < cur) := by simp only [decide_eq_decide]; omega
  have e3 : decide ((0 : Int) < (k : Int)) = decide (0 < k) := by simp only [decide_eq_decide]; omega
  -- the two guards that set the flag are the two disjuncts of `forceBreak`
  generalize hsub : (r.is_subline_start && decide (0 < k)) = a
  generalize hgrp : (np && r.is_group_start && decide (0 < k)) = b
  -- sixteen cases: each flag, whether the row fits, whether the page holds something; in each both sides evaluate
  cases a <;> cases b <;>
    by_cases h1 : avail < cur + t <;>
    by_cases h2 : 0 < cur <;>
    simp [loop1, ofPy, breaksBefore, forceBreak, ha, hp, hc, ht, hsub, hgrp, e1, e2, e3, h1, h2] <;>
    omega

theorem loop_all (nrow addl : Int) (np : Bool) (rows : List Row) (avail : Nat) :
    ∀ (rs : List Row) (k page cur : Nat) (s : St), (∀ r ∈ rs, 0 ≤ r.total_rows) →
      s.v0 = Int.ofNat avail → s.v1 = Int.ofNat page → s.v2 = Int.ofNat cur →
      ((rs.zipIdx k).foldl (loop1 nrow addl np rows) s).out_page =
        s.out_page ++ (assignAux avail np page cur (decide (k > 0)) (rs.map ofPy)).map Int.ofNat := by
  intro rs
  induction rs with
  | nil => intro k page cur s _ _ _ _; simp [assignAux]
  | cons r rs ih =>
    intro k page cur s hr ha hp hc
    have h := loop1_step nrow addl np rows s r (hr r (by simp)) k avail page cur ha hp hc
    simp only [List.map_cons, List.zipIdx_cons, List.foldl_cons, assignAux]
    obtain ⟨h1, h2, h3, h4⟩ := h
    rw [ih (k + 1) _ _ _ (fun x hx => hr x (by simp [hx])) h1 h2 h3, h4]
    simp

/-- **the translated `_assign_pages` is the model**, for every nrow, reservation, flag and list of row metadata
(row heights are counts: non-negative) -/
theorem C04py_assign_pages_translated (nrow addl : Nat) (np : Bool) (rows : List Row)
    (h : ∀ r ∈ rows, 0 ≤ r.total_rows) :
    run (Int.ofNat nrow) (Int.ofNat addl) np rows = (assignPages nrow addl np (rows.map ofPy)).map Int.ofNat := by
  unfold run assignPages
  by_cases he : rows = []
  · subst he; simp [assignAux]
  · have hl : ¬ (Int.ofNat rows.length = 0) := by
      cases rows with
      | nil => exact absurd rfl he
      | cons a as => simp; omega
    simp only [hl, decide_false, Bool.false_eq_true, ↓reduceIte]
    have := loop_all (Int.ofNat nrow) (Int.ofNat addl) np rows (availRows nrow addl) rows 0 1 0
      { ({} : St) with v0 := max 1 (Int.ofNat nrow - Int.ofNat addl), v1 := 1, v2 := 0 }
      h (by simp [availRows]; omega) (by simp) (by simp)
    simpa using this

/-- every row list of the model is reached: the tie is not vacuous -/
theorem C04py_onto (rs : List RowMeta) : ∃ rows : List Row, (∀ r ∈ rows, 0 ≤ r.total_rows) ∧ rows.map ofPy = rs := by
  refine ⟨rs.map fun r => { (default : Row) with total_rows := Int.ofNat r.total, is_group_start := r.grp,
                                                  is_subline_start := r.sub }, ?_, ?_⟩
  · intro r hr; simp only [List.mem_map] at hr; obtain ⟨a, _, rfl⟩ := hr; simp
  · simp only [List.map_map]
    conv => rhs; rw [← List.map_id rs]
    apply List.map_congr_left
    intro a _; simp [ofPy]

end Props.C04py
