import Model.Escape
import Proofs.Escape
/-!
# C10 — every Unicode character reaches the reader intact

Writer model: `Model.Escape.escape` (= the per-character loop `TextContent._escape_non_ascii` that ends
`TextContent._convert_special_chars`, i.e. the whole function when `convert=False`), `utf8`
(= `Path.write_text(encoding="utf-8")`), `sublineHeader` (= `PageRenderer._generate_subline_header`).
Reader (the specification): `Model.Escape.decode` — 7-bit bytes are themselves, bytes ≥ 0x80 and `\'hh`
are cp1252, `\uN` is a signed 16-bit UTF-16 code unit followed by `\uc` fallback items, surrogate
pairs combine, CR/LF are ignored.  A Python `str` is modelled by its code points; a `Char` is
exactly a Unicode scalar value, `cps` is injective (`C10_cps_injective`), so the statements below
are about every Unicode text.

Clauses of the statement and where they are:
* "every character … is read back as the same character"     → `C10_char_roundtrip`, `C10_roundtrip`
* "Unicode escapes stay within RTF's signed 16-bit \u range
   and are followed by exactly the declared number of
   fallback characters"                                        → `C10_u_escapes`
* "the file … contains only bytes that an RTF reader decodes
   back" (file bytes = UTF-8 of the text, under `\ansi`)       → `C10_seven_bit`, `C10_bytes_on_disk`
* the group heading (`subline_by`) position                    → `C10_subline_heading`
The remaining text-bearing positions all call `_convert_special_chars`; that they do is observed on
real documents by `harness/props/c10.py` (file bytes of `write_rtf`, every position).
-/
namespace Props.C10
open Model.Escape Proofs.Escape

/-- the code points of a text -/
def cps (t : List Char) : List Nat := t.map Char.toNat

/-- the property's domain: no C0/C1 control, not a raw `\`, `{`, `}` -/
def Plain (c : Char) : Prop := inDomain c.toNat = true

instance (c : Char) : Decidable (Plain c) := by unfold Plain; infer_instance

/-- texts are determined by their code points -/
theorem C10_cps_injective (s t : List Char) (h : cps s = cps t) : s = t :=
  (List.map_inj_right fun _ _ => Char.toNat_inj.mp).mp h

/-- the bytes on disk are the escaper's output itself: it is 7-bit for *every* input (so the file
does not depend on the reader's code page), and 7-bit text is its own UTF-8 encoding -/
theorem C10_seven_bit (t : List Char) : ∀ b ∈ escape (cps t), b < 128 :=
  escape_ascii _

theorem C10_bytes_on_disk (t : List Char) : utf8 (escape (cps t)) = some (escape (cps t)) :=
  utf8_escape _

/-- core lemma, one character: `decode (utf8 (escape [c])) = [c]` for every scalar value in the domain -/
theorem C10_char_roundtrip (c : Char) (h : Plain c) :
    (utf8 (escape [c.toNat])).map (fun bytes => (decode bytes).text) = some [c.toNat] := by
  have hr : ∀ n ∈ [c.toNat], readable n = true :=
    List.forall_mem_singleton.mpr (inDomain_readable _ h)
  rw [utf8_escape, Option.map_some, decode_escape _ hr]

/-- all texts: what the reader makes of the bytes written for `t` is `t`, nothing malformed, no
formatting words, all groups closed; the `\u` escapes it meets are exactly `uTrace t` -/
theorem C10_roundtrip (t : List Char) (h : ∀ c ∈ t, Plain c) :
    (utf8 (escape (cps t))).map decode =
      some { text := cps t, us := uTrace (cps t), words := 0, errs := [], depth := 0 } := by
  have hr : ∀ n ∈ cps t, readable n = true :=
    List.forall_mem_map.mpr fun c hc => inDomain_readable _ (h c hc)
  rw [utf8_escape, Option.map_some, decode_escape _ hr]

/-- every `\uN` the reader meets has `N` in the signed 16-bit range, is governed by `\uc1`, and is
followed by exactly that one fallback item (which the reader skips) -/
theorem C10_u_escapes (t : List Char) (h : ∀ c ∈ t, Plain c) :
    ∀ e ∈ (decode (escape (cps t))).us,
      -32768 ≤ e.arg ∧ e.arg ≤ 32767 ∧ e.uc = 1 ∧ e.skipped = e.uc := by
  have hr : ∀ n ∈ cps t, readable n = true :=
    List.forall_mem_map.mpr fun c hc => inDomain_readable _ (h c hc)
  rw [decode_escape _ hr]
  intro e he
  have := uTrace_ok (cps t) (fun n hn => readable_lt n (hr n hn)) e he
  simp only [uOk, Bool.and_eq_true, decide_eq_true_eq, beq_iff_eq] at this
  exact ⟨this.1.1.1, this.1.1.2, this.2, this.1.2⟩

/-- the decidable oracle used on the implementation's output holds of the model's output -/
theorem C10_intact (t : List Char) (h : ∀ c ∈ t, Plain c) :
    intact (cps t) (decode (escape (cps t))) = true :=
  intact_escape _ (List.forall_mem_map.mpr fun c hc => inDomain_readable _ (h c hc))

/-- stronger than the statement asks: the only characters that do not survive are RTF's own syntax
`\ { }` and the two characters readers ignore (CR, LF); tabs, DEL and C1 controls do survive -/
theorem C10_roundtrip_all_but_syntax (t : List Char)
    (h : ∀ c ∈ t, c ≠ '\\' ∧ c ≠ '{' ∧ c ≠ '}' ∧ c ≠ '\n' ∧ c ≠ '\r') :
    (decode (escape (cps t))).text = cps t := by
  have hr : ∀ n ∈ cps t, readable n = true :=
    List.forall_mem_map.mpr fun c hc => char_readable c (h c hc)
  rw [decode_escape _ hr]

/-- the `subline_by` heading paragraph (`{\pard\hyphpar\fi0\li0\ri0\ql\fs18{\f0 …}\par}`) reads back
as the group values joined by ", " (`None` values dropped), with balanced groups and no error -/
theorem C10_subline_heading (vals : List (Option (List Char)))
    (h : ∀ s, some s ∈ vals → ∀ c ∈ s, Plain c)
    (hne : formatGroupHeader (vals.map (Option.map cps)) ≠ []) :
    let vs := vals.map (Option.map cps)
    (utf8 (sublineHeader vs)).map decode =
      some { text := formatGroupHeader vs, us := uTrace (formatGroupHeader vs), words := 9, errs := [],
             depth := 0 } := by
  intro vs
  have hr : ∀ s, some s ∈ vs → ∀ n ∈ s, readable n = true := by
    intro s hs
    obtain ⟨_ | w, hv, hvs⟩ := List.mem_map.mp hs
    · cases hvs
    · cases hvs
      exact List.forall_mem_map.mpr fun c hc => inDomain_readable _ (h w hv c hc)
  have hb : utf8 (sublineHeader vs) = some (sublineHeader vs) := by
    apply utf8_ascii
    intro b hb
    unfold sublineHeader at hb
    simp only [vs, hne, if_false] at hb
    simp only [List.mem_append] at hb
    rcases hb with (hb | hb) | hb
    · revert b; decide
    · exact escape_ascii _ b hb
    · revert b; decide
  rw [hb, Option.map_some, decode_sublineHeader vs hr hne]

/-! Non-vacuity: Latin-1 letter, Greek, a BMP character above U+7FFF (negative `\u`), an astral
character (surrogate pair), ASCII around them — all in the domain, and the oracle accepts. -/
example :
    let t := ['c', 'a', 'f', 'é', ' ', 'α', '€', '�', '😀', '!']
    (∀ c ∈ t, Plain c) ∧ intact (cps t) (decode (escape (cps t))) = true ∧
    (decode (escape (cps t))).us.length = 6 := by
  decide +kernel

/-- the reader is not trivial: the bytes the *unrepaired* escaper wrote for `é` (raw UTF-8 C3 A9) and
for U+1F600 (`\uc1\u62976*`) are not read back intact -/
example : intact [233] (decode [0xC3, 0xA9]) = false ∧
    intact [0x1F600] (decode [92, 117, 99, 49, 92, 117, 54, 50, 57, 55, 54, 42]) = false := by
  decide +kernel

end Props.C10
