import Model.Interleave
import Proofs.Interleave
/-!
# C15 — concurrent encodes do not interfere

"When several documents are encoded at the same time on different threads, each call returns
exactly the string it returns when run alone, for every interleaving of the calls."

Model: `Model.Interleave` — `n` threads, each a program over the shared-state events of one
`rtf_encode()` (`register`/`getStrategy` on the class-level strategy registry, `setCtx`/`lookup`/
`clearCtx` on the colour context, `emit` for purely local work; `fetch` = get-or-compute on the colour cell, for
the memo programs below), small-step interleaving semantics `run mode schedule`.  `CtxMode.Local` is the current code (colour context in a
`ContextVar`, one cell per thread), `CtxMode.Global` the code before commit 981b773 (one cell per
process).  The strategy registry is shared in both modes.

All statements are for an arbitrary number of threads, arbitrary programs and an arbitrary
schedule (any length, any number of preemptions, fair or not; scheduling a finished or
non-existent thread is a stutter step).  Because the schedule is arbitrary they hold at every
prefix of every execution.  Hypotheses on the programs (both are facts about what
`UnifiedRTFEncoder.__init__`/`encode` execute, checked on the logged events of every real run):
every `register` writes the class that belongs to its name (`canonicalB`), and the thread under
observation reads only registry keys it has registered itself (`freeGets p = []`).

After the property and its negation for the process-global cell (`C15_global_witness`), the same two modes read as
other kinds of shared state — a memo reset at the start of each use (`C15_global_sequential_reset`,
`C15_shared_default_memo_interferes`), a memo kept on an input object several documents were given
(`C15_object_memo_sequential`, `C15_shared_object_memo_interferes`, `C15_private_object_memo_exact`), a `set … restore` window on a process-wide flag
(`C15_flag_window_sequential`, `C15_flag_window_interferes`, `C15_private_flag_exact`): each exact under sequential use (`C15_global_sequential`), broken by one preemption, exact
under every schedule when the state is per thread.

Limits (not expressible in this model): preemption *inside* one shared access (bytecode level),
free-threaded CPython, races inside C extensions (polars, Pillow).
-/
namespace Props.C15
open Model.Interleave Proofs.Interleave

/-- **Frame lemma.** A step of thread `j` does not change the local state of thread `i ≠ j`
(either mode; in `Global` mode the damage is done through the shared cell, not here). -/
theorem C15_frame (m : CtxMode) (i j : Nat) (σ : State) (h : i ≠ j) :
    (step m j σ).threads[i]? = σ.threads[i]? :=
  step_frame m i j σ h

/-- **Exact non-interference (current code).**  After any schedule, thread `i` of the pool is in
exactly the local state (rest of program, own colour cell, outputs) it reaches alone after as
many steps as the schedule gave it — whatever the other threads are and did, whatever the
registry contained at the start of either run. -/
theorem C15_local_exact (canon : Name → Cls) (r₀ r₀' : Registry) (progs : List (List Ev))
    (sched : List Nat) (i : Nat) (p : List Ev)
    (hp : progs[i]? = some p)
    (hcan : ∀ q ∈ progs, canonicalB canon q = true) (hfree : freeGets p = []) :
    (run .Local sched (init r₀ progs)).threads[i]? =
      (soloState .Local r₀' p (sched.count i)).threads[0]? := by
  obtain ⟨⟨t, h1, h2, _⟩, _⟩ :=
    sim_run canon i sched _ _ (sim_init canon r₀ r₀' progs i p hp hcan hfree)
  unfold soloState
  rw [h1, h2]
  rfl

/-- **Safety at every point of every execution (current code).**  What thread `i` has produced
so far is an initial part of what it produces alone. -/
theorem C15_local_prefix (canon : Name → Cls) (r₀ r₀' : Registry) (progs : List (List Ev))
    (sched : List Nat) (i : Nat) (p : List Ev)
    (hp : progs[i]? = some p)
    (hcan : ∀ q ∈ progs, canonicalB canon q = true) (hfree : freeGets p = []) :
    outOf (run .Local sched (init r₀ progs)) i <+: solo .Local r₀' p := by
  have h := C15_local_exact canon r₀ r₀' progs sched i p hp hcan hfree
  have : outOf (run .Local sched (init r₀ progs)) i =
      outOf (soloState .Local r₀' p (sched.count i)) 0 := by
    simp only [outOf, h]
  rw [this]
  exact soloState_out_prefix .Local r₀' p _

/-- **The property (current code).**  Once the schedule has let thread `i` finish (it was
scheduled at least as often as its program is long — no fairness towards the others needed),
its output equals its output when run alone. -/
theorem C15_local_complete (canon : Name → Cls) (r₀ r₀' : Registry) (progs : List (List Ev))
    (sched : List Nat) (i : Nat) (p : List Ev)
    (hp : progs[i]? = some p)
    (hcan : ∀ q ∈ progs, canonicalB canon q = true) (hfree : freeGets p = [])
    (hdone : p.length ≤ sched.count i) :
    outOf (run .Local sched (init r₀ progs)) i = solo .Local r₀' p := by
  have h := C15_local_exact canon r₀ r₀' progs sched i p hp hcan hfree
  rw [soloState_saturates .Local r₀' p _ hdone] at h
  simp only [outOf, solo, h]

/-- The same two facts through the decidable predicate the driver evaluates on logged real
runs (`notInterfered`). -/
theorem C15_local_spec (canon : Name → Cls) (r₀ r₀' : Registry) (progs : List (List Ev))
    (sched : List Nat) (i : Nat) (p : List Ev)
    (hp : progs[i]? = some p)
    (hwf : ∀ q ∈ progs, wfB canon q = true) :
    notInterfered (solo .Local r₀' p) (decide (p.length ≤ sched.count i))
      (outOf (run .Local sched (init r₀ progs)) i) = true := by
  have hcan : ∀ q ∈ progs, canonicalB canon q = true := by
    intro q hq
    have := hwf q hq
    simp only [wfB, Bool.and_eq_true] at this
    exact this.1
  have hfree : freeGets p = [] := by
    have := hwf p (List.mem_of_getElem? hp)
    simp only [wfB, Bool.and_eq_true, List.isEmpty_iff] at this
    exact this.2
  unfold notInterfered
  by_cases hd : p.length ≤ sched.count i
  · simp [hd, C15_local_complete canon r₀ r₀' progs sched i p hp hcan hfree hd]
  · simp only [hd, decide_false, Bool.false_eq_true, ↓reduceIte]
    rw [isPrefixB_eq]
    exact List.isPrefixOf_iff_prefix.2 (C15_local_prefix canon r₀ r₀' progs sched i p hp hcan hfree)

/-! ## what the repair bought: the same statement is false for the process-global cell -/

/-- the statement of `C15_local_prefix`/`C15_local_spec` for the old, process-global colour cell -/
def C15_global_full : Prop :=
  ∀ (canon : Name → Cls) (r₀ r₀' : Registry) (progs : List (List Ev)) (sched : List Nat)
    (i : Nat) (p : List Ev),
    progs[i]? = some p → (∀ q ∈ progs, wfB canon q = true) →
    notInterfered (solo .Global r₀' p) (decide (p.length ≤ sched.count i))
      (outOf (run .Global sched (init r₀ progs)) i) = true

/-- two documents: palette {2,5} and palette {5,9}; both use colour 5 (index 2 in the first
document's table, index 1 in the second's) -/
def witnessProgs : List (List Ev) := [encodeProg [2, 5] [0] [5], encodeProg [5, 9] [0] [5]]

/-- one preemption: thread 0 is parked after `set_document_context`, thread 1 encodes
completely, thread 0 resumes -/
def witnessSched : List Nat := List.replicate 4 0 ++ List.replicate 7 1 ++ List.replicate 3 0

/-- **Sensitivity / negation witness.** With one colour cell per process, two threads and a
single preemption are enough: thread 1's `clear` wipes thread 0's context, thread 0 then writes
the master index 5 instead of its table position 2. -/
theorem C15_global_witness : ¬ C15_global_full := by
  intro h
  have := h id [] [] witnessProgs witnessSched 0 (encodeProg [2, 5] [0] [5]) rfl (by decide)
  revert this
  decide

/-- the variant in which thread 1 is itself preempted before its `clear`: thread 0 resolves its
colour against thread 1's palette (index 1 instead of 2) — a *valid-looking* wrong colour -/
theorem C15_global_witness_wrong_palette :
    outOf (run .Global (List.replicate 4 0 ++ List.replicate 4 1 ++ List.replicate 3 0 ++
        List.replicate 3 1) (init [] witnessProgs)) 0 = [.strat (some 0), .idx 1] ∧
    solo .Global [] (encodeProg [2, 5] [0] [5]) = [.strat (some 0), .idx 2] := by
  decide

/-- the registry hypothesis is needed: if another thread re-registers a strategy name with a
different class while an encode is between its own registration and its read, the encode gets
the foreign class even though the colour state is per-thread -/
theorem C15_registry_override_interferes :
    outOf (run .Local [0, 0, 0, 0, 1, 0, 0, 0] (init []
        [encodeProg [2] [0] [2], [.register 0 7]])) 0 ≠ solo .Local [] (encodeProg [2] [0] [2]) := by
  decide

/-! ## non-vacuity -/

/-- the hypotheses hold of a non-trivial pool (three encodes with different palettes and
strategies), and under the very schedules that break the global variant the local variant
returns the solo outputs -/
example :
    (∀ q ∈ witnessProgs ++ [encodeProg [9, 0, 3] [2, 1] [3, 9, 0, 4]], wfB id q = true) ∧
    outOf (run .Local witnessSched (init [] witnessProgs)) 0 = solo .Local [] (encodeProg [2, 5] [0] [5]) ∧
    solo .Local [] (encodeProg [2, 5] [0] [5]) = [.strat (some 0), .idx 2] ∧
    solo .Local [(0, 0)] (encodeProg [9, 0, 3] [2, 1] [3, 9, 0, 4]) =
      [.strat (some 2), .strat (some 1), .idx 1, .idx 2, .idx 0, .idx 0] := by
  decide

/-- **Why the single-threaded test suite never saw the old defect.**  Even with the
process-wide colour cell, the schedule without preemption (every thread in turn runs to
completion) gives every thread its solo output — for any number of threads whose programs read
only registry keys they wrote themselves and leave the cell cleared (`set … clear`, which is what
`encode` does on the normal path).  Interference needs a preemption; only a scheduler finds it. -/
theorem C15_global_sequential (r₀ r₀' : Registry) (progs : List (List Ev))
    (hfree : ∀ q ∈ progs, freeGets q = []) (hclosed : ∀ q ∈ progs, cellAfter none q = none)
    (i : Nat) (p : List Ev) (hp : progs[i]? = some p) :
    outOf (run .Global (seqSchedule progs) (init r₀ progs)) i = solo .Global r₀' p := by
  have := seq_global r₀' progs 0 (init r₀ progs)
    (by intro j q hq; simp [init, fresh, hq])
    hfree (Or.inl ⟨rfl, hclosed⟩) i p hp
  simpa [seqSchedule] using this

/-- **A memo that is reset at the start of each use instead of being cleared at the end** (the
shape of a "resolved once per section" cache held in one process-wide object, e.g. a
`ContextVar` whose mutable default object is mutated in place — see `Model.Interleave`): also
exact under sequential use, from any leftover content of the cell and without the programs
cleaning up after themselves. -/
theorem C15_global_sequential_reset (r₀ r₀' : Registry) (c₀ : Option Palette)
    (progs : List (List Ev))
    (hfree : ∀ q ∈ progs, freeGets q = []) (hopen : ∀ q ∈ progs, opensWithReset q = true)
    (i : Nat) (p : List Ev) (hp : progs[i]? = some p) :
    outOf (run .Global (seqSchedule progs)
      { threads := progs.map (fun q => { prog := q, ctx := none, out := [] }),
        sh := { reg := r₀, cell := c₀ } }) i = solo .Global r₀' p := by
  have := seq_global r₀' progs 0
    { threads := progs.map (fun q => { prog := q, ctx := none, out := [] }),
      sh := { reg := r₀, cell := c₀ } }
    (by intro j q hq; simp [fresh, hq])
    hfree (Or.inr hopen) i p hp
  simpa [seqSchedule] using this

/-- two sections that memoise under the same key (`5`) values that resolve differently
(position 2 in `[2, 5]`, position 1 in `[5, 9]`), each used twice -/
def memoProgs : List (List Ev) := [memoProg [2, 5] 5 2, memoProg [5, 9] 5 2]

/-- **The shared-default memo is the process-wide cell.**  One preemption of thread 0 between
its first and its second use, thread 1 runs its whole section in the gap: thread 0's second use
obtains thread 1's value (`Global`); with one cell per thread the same schedule returns the
solo values (`Local`); and without preemption the process-wide memo is exact, although nobody
clears it at the end (`cellAfter … ≠ none`, so `C15_global_sequential` does not apply but
`C15_global_sequential_reset` does). -/
theorem C15_shared_default_memo_interferes :
    let sched := [0, 0, 0] ++ List.replicate 4 1 ++ [0]
    outOf (run .Global sched (init [] memoProgs)) 0 = [.idx 2, .idx 1] ∧
    solo .Global [] (memoProg [2, 5] 5 2) = [.idx 2, .idx 2] ∧
    outOf (run .Local sched (init [] memoProgs)) 0 = solo .Local [] (memoProg [2, 5] 5 2) ∧
    outOf (run .Global (seqSchedule memoProgs) (init [] memoProgs)) 0 = [.idx 2, .idx 2] ∧
    outOf (run .Global (seqSchedule memoProgs) (init [] memoProgs)) 1 = [.idx 1, .idx 1] ∧
    (∀ q ∈ memoProgs, opensWithReset q = true ∧ freeGets q = [] ∧ cellAfter none q ≠ none) := by
  decide

/-! ## a memo kept on an input object that several documents were given -/

/-- the programs of documents `(resolved rows, key, pages)` that memoise on an object -/
def objMemoProgs (docs : List (Palette × Color × Nat)) : List (List Ev) :=
  docs.map fun d => objMemoProg d.1 d.2.1 d.2.2

/-- what holds of every `objMemoProg` holds of every program of such a pool -/
private theorem forall_objMemoProgs {P : List Ev → Prop} (h : ∀ p c n, P (objMemoProg p c n))
    (docs : List (Palette × Color × Nat)) : ∀ q ∈ objMemoProgs docs, P q := by
  intro q hq
  obtain ⟨d, _, rfl⟩ := List.mem_map.mp hq
  exact h _ _ _

/-- **A memo stored on a shared input object is exact under sequential use** (why the
single-threaded suite passes): any number of documents that were given the same object — the
memo is then the process-wide cell — each of any number of pages, encoded one after the other
from any leftover content of the memo, return their solo outputs.  Instance of
`C15_global_sequential_reset`: every table starts with a first page, which resets the memo. -/
theorem C15_object_memo_sequential (r₀ r₀' : Registry) (c₀ : Option Palette)
    (docs : List (Palette × Color × Nat)) (i : Nat) (d : Palette × Color × Nat)
    (hd : docs[i]? = some d) :
    outOf (run .Global (seqSchedule (objMemoProgs docs))
      { threads := (objMemoProgs docs).map (fun q => { prog := q, ctx := none, out := [] }),
        sh := { reg := r₀, cell := c₀ } }) i = solo .Global r₀' (objMemoProg d.1 d.2.1 d.2.2) := by
  apply C15_global_sequential_reset r₀ r₀' c₀ _ (forall_objMemoProgs freeGets_objMemoProg docs)
    (forall_objMemoProgs opensWithReset_objMemoProg docs)
  simp [objMemoProgs, hd]

/-- **Documents that hold objects of their own are never affected**: the memo is then a cell
of the encoding thread's document (`Local`), and under every schedule every document returns
its solo output (instance of `C15_local_complete`). -/
theorem C15_private_object_memo_exact (r₀ r₀' : Registry)
    (docs : List (Palette × Color × Nat)) (sched : List Nat) (i : Nat)
    (d : Palette × Color × Nat) (hd : docs[i]? = some d)
    (hdone : (objMemoProg d.1 d.2.1 d.2.2).length ≤ sched.count i) :
    outOf (run .Local sched (init r₀ (objMemoProgs docs))) i =
      solo .Local r₀' (objMemoProg d.1 d.2.1 d.2.2) := by
  apply C15_local_complete id r₀ r₀' (objMemoProgs docs) sched i _ _
    (forall_objMemoProgs (canonicalB_objMemoProg id) docs) (freeGets_objMemoProg _ _ _) hdone
  simp [objMemoProgs, hd]

/-- two documents that were given one column-header object: a three-page one whose repeated
rows resolve `5` to position 2 (`[2, 5]`: its page geometry / palette) and a two-page one whose
rows resolve it to position 1 (`[5, 9]`) -/
def sharedHeaderDocs : List (Palette × Color × Nat) := [([2, 5], 5, 3), ([5, 9], 5, 2)]

/-- **The memo on the shared object is the process-wide cell: one preemption breaks it.**
(a) document 0 is stopped after its first page, document 1 is encoded from start to finish,
document 0 resumes: its pages 2 and 3 replay document 1's rows; (b) the same with the roles
exchanged; (c) stopped between its pages 2 and 3, document 0 has stored its own rows, document 1
resets and refills the memo, page 3 replays them; (d) with objects of their own (`Local`) the
same schedules return the solo outputs; (e) a preemption before the first page or after the last
one is harmless; (f) the other document always returns its solo output — the one-sided damage a
check finds only if it compares *every* thread's string. -/
theorem C15_shared_object_memo_interferes :
    let progs := objMemoProgs sharedHeaderDocs
    let solo0 := solo .Global [] (objMemoProg [2, 5] 5 3)
    let solo1 := solo .Global [] (objMemoProg [5, 9] 5 2)
    solo0 = [.idx 2, .idx 2] ∧ solo1 = [.idx 1] ∧
    outOf (run .Global [0, 1, 1, 0, 0] (init [] progs)) 0 = [.idx 1, .idx 1] ∧
    outOf (run .Global [0, 1, 1, 0, 0] (init [] progs)) 1 = solo1 ∧
    outOf (run .Global [1, 0, 0, 0, 1] (init [] progs)) 1 = [.idx 2] ∧
    outOf (run .Global [1, 0, 0, 0, 1] (init [] progs)) 0 = solo0 ∧
    outOf (run .Global [0, 0, 1, 1, 0] (init [] progs)) 0 = [.idx 2, .idx 1] ∧
    (∀ sched ∈ [[0, 1, 1, 0, 0], [1, 0, 0, 0, 1], [0, 0, 1, 1, 0]],
      outOf (run .Local sched (init [] progs)) 0 = solo .Local [] (objMemoProg [2, 5] 5 3) ∧
      outOf (run .Local sched (init [] progs)) 1 = solo .Local [] (objMemoProg [5, 9] 5 2)) ∧
    (∀ sched ∈ [[1, 1, 0, 0, 0], [0, 0, 0, 1, 1]],
      outOf (run .Global sched (init [] progs)) 0 = solo0 ∧
      outOf (run .Global sched (init [] progs)) 1 = solo1) := by
  decide

/-! ## a `set … restore` window on a process-wide flag (a service-wide setting switched off
around one call in a `try/finally`, e.g. "conversion disabled" on a cached service object) -/

/-- the flag as events on one cell: idle = `none` ("enabled").  A text rendered with the setting
OFF: switch the flag off (`set`), render under the flag (`lookup`), restore the idle value
(`clear`, the `finally`); a text rendered with the default setting only reads the flag.  What a
read obtains stands for the rendered text: `c` under the idle flag (the converted text); under a
switched-off flag the position of `c` in the switching text's `[c']` — `1` for the text the flag
was switched off for, `0` for any other thread's text (the literal text). -/
def flagOffProg (texts : List Color) : List Ev :=
  texts.flatMap fun c => [.setCtx [c], .lookup c, .clearCtx]

def flagOnProg (texts : List Color) : List Ev := texts.map .lookup

/-- document 0: two texts with the setting off; document 1: two texts with the default setting -/
def flagProgs : List (List Ev) := [flagOffProg [7, 8], flagOnProg [5, 6]]

/-- **Sequentially the window is exact** (why the single-threaded suite passes): the flag is
always restored, so every document returns its solo output (instance of `C15_global_sequential`). -/
theorem C15_flag_window_sequential (r₀ r₀' : Registry) (i : Nat) (p : List Ev)
    (hp : flagProgs[i]? = some p) :
    outOf (run .Global (seqSchedule flagProgs) (init r₀ flagProgs)) i = solo .Global r₀' p :=
  C15_global_sequential r₀ r₀' flagProgs (by decide) (by decide) i p hp

/-- **One preemption inside the window suffices, and only there.**  Document 0 is stopped after
switching the flag off (a) or after rendering, before the restore (b), document 1 is encoded from
start to finish: every text of document 1 stays literal (`0` instead of `5`, `6`), document 0 is
unharmed — one-sided damage; (c) stopped between two windows or before / after all of them (every
other single preemption of document 0) both return their solo outputs; (d) the roles exchanged
(document 1 stopped anywhere, document 0 runs whole) is harmless too. -/
theorem C15_flag_window_interferes :
    let solo0 := solo .Global [] (flagOffProg [7, 8])
    let solo1 := solo .Global [] (flagOnProg [5, 6])
    solo0 = [.idx 1, .idx 1] ∧ solo1 = [.idx 5, .idx 6] ∧
    (∀ k ∈ [1, 2, 4, 5],
      let σ := run .Global (List.replicate k 0 ++ [1, 1] ++ List.replicate (6 - k) 0) (init [] flagProgs)
      outOf σ 1 = [.idx 0, .idx 0] ∧ outOf σ 0 = solo0) ∧
    (∀ k ∈ [0, 3, 6],
      let σ := run .Global (List.replicate k 0 ++ [1, 1] ++ List.replicate (6 - k) 0) (init [] flagProgs)
      outOf σ 1 = solo1 ∧ outOf σ 0 = solo0) ∧
    (∀ k ∈ [0, 1, 2],
      let σ := run .Global (List.replicate k 1 ++ List.replicate 6 0 ++ List.replicate (2 - k) 1) (init [] flagProgs)
      outOf σ 1 = solo1 ∧ outOf σ 0 = solo0) := by
  decide

/-- **A per-call / thread-private flag is exact under every schedule** (the setting passed as an
argument, or kept in a per-thread cell): instance of `C15_local_complete`. -/
theorem C15_private_flag_exact (r₀ r₀' : Registry) (sched : List Nat) (i : Nat) (p : List Ev)
    (hp : flagProgs[i]? = some p) (hdone : p.length ≤ sched.count i) :
    outOf (run .Local sched (init r₀ flagProgs)) i = solo .Local r₀' p := by
  have hfree : ∀ q ∈ flagProgs, freeGets q = [] := by decide
  exact C15_local_complete id r₀ r₀' flagProgs sched i p hp (by decide) (hfree p (List.mem_of_getElem? hp)) hdone

/-- `C15_global_sequential` on the witness programs, by evaluation: without preemption the process-global cell is exact -/
example :
    let σ := run .Global (List.replicate 7 0 ++ List.replicate 7 1) (init [] witnessProgs)
    outOf σ 0 = solo .Global [] (encodeProg [2, 5] [0] [5]) ∧
    outOf σ 1 = solo .Global [] (encodeProg [5, 9] [0] [5]) := by
  decide

end Props.C15
