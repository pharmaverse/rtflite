import Generated.PyShouldShowRenderer
import Props.C06py
/-!
# C06 — translator tie for the renderer's copy of the placement rule
-/
namespace Props.C06pyr
open Model.Layout Props.C06py
open Generated.Py.ShouldShow (run)

/-! The renderer has its own copy of the rule (`PageRenderer._should_show`, an if-chain); it is translated and tied to
the same model function, so the two copies cannot drift apart unnoticed. -/

/-- the processor's and the renderer's copies agree on EVERY string (not only on the three options) -/
theorem C06pyr_two_copies_agree (loc : List Nat) (isFirst isLast : Bool) :
    Generated.Py.ShouldShowRenderer.run loc isFirst isLast = run loc isFirst isLast := by
  simp only [Generated.Py.ShouldShowRenderer.run, run]
  by_cases h1 : loc = [97, 108, 108] <;> by_cases h2 : loc = [102, 105, 114, 115, 116] <;>
    by_cases h3 : loc = [108, 97, 115, 116] <;> simp [h1, h2, h3]

theorem C06pyr_should_show_translated (p : Placement) (isFirst isLast : Bool) :
    Generated.Py.ShouldShowRenderer.run (name p) isFirst isLast = p.shows isFirst isLast :=
  (C06pyr_two_copies_agree _ _ _).trans (C06py_should_show_translated p isFirst isLast)

end Props.C06pyr
