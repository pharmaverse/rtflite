import Model.Encode
import Model.Layout
import Proofs.EncodeLift
import Proofs.EncodeLayout
import Props.C02
import Props.C05
import Props.C01enc
/-!
# C05 for the whole-encoder model: every data row sits under its own group heading on its own page

`Props/C05.lean` proves the property about `Layout.renderPage ld pg` for every role-level document.  Here the theorems
are about the pages the ENCODER renders (`Plan.pageBlocks`; `encodePages` renders exactly these block lists), with the
hypotheses on the document `d`:

* spanning rows are shown       `spanningDoc d` = there are page_by columns and `not new_page or pageby_row != "column"`;
* the page_by value of a row    `row[d.cols.idxOf name]? = some (some s)` for the `l`-th page_by name (`str()` of the cell);
* the role-level hypotheses `KeysWide`, `dataStart = start`, the slice bounds and (for `C05_under_own_heading*`) the
  unused `NoNullKeys` are all DERIVED (from `mkLDoc` and C02), so they do not appear;
* every `.heading lvl t` block is rendered as the one table row `spanningRow k d bodyA lvl t`
  (`C05enc_heading_rendered`), every `.sublineHeading t` as the paragraph `sublineHeading t` (nothing for `t = ""`).
-/
namespace Props.C05enc
open Model.Rtf Model.Emit Model.Encode Model.Broadcast Model.Layout Proofs.EncodeLift
open Props.C05 (lastHeading inForce)

/-- (1) **each level's current value is rendered as a heading before the row, on the row's own page, and is still in
force at the row.**  For every data row `i` on a page the encoder renders and every page_by level `l` (column `name`)
whose value `s` at frame row `i` is neither null nor the divider `-----`: the last level-`l` heading before the row on
that page carries `s`, and no heading of a shallower level stands between it and the row. -/
theorem C05enc_under_own_heading (measure : Measure) (d : Doc) (pl : Plan) (hp : plan measure d = .ok pl)
    (hsp : spanningDoc d = true) (x : PageCtx × List Block) (hx : x ∈ pl.pageBlocks)
    (pre post : List Block) (i : Nat) (hsplit : x.2 = pre ++ Block.data i :: post)
    (row : List (Option Str)) (hrow : d.rows[i]? = some row) (l : Nat) (name s : Str)
    (hname : d.body.pageByL[l]? = some name) (hval : row[d.cols.idxOf name]? = some (some s))
    (hdiv : s ≠ "-----".toList) :
    lastHeading l pre = some (String.ofList s) ∧ inForce pre l = some (String.ofList s) := by
  have hf := plan_facts hp
  obtain ⟨r, hr, hpk, _⟩ := ldRow hp hrow
  have hne : pl.ld.rows ≠ [] := by
    intro h0; rw [h0] at hr; cases hr
  obtain ⟨hbs, hds, hin, hpos⟩ := page_bounds hne hx
  have hw : ∀ r ∈ pl.ld.rows, r.pkey.length = d.body.pageByL.length := by
    intro r' hr'
    obtain ⟨j, hj⟩ := List.getElem?_of_mem hr'
    obtain ⟨row', _, _, _, _, _, h4, _, _⟩ := hf.row j r' hj
    rw [h4, List.length_map, pick_length]
  have hv : r.pkey[l]? = some (some (String.ofList s)) := by
    rw [hpk, List.getElem?_map, pick_getElem?, hname, Option.map_some, hval]
    rfl
  rw [hbs] at hsplit
  rw [Props.C05.inForce_eq_force]
  exact Proofs.LayoutHeadings.under_heading pl.ld _ (by rw [spanning_eq hf]; exact hsp) hw x.1 hds hin hpos pre post i
    hsplit r hr l (String.ofList s) hv (ofList_ne_divider hdiv)

/-- a heading the encoder renders carries a page_by value of some frame row, is not the divider, and appears only
when spanning rows are shown ((3) and (4) of C05) -/
theorem C05enc_heading_text (measure : Measure) (d : Doc) (pl : Plan) (hp : plan measure d = .ok pl)
    (x : PageCtx × List Block) (hx : x ∈ pl.pageBlocks) (l : Nat) (t : String)
    (h : Block.heading l t ∈ x.2) :
    t ≠ "-----" ∧ spanningDoc d = true ∧
      ∃ row ∈ d.rows, ∃ s, some s ∈ pick d.cols row d.body.pageByL ∧ t = String.ofList s := by
  have hf := plan_facts hp
  obtain ⟨hpg, hbs⟩ := pageBlocks_mem hx
  rw [hbs] at h
  obtain ⟨hsp, r, hr, hm⟩ := Proofs.LayoutHeadings.renderPage_heading_mem pl.ld x.1 l t h
  obtain ⟨hs, hdiv⟩ := Proofs.LayoutHeadings.groupValues_mem_real hm
  refine ⟨hdiv, by rw [← spanning_eq hf]; exact hsp, ?_⟩
  obtain ⟨j, hj⟩ := List.getElem?_of_mem hr
  obtain ⟨row, _, _, h1, _, _, h4, _, _⟩ := hf.row j r hj
  rw [h4] at hs
  obtain ⟨v, hv, hvs⟩ := List.mem_map.mp hs
  obtain ⟨s', rfl, hs'⟩ := Proofs.Encode.optString_some hvs
  refine ⟨row, List.mem_of_getElem? h1, s', hv, ?_⟩
  rw [← hs']
  simp

/-- (3) divider values never produce a heading -/
theorem C05enc_no_divider_heading (measure : Measure) (d : Doc) (pl : Plan) (hp : plan measure d = .ok pl)
    (x : PageCtx × List Block) (hx : x ∈ pl.pageBlocks) (l : Nat) (t : String)
    (h : Block.heading l t ∈ x.2) : t ≠ "-----" :=
  (C05enc_heading_text measure d pl hp x hx l t h).1

/-- (4) no spanning rows without page_by, or with `new_page` and `pageby_row = "column"` -/
theorem C05enc_no_heading_without_spanning (measure : Measure) (d : Doc) (pl : Plan) (hp : plan measure d = .ok pl)
    (hsp : spanningDoc d = false) (x : PageCtx × List Block) (hx : x ∈ pl.pageBlocks) (l : Nat) (t : String) :
    Block.heading l t ∉ x.2 := by
  intro h
  have := (C05enc_heading_text measure d pl hp x hx l t h).2.1
  rw [hsp] at this
  cases this

/-- (2) a heading is always directly followed, on the same page, by a heading of a deeper level or by a data row:
never stranded at the bottom of a page, outer levels before inner ones -/
theorem C05enc_heading_followed (pl : Plan) (x : PageCtx × List Block) (hx : x ∈ pl.pageBlocks)
    (pre post : List Block) (l : Nat) (t : String) (hsplit : x.2 = pre ++ Block.heading l t :: post) :
    ∃ b rest, post = b :: rest ∧
      ((∃ i, b = Block.data i) ∨ (∃ l' t', b = Block.heading l' t' ∧ l < l')) := by
  obtain ⟨_, hbs⟩ := pageBlocks_mem hx
  rw [hbs] at hsplit
  obtain ⟨hsp, r, hr, _⟩ := Proofs.LayoutHeadings.renderPage_heading_mem pl.ld x.1 l t (by rw [hsplit]; simp)
  obtain ⟨_, _, hin, hpos⟩ := page_bounds (List.ne_nil_of_mem hr) hx
  exact Props.C05.C05_heading_followed pl.ld hsp x.1 hin hpos pre post l t hsplit

/-- (5) with subline_by, a page whose first frame row has non-null, non-divider subline_by values carries exactly one
subline heading, naming those values, joined by `", "` -/
theorem C05enc_subline_heading (measure : Measure) (d : Doc) (pl : Plan) (hp : plan measure d = .ok pl)
    (hs : d.body.sublineByL ≠ []) (x : PageCtx × List Block) (hx : x ∈ pl.pageBlocks)
    (row : List (Option Str)) (hrow : d.rows[x.1.start]? = some row) (vals : List Str)
    (hvals : pick d.cols row d.body.sublineByL = vals.map some) (hne : vals ≠ [])
    (hnd : ∀ v ∈ vals, v ≠ "-----".toList) :
    (x.2.filter (fun b => match b with | .sublineHeading _ => true | _ => false))
      = [Block.sublineHeading (", ".intercalate (vals.map String.ofList))] := by
  have hf := plan_facts hp
  obtain ⟨hpg, hbs⟩ := pageBlocks_mem hx
  obtain ⟨r, hr, _, hsk⟩ := ldRow hp hrow
  rw [hbs]
  apply Props.C05.C05_subline_heading pl.ld (by rw [hf.hasSubline]; cases h : d.body.sublineByL with
    | nil => exact absurd h hs
    | cons a b => rfl) x.1 r hr (vals.map String.ofList)
  · rw [hsk, hvals, List.map_map, List.map_map]
    rfl
  · intro h0
    apply hne
    simpa using h0
  · intro v hv
    obtain ⟨s, hs', rfl⟩ := List.mem_map.mp hv
    exact ofList_ne_divider (hnd s hs')

/-! ## how the heading blocks are rendered -/

/-- every `.heading lvl t` block of the trace is rendered as exactly one table row, the spanning row
`spanningRow k d bodyA lvl t` (one cell over the table width, text `t` under the body's `convert` flag) -/
theorem C05enc_heading_rendered (k : ColorCtx) (d : Doc) (pl : Plan) (R : Trace) (hR : Renders k d pl R)
    (x : PageCtx × List (Block × List Elem)) (hx : x ∈ R) (y : Block × List Elem) (hy : y ∈ x.2)
    (lvl : Nat) (t : String) (hb : y.1 = Block.heading lvl t) :
    ∃ e, spanningRow k d pl.bodyA lvl t = .ok e ∧ y.2 = [e] :=
  renderBlock_heading_inv (hR.block hx hy hb)

/-- every `.sublineHeading t` block of the trace is rendered as the paragraph `sublineHeading t`; an empty joined text
renders nothing (`if not text: return ""`) -/
theorem C05enc_subline_rendered (k : ColorCtx) (d : Doc) (pl : Plan) (R : Trace) (hR : Renders k d pl R)
    (x : PageCtx × List (Block × List Elem)) (hx : x ∈ R) (y : Block × List Elem) (hy : y ∈ x.2)
    (t : String) (hb : y.1 = Block.sublineHeading t) :
    y.2 = if t.isEmpty then [] else [[BlockG.plain [sublineHeading t]]] := by
  have h := hR.block hx hy hb
  simp only [renderBlock] at h
  split at h
  · next ht => rw [if_pos ht]; exact (Except.ok.inj h).symm
  · next ht => rw [if_neg ht]; exact (Except.ok.inj h).symm

/-- the equations of `renderBlock` for the two heading kinds -/
theorem C05enc_renderBlock_heading (k : ColorCtx) (d : Doc) (bodyA : TblAttrsOf MatV) (p : Prep)
    (rows : List (List (Option Str))) (pg : PageCtx) (pa : PageAttrs) (lvl : Nat) (t : String) :
    renderBlock k d bodyA p rows pg pa (.heading lvl t) = (do return [← spanningRow k d bodyA lvl t]) ∧
    renderBlock k d bodyA p rows pg pa (.sublineHeading t) =
      (if t.isEmpty then .ok [] else .ok [[BlockG.plain [sublineHeading t]]]) :=
  ⟨rfl, rfl⟩

/-! ## from `encode measure d = .ok g` -/

/-- **C05 for the encoder model.**  For every accepted document there are a plan and a trace (the output is the
trace's elements joined by newlines) such that on every page: each heading block was rendered as its spanning row, is
not a divider and is directly followed by a deeper heading or a data row; and (with spanning rows) every data row
whose page_by value at level `l` is a real, non-divider value has that value in force. -/
theorem C05enc (measure : Measure) (d : Doc) (g : DocG) (h : encode measure d = .ok g) :
    ∃ pl R, plan measure d = .ok pl ∧ Renders (mkColorCtx d) d pl R ∧
      g.blocks = joinElems R.elems ++ [BlockG.plain [Node.nl, Node.nl, Node.nl, Node.nl]] ∧
      ∀ x ∈ R,
        (∀ y ∈ x.2, ∀ lvl t, y.1 = Block.heading lvl t →
          t ≠ "-----" ∧ spanningDoc d = true ∧ ∃ e, spanningRow (mkColorCtx d) d pl.bodyA lvl t = .ok e ∧ y.2 = [e]) ∧
        (∀ pre post l t, x.2.map Prod.fst = pre ++ Block.heading l t :: post →
          ∃ b rest, post = b :: rest ∧
            ((∃ i, b = Block.data i) ∨ (∃ l' t', b = Block.heading l' t' ∧ l < l'))) ∧
        (spanningDoc d = true → ∀ pre post i, x.2.map Prod.fst = pre ++ Block.data i :: post →
          ∀ row, d.rows[i]? = some row → ∀ l name s, d.body.pageByL[l]? = some name →
            row[d.cols.idxOf name]? = some (some s) → s ≠ "-----".toList →
            inForce pre l = some (String.ofList s)) := by
  obtain ⟨pl, R, hp, hR, hg⟩ := encode_trace h
  refine ⟨pl, R, hp, hR, hg, ?_⟩
  intro x hx
  have hpb : (x.1, x.2.map Prod.fst) ∈ pl.pageBlocks := by
    rw [← hR.blocks, Trace.blocks]
    exact List.mem_map.mpr ⟨x, hx, rfl⟩
  refine ⟨?_, ?_, ?_⟩
  · intro y hy lvl t hb
    have hm : Block.heading lvl t ∈ x.2.map Prod.fst := List.mem_map.mpr ⟨y, hy, hb⟩
    obtain ⟨h1, h2, _⟩ := C05enc_heading_text measure d pl hp _ hpb lvl t hm
    exact ⟨h1, h2, C05enc_heading_rendered _ d pl R hR x hx y hy lvl t hb⟩
  · intro pre post l t hs
    exact C05enc_heading_followed pl _ hpb pre post l t hs
  · intro hsp pre post i hs row hrow l name s hname hval hdiv
    exact (C05enc_under_own_heading measure d pl hp hsp _ hpb pre post i hs row hrow l name s hname hval hdiv).2

/-! ## non-vacuity -/

open Props.C01enc in
/-- four columns, page_by `g` (spanning rows), subline_by `s`, five rows on four pages (`nrow = 7`) -/
def exDocPB : Doc :=
  { exDoc [1, 1, 1, 2] with
    cols := ["g".toList, "s".toList, "a".toList, "b".toList],
    rows := [[some "A".toList, some "S1".toList, some "x".toList, some "1".toList],
             [some "A".toList, some "S1".toList, some "y".toList, some "2".toList],
             [some "A".toList, some "S1".toList, some "z".toList, none],
             [some "B".toList, some "S1".toList, some "n>=3".toList, some "é".toList],
             [some "B".toList, some "S2".toList, some "w".toList, some "5".toList]],
    page := { exPage with nrow := 7 },
    body := { (exDoc [1, 1, 1, 2]).body with pageBy := some ["g".toList], sublineBy := some ["s".toList] } }

open Props.C01enc in
/-- the encoder accepts the example; spanning rows are shown and there is a subline_by column; group `A` continues on
page 2 and gets its heading again, every page carries the subline heading of its first row -/
example :
    (match encode exMeasure exDocPB with | .ok _ => true | .error _ => false) = true ∧
    (match encoderBlocks exMeasure exDocPB with
     | .ok pbs => pbs.map (·.2) ==
        [[.title, .sublineHeading "S1", .colHeader 0, .heading 0 "A", .data 0, .data 1],
         [.brk, .title, .sublineHeading "S1", .colHeader 0, .heading 0 "A", .data 2],
         [.brk, .title, .sublineHeading "S1", .colHeader 0, .heading 0 "B", .data 3],
         [.brk, .title, .sublineHeading "S2", .colHeader 0, .heading 0 "B", .data 4, .footnote true, .source false]]
     | .error _ => false) = true ∧
    spanningDoc exDocPB = true ∧ exDocPB.body.sublineByL ≠ [] := by
  refine ⟨by decide +kernel, by decide +kernel, by decide, by decide⟩

open Props.C01enc in
/-- the hypotheses of (1) are satisfiable: the theorem applied to frame row 2 of the example (the continuation of group
`A` on page 2): whatever stands before `.data 2` on its page, heading `A` is in force at level 0 -/
example : ∀ pl, plan exMeasure exDocPB = .ok pl → ∀ x ∈ pl.pageBlocks, ∀ pre post,
    x.2 = pre ++ Block.data 2 :: post → inForce pre 0 = some (String.ofList "A".toList) :=
  fun pl hp x hx pre post hs =>
    (C05enc_under_own_heading exMeasure exDocPB pl hp (by decide) x hx pre post 2 hs
      [some "A".toList, some "S1".toList, some "z".toList, none] rfl 0 "g".toList "A".toList rfl (by decide)
      (by decide)).2

end Props.C05enc
