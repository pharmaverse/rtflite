import Model.Color
import Proofs.Color
import Proofs.ColorTable
import Proofs.ColorTableCodes
import Proofs.ColorTableNames
import Proofs.ColorFull
/-!
# C12 — colour and font references resolve to what the user asked for

Statement (properties.jsonl): every colour index used anywhere in the output refers to an existing entry of that
document's own colour table whose RGB value equals the named colour requested for that element, index 0 meaning the
default colour; a colour table is present whenever a non-default colour is used; every font reference names an entry
of the emitted font table that corresponds to the requested font number; single-table, multi-section and figure
documents.

Model: `Model.Color` (see its header for the functions mirrored), instantiated with the generated table
`Generated.colorTable`.  The facts about the table (`idxInj`: master indices identify rows; `seenRgb_eq`: the code
printed for a row reads back as the row's RGB columns; `names_nodup`, `idx_range` for the full table) are decided by
the kernel in `Proofs/ColorTable*.lean`.

How the clauses map to theorems
* "refers to an existing entry … whose RGB equals the requested colour"  → `C12_index_resolves`, `C12_document`
  (`Resolves`: `1 ≤ i ≤ |table|`, entry `i` is the dictionaries' own row for the requested name, and the code printed
  for it reads back as `name_to_rgb[name]`).  Two names may share one RGB (aquamarine / aquamarine1): the theorem gives
  the stronger "own row", the oracle on the implementation checks RGB equality only, as the statement does.
* "index 0 meaning the default colour"                                   → `C12_default_zero` (and `black_rgb`)
* no dangling index for *any* colour, collected or not                    → `C12_index_in_range`
* "a colour table is present whenever a non-default colour is used"      → `C12_table_present_iff`
* the table is the master-index-sorted, duplicate-free, filtered list     → `C12_table_spec`
* independence of the enumeration order of the collected set              → `C12_order_independent`
* every attribute value an emitter can print was collected (all three paths, text / background / border colours of
  every component) → inside `C12_document`, `C12_border_refs`, `C12_border_refs_emitters`
* fonts                                                                  → `C12_fonts`
* no context (direct use outside an encode): master index into the full table → `C12_full_table`
* the table and the indices use ONE numbering: in the full table only the master index resolves
  (`C12_full_table_only_master`); dense positions read against the full table name other colours
  (`C12_mixed_numbering_wrong`, with the oracle's verdict on it)
-/
namespace Props.C12
open Generated Model.Color Proofs.Color Proofs.ColorTable

/-! ## the table -/

/-- The dense table printed for a list of used colours: its names are exactly the non-default colours of the list
(as a multiset), in ascending master-index order; every entry is the dictionaries' own row of its name (so the code
printed is `name_to_rtf[name]`); when the list has no repetitions (a set) the order is strict: no entry twice. -/
theorem C12_table_spec (used : List String) (rows : List ColorRow) (h : tableRows colorTable used = .ok rows) :
    (rows.map (·.name)).Perm (used.filter significant) ∧
    rows.Pairwise (fun a b => a.idx ≤ b.idx) ∧
    (∀ row ∈ rows, lookupRow colorTable row.name = some row) ∧
    (used.Nodup → rows.Pairwise (fun a b => a.idx < b.idx)) := by
  have hk := tableRows_ok h
  have hsorted : rows.Pairwise (fun a b => a.idx ≤ b.idx) := by rw [hk.1]; exact sortRows_sorted _
  refine ⟨hk.2.1, hsorted, hk.2.2.1, ?_⟩
  · intro hnd
    have hnames : (rows.map (·.name)).Nodup := hk.2.1.nodup_iff.mpr (hnd.sublist List.filter_sublist)
    have hne : rows.Pairwise (fun a b => a ≠ b) := by
      have := List.pairwise_map.mp hnames
      exact this.imp (fun hab h => hab (by rw [h]))
    have hall : ∀ r ∈ rows, r ∈ colorTable := tableRows_mem_tbl h
    have key : ∀ a ∈ rows, ∀ b ∈ rows, a.idx ≤ b.idx → a ≠ b → a.idx < b.idx := by
      intro a ha b hb hle hne'
      rcases Nat.lt_or_ge a.idx b.idx with hlt | hge
      · exact hlt
      · exact absurd (idxInj a (hall a ha) b (hall b hb) (Nat.le_antisymm hle hge)) hne'
    have := List.Pairwise.and hsorted hne
    exact List.Pairwise.imp_of_mem (fun ha hb hab => key _ ha _ hb hab.1 hab.2) this

/-- The table text is non-empty exactly when a non-default colour occurs in the list (and then it is the dense
table); it is never an error when the names passed the constructors' validators. -/
theorem C12_table_present_iff (used : List String)
    (hv : ∀ c ∈ used, significant c = true → validColor colorTable c = true) :
    ∃ rows s, tableRows colorTable used = .ok rows ∧ generateColorTable colorTable (some used) = .ok s ∧
      (s ≠ "" ↔ ∃ c ∈ used, significant c = true) ∧
      (rows ≠ [] ↔ ∃ c ∈ used, significant c = true) ∧
      (s ≠ "" → s = "{\\colortbl;" ++ joinCodes rows ++ "\n}") := by
  obtain ⟨rows, hr⟩ := tableRows_total hv
  have hlen : rows.length = (used.filter significant).length := by
    have := (tableRows_ok hr).2.1.length_eq
    simpa [filtered] using this
  by_cases hex : ∃ c ∈ used, significant c = true
  · obtain ⟨c, hc, hs⟩ := hex
    have hmem : c ∈ used.filter significant := List.mem_filter.mpr ⟨hc, hs⟩
    have hne : used.filter significant ≠ [] := List.ne_nil_of_mem hmem
    have hrne : rows ≠ [] := by
      intro h0; rw [h0] at hlen; exact hne (List.eq_nil_of_length_eq_zero hlen.symm)
    have hemp := filtered_isEmpty_of_mem hc hs
    refine ⟨rows, "{\\colortbl;" ++ joinCodes rows ++ "\n}", hr, ?_, ?_, ?_, fun _ => rfl⟩
    · cases rows with
      | nil => exact absurd rfl hrne
      | cons r rs => simp [generateColorTable, needsColorTable, hemp, hr]
    · constructor
      · intro _; exact ⟨c, hc, hs⟩
      · intro _ h
        have : ("{\\colortbl;" ++ joinCodes rows ++ "\n}").length = 0 := by rw [h]; rfl
        simp [String.length_append] at this
    · exact ⟨fun _ => ⟨c, hc, hs⟩, fun _ => hrne⟩
  · have hnil : used.filter significant = [] :=
      List.filter_eq_nil_iff.mpr fun c hc hs => hex ⟨c, hc, hs⟩
    have hr0 : rows = [] := List.eq_nil_of_length_eq_zero (by rw [hlen, hnil]; rfl)
    refine ⟨rows, "", hr, ?_, ?_, ?_, fun h => absurd rfl h⟩
    · simp [generateColorTable, needsColorTable, filtered, hnil]
    · exact ⟨fun h => absurd rfl h, fun h => absurd h hex⟩
    · exact ⟨fun h => absurd hr0 h, fun h => absurd h hex⟩

/-! ## one reference -/

/-- A colour that is in the list (collected) and is not a default colour gets an index `i` with `1 ≤ i ≤ |table|`,
and entry `i` of the table is that colour's own row, whose printed code reads back as the RGB recorded for the name.
The same index is returned whether the list is passed explicitly or held in the context variable, and by
`Utils._get_color_index`. -/
theorem C12_index_resolves (used : List String) (rows : List ColorRow) (h : tableRows colorTable used = .ok rows)
    (c : String) (hc : c ∈ used) (hs : significant c = true) :
    ∃ i, rtfColorIndex colorTable (some used) c none = .ok i ∧
      rtfColorIndex colorTable none c (some used) = .ok i ∧
      utilsColorIndex colorTable (some used) c none = i ∧
      Resolves colorTable rows c i := by
  have h1 := rtfColorIndex_ctx hs hc h
  have h2 := resolves_of_mem idxInj seenRgb_eq (List.Perm.refl used) h hc hs
  exact ⟨indexIn rows c, h1.1, h1.2, h2.1, h2.2⟩

/-- `""` and `"black"` are index 0 on every path (any context, any list); `"black"` is RGB (0,0,0). -/
theorem C12_default_zero (ctx used : Option (List String)) (c : String) (h : c = "" ∨ c = "black") :
    rtfColorIndex colorTable ctx c used = .ok 0 ∧ utilsColorIndex colorTable ctx c used = 0 ∧
    requestedRgb colorTable "black" = some (0, 0, 0) := by
  have hs : significant c = false := by rcases h with rfl | rfl <;> decide
  exact ⟨by simp [rtfColorIndex, hs], utilsColorIndex_default _ _ _ _ hs, black_rgb⟩

/-- Whatever colour is asked for — collected or not, valid or not — the index printed while the context holds `used`
never points past the end of the table printed for `used`; a colour that is not in the list is printed as 0. -/
theorem C12_index_in_range (used : List String) (rows : List ColorRow) (h : tableRows colorTable used = .ok rows)
    (c : String) :
    utilsColorIndex colorTable (some used) c none ≤ rows.length ∧
    (c ∉ used → utilsColorIndex colorTable (some used) c none = 0) := by
  refine ⟨utilsColorIndex_le h c, ?_⟩
  intro hc
  by_cases hs : significant c = true
  · have hnm : c ∉ rows.map (·.name) := by
      intro hm
      have := (tableRows_ok h).2.1.mem_iff.mp hm
      exact hc (List.mem_filter.mp this).1
    cases he : (filtered used).isEmpty with
    | true => simp [utilsColorIndex, rtfColorIndex, hs, he]
    | false => simp [utilsColorIndex, rtfColorIndex, hs, he, h, indexIn_zero hnm]
  · exact utilsColorIndex_default _ _ _ _ (by simpa using hs)

/-! ## independence of the enumeration order of the collected set -/

/-- Two enumerations of the same collection give the same table (or both fail validation), the same table text and the
same index for every colour. -/
theorem C12_order_independent (u₁ u₂ : List String) (hp : u₁.Perm u₂) :
    (tableRows colorTable u₁ = tableRows colorTable u₂ ∨
      ∃ e₁ e₂, tableRows colorTable u₁ = .error e₁ ∧ tableRows colorTable u₂ = .error e₂) ∧
    (∀ c, utilsColorIndex colorTable (some u₁) c none = utilsColorIndex colorTable (some u₂) c none) ∧
    ((∀ c ∈ u₁, significant c = true → validColor colorTable c = true) →
      generateColorTable colorTable (some u₁) = generateColorTable colorTable (some u₂)) := by
  have ht := tableRows_perm idxInj hp
  have hemp : (filtered u₁).isEmpty = (filtered u₂).isEmpty := (hp.filter significant).isEmpty_eq
  refine ⟨ht, ?_, ?_⟩
  · intro c
    simp only [utilsColorIndex]
    split
    · rfl
    · rename_i hs
      have hs' : significant c = true := by simpa using hs
      simp only [rtfColorIndex, hs', hemp]
      rcases ht with h | ⟨e₁, e₂, h₁, h₂⟩
      · rw [h]
      · rw [h₁, h₂]
        cases (filtered u₂).isEmpty <;> rfl
  · intro hv
    rcases ht with h | ⟨e₁, _, h₁, _⟩
    · simp only [generateColorTable, needsColorTable, hemp, h]
      rfl
    · obtain ⟨rows, hr⟩ := tableRows_total hv
      rw [hr] at h₁; cases h₁

/-! ## the document: every value an emitter can print was collected, on all three paths -/

/-- every collected colour passed the constructors' validators (`validate_text_color`, `validate_border_colors`, …) -/
def DocValid (d : Doc) : Prop := ∀ c ∈ collect d, validColor colorTable c = true

/-- Let the table be printed from one enumeration `e₁` of the collected set and the context hold another, `e₂`.
On each encoding path, for every component the path can print, every cell `(r, c)` and each of its text / background
colour attributes: whatever value `v` `BroadcastValue.iloc` hands to the emitter,
* if `v` is a non-default colour, the printed index resolves (in the sense of `Resolves`) to `v` in the printed table;
* otherwise the printed index is 0.
The table is non-empty iff the document uses a non-default colour. -/
theorem C12_document (p : Path) (d : Doc) (hv : DocValid d) (e₁ e₂ : List String)
    (h₁ : e₁.Perm (collect d)) (h₂ : e₂.Perm (collect d)) :
    ∃ rows, tableRows colorTable e₁ = .ok rows ∧
      (rows ≠ [] ↔ ∃ c ∈ collect d, significant c = true) ∧
      ∀ k ∈ emitters p d, ∀ a, (a = k.textColor ∨ a = k.bgColor) → ∀ r c v, a.at r c = .ok (some v) →
        (significant v = true → Resolves colorTable rows v (utilsColorIndex colorTable (some e₂) v none)) ∧
        (significant v = false → utilsColorIndex colorTable (some e₂) v none = 0) := by
  have hv₁ : ∀ c ∈ e₁, significant c = true → validColor colorTable c = true :=
    fun c hc _ => hv c (h₁.mem_iff.mp hc)
  obtain ⟨rows, s, hr, _, _, hne, _⟩ := C12_table_present_iff e₁ hv₁
  refine ⟨rows, hr, ?_, ?_⟩
  · rw [hne]
    constructor
    · rintro ⟨c, hc, hs⟩; exact ⟨c, h₁.mem_iff.mp hc, hs⟩
    · rintro ⟨c, hc, hs⟩; exact ⟨c, h₁.mem_iff.mpr hc, hs⟩
  · intro k hk a ha r c v hat
    refine at_ref_resolves idxInj seenRgb_eq h₁ h₂ hr (fun w hw => text_colors_collected hk ?_) hat
    rcases ha with rfl | rfl
    · exact Or.inl hw
    · exact Or.inr hw

/-- The same for the border colours of EVERY component (`components d`: bodies, footnote / source and the other text
components, column headers — collected from the six `border_color_*` fields of each; repo fix, formerly of the bodies
only): whatever value `BroadcastValue.iloc` hands to `Border`, a `\brdrcf` printed from it resolves correctly. -/
theorem C12_border_refs (d : Doc) (e₁ e₂ : List String)
    (h₁ : e₁.Perm (collect d)) (h₂ : e₂.Perm (collect d)) (rows : List ColorRow)
    (hr : tableRows colorTable e₁ = .ok rows) :
    ∀ k ∈ components d, ∀ a ∈ k.borderColors, ∀ r c v, a.at r c = .ok (some v) →
      (significant v = true → Resolves colorTable rows v (utilsColorIndex colorTable (some e₂) v none)) ∧
      (significant v = false → utilsColorIndex colorTable (some e₂) v none = 0) := by
  intro k hk a ha r c v hat
  exact at_ref_resolves idxInj seenRgb_eq h₁ h₂ hr (fun w hw => border_colors_collected hk ha hw) hat

/-- … in particular of every component an encoding path can print (`emitters p d ⊆ components d`) -/
theorem C12_border_refs_emitters (p : Path) (d : Doc) (e₁ e₂ : List String)
    (h₁ : e₁.Perm (collect d)) (h₂ : e₂.Perm (collect d)) (rows : List ColorRow)
    (hr : tableRows colorTable e₁ = .ok rows) :
    ∀ k ∈ emitters p d, ∀ a ∈ k.borderColors, ∀ r c v, a.at r c = .ok (some v) →
      (significant v = true → Resolves colorTable rows v (utilsColorIndex colorTable (some e₂) v none)) ∧
      (significant v = false → utilsColorIndex colorTable (some e₂) v none = 0) :=
  fun k hk => C12_border_refs d e₁ e₂ h₁ h₂ rows hr k (emitters_components p d hk)

/-- What `TextContent._get_text_formatting` prints: no `\cf` / `\cb` for `None` and `""`, otherwise exactly the index
the theorems above speak about; the font reference is `\f{font-1}`. -/
theorem C12_text_refs (ctx : Option (List String)) (font : Nat) (color bg : Option String) :
    (textRefs colorTable ctx font color bg).f = (font : Int) - 1 ∧
    (textRefs colorTable ctx font color bg).cf =
      (match color with
       | none => none
       | some c => if c = "" then none else some (utilsColorIndex colorTable ctx c none)) ∧
    (textRefs colorTable ctx font color bg).cb =
      (match bg with
       | none => none
       | some c => if c = "" then none else some (utilsColorIndex colorTable ctx c none)) := by
  refine ⟨rfl, ?_, ?_⟩
  · cases color with
    | none => rfl
    | some c => by_cases h : c = "" <;> simp [textRefs, colorRef, h]
  · cases bg with
    | none => rfl
    | some c => by_cases h : c = "" <;> simp [textRefs, colorRef, h]

/-! ## fonts -/

/-- For every font number `n` in 1..10 the reference printed is `\f{n-1}` and the emitted font table has an entry
`\f{n-1}` whose name is the name the library associates with font number `n`. -/
theorem C12_fonts (n : Nat) (h1 : 1 ≤ n) (h10 : n ≤ 10) :
    ∃ es name, fontEntries fontTable = .ok es ∧
      (textRefs colorTable none n none none).f = ((n - 1 : Nat) : Int) ∧
      fontEntryName es (n - 1) = some name ∧ fontNumberToName.lookup n = some name := by
  have key : ∀ m ∈ List.range' 1 10,
      (match fontEntries fontTable with
       | .ok es => (match fontEntryName es (m - 1), fontNumberToName.lookup m with
                    | some a, some b => a == b
                    | _, _ => false)
       | .error _ => false) = true := by decide
  have hm := key n (by rw [List.mem_range'_1]; omega)
  cases hes : fontEntries fontTable with
  | error e => simp [hes] at hm
  | ok es =>
    simp only [hes] at hm
    cases ha : fontEntryName es (n - 1) with
    | none => simp [ha] at hm
    | some a =>
      cases hb : fontNumberToName.lookup n with
      | none => simp [ha, hb] at hm
      | some b =>
        simp only [ha, hb, beq_iff_eq] at hm
        refine ⟨es, a, rfl, ?_, ha, by rw [hm]⟩
        simp only [textRefs]
        omega

/-- the emitted font table has exactly the entries `\f0 … \f9`, each once -/
theorem C12_font_table_entries :
    ∃ es, fontEntries fontTable = .ok es ∧ es.map (·.num) = List.range 10 := by
  have key : (match fontEntries fontTable with
      | .ok es => es.map (·.num) == List.range 10
      | .error _ => false) = true := by decide
  cases hes : fontEntries fontTable with
  | error e => simp [hes] at key
  | ok es => exact ⟨es, rfl, by simpa [hes] using key⟩

/-! ## no context: the full table -/

theorem idx_of_getElem? {k : Nat} {row : ColorRow} (h : colorTable[k]? = some row) : row.idx = k + 1 := by
  obtain ⟨hk, hrow⟩ := List.getElem?_eq_some_iff.mp h
  have hidx : (colorTable.map (·.idx))[k]'(by simpa using hk) = 1 + k := by
    simp only [idx_range, List.getElem_range']
    omega
  rw [List.getElem_map, hrow] at hidx
  omega

/-- Without a context and without a list (direct use of the service outside an encode) a valid non-default colour is
printed as its master index, and entry number `master index` of the full 657-entry table is that colour's own row. -/
theorem C12_full_table (c : String) (row : ColorRow) (hs : significant c = true)
    (hl : lookupRow colorTable c = some row) :
    rtfColorIndex colorTable none c none = .ok row.idx ∧
    1 ≤ row.idx ∧ row.idx ≤ (fullTableRows colorTable).length ∧
    (fullTableRows colorTable)[row.idx - 1]? = some row ∧ seenRgb row = requestedRgb colorTable c := by
  have hmem := (lookupRow_some hl).1
  have hpos := idx_pos row hmem
  rw [fullTableRows_eq]
  refine ⟨by simp [rtfColorIndex, hs, hl], hpos.1, hpos.2, ?_, ?_⟩
  · obtain ⟨k, hget⟩ := List.mem_iff_getElem?.mp hmem
    have := idx_of_getElem? hget
    rw [show row.idx - 1 = k by omega, hget]
  · simp [requestedRgb, hl, seenRgb_eq row hmem, rowRgb]

/-! ## one numbering for the table and for the indices -/

/-- In the full 657-entry table the ONLY index that resolves to a colour is that colour's master index: an index `i`
whose entry is `c`'s own row is `row.idx`.  So an index computed in another numbering — the position of `c` in the
dense table of the colours a document uses — resolves in the full table only where the two numberings happen to
coincide. -/
theorem C12_full_table_only_master (c : String) (i : Nat)
    (h : Resolves colorTable (fullTableRows colorTable) c i) :
    ∃ row, lookupRow colorTable c = some row ∧ i = row.idx := by
  obtain ⟨row, hget, _, hl, _, _⟩ := h.entry
  refine ⟨row, hl, ?_⟩
  rw [fullTableRows_eq] at hget
  have := idx_of_getElem? hget
  have := h.pos
  omega

/-- **The table and the indices must use the same numbering.**  Both numberings are consistent by themselves — the
dense table with positions in the dense table (`C12_index_resolves`), the full table with master indices
(`C12_full_table`) — but they must not be mixed: a document whose only colour is red prints index 1 (red's position in
its dense table); entry 1 of the full table is white, index 1 does not resolve to red there, and the decidable oracle
the harness evaluates on real output (`useOk`: the entry's RGB is the requested colour's) rejects the reference. -/
theorem C12_mixed_numbering_wrong :
    utilsColorIndex colorTable (some ["red"]) "red" none = 1 ∧
    (fullTableRows colorTable)[0]?.map (·.name) = some "white" ∧
    ¬ Resolves colorTable (fullTableRows colorTable) "red" 1 ∧
    useOk colorTable (none :: (fullTableRows colorTable).map (fun r => some (rowRgb r))) ⟨1, "red"⟩ = false := by
  -- the facts about the concrete table, in one evaluation
  have hk : utilsColorIndex colorTable (some ["red"]) "red" none = 1 ∧
      colorTable[0]?.map (·.name) = some "white" ∧
      useOk colorTable (none :: colorTable.map (fun r => some (rowRgb r))) ⟨1, "red"⟩ = false ∧
      (lookupRow colorTable "red").map (·.idx) = some 552 := by decide +kernel
  refine ⟨hk.1, by rw [fullTableRows_eq]; exact hk.2.1, ?_, by rw [fullTableRows_eq]; exact hk.2.2.1⟩
  intro h
  obtain ⟨row, hl, hi⟩ := C12_full_table_only_master "red" 1 h
  have := hk.2.2.2
  rw [hl] at this
  simp at this
  omega

/-! ## non-vacuity -/

/-- a list as `list(set)` may enumerate it, with defaults mixed in: the table is blue(26) < red(552), in that order,
whatever the enumeration, and red is entry 2 -/
example : (tableRows colorTable ["red", "", "black", "blue"]).toOption.map (·.map (·.idx)) = some [26, 552] ∧
    utilsColorIndex colorTable (some ["red", "", "black", "blue"]) "red" none = 2 ∧
    utilsColorIndex colorTable (some ["blue", "red"]) "red" none = 2 := by decide +kernel

def exampleDoc : Doc :=
  { bodies := [{ textColor := .nested [["red", "blue"], ["", "black"]], bgColor := .flat false ["gold"] }],
    texts := [{ textColor := .flat true ["aquamarine1", "aquamarine"] }],
    headers := [{ bgColor := .nested [["gray0"]], borderColors := [.none, .flat false ["orange"]] }] }

/-- the hypotheses of `C12_document` / `C12_border_refs` are satisfiable by a document with colours on a body, a title
and a header, the header with a border colour of its own (`orange`, collected since the repo fix) -/
example : DocValid exampleDoc ∧
    (collect exampleDoc).Perm ["gold", "aquamarine", "red", "gray0", "blue", "black", "aquamarine1", "orange"] ∧
    (∃ k ∈ components exampleDoc, ∃ a ∈ k.borderColors, a.at 0 0 = .ok (some "orange")) ∧
    (∃ c ∈ collect exampleDoc, significant c = true) := by
  refine ⟨?_, ?_, ?_, ?_⟩
  · intro c hc
    -- decided through `validColor_eq_any`: `any` stops at the first row of the name, `lookupRow` visits all 657
    have : (collect exampleDoc).all (fun c => colorTable.any (·.name == c)) = true := by decide +kernel
    rw [validColor_eq_any]
    exact List.all_eq_true.mp this c hc
  · decide
  · exact ⟨_, List.mem_append_right _ (List.mem_singleton.mpr rfl), _, List.mem_cons_of_mem _ (List.mem_singleton.mpr rfl),
      rfl⟩
  · exact ⟨"red", by decide, by decide⟩

end Props.C12
