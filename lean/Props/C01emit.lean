import Model.Rtf
import Model.RtfDoc
import Model.Emit
import Proofs.Rtf
import Proofs.Emit
import Props.C01
/-!
# C01 — emitter core: rows, cells and text runs as rtflite writes them are well-formed for every input

`Model/Emit.lean` is the byte-exact model of `TextContent._as_rtf`, `Border`, `Cell`, `Row._as_rtf` (tied to the
real classes by a unit-level byte comparison on every run).  These theorems say: whatever the attributes, the
number of cells and the (escaped) texts, an emitted row is an instance of the grammar's row with all side
conditions, and a document made of a head and any number of emitted rows is `wellFormed`.
-/
namespace Props.C01emit
open Model.Rtf Model.Emit

/-- an emitted row satisfies the grammar's row conditions: every part plain, boundaries as given -/
theorem C01e_row_block_ok (r : RowFmt) (h : rowOk r = true) : blockOk (rowBlock r) = true :=
  Proofs.Emit.row_block_ok r h

/-- adjacency holds inside an emitted row followed by `\pard`, whatever follows that is not a letter, digit,
'-' or blank (in rtflite: a newline or the closing brace) -/
theorem C01e_row_adjacent (r : RowFmt) (h : rowOk r = true) (c : Char)
    (hc : badAfter none c = false) : nodesOk (rowNodesFull r) (some c) = true :=
  Proofs.Emit.nodesOk_frame _ (some c) (Proofs.Emit.row_frame r h) hc

/-- an emitted paragraph (title line, footnote, source, page header) is one plain, adjacency-closed group -/
theorem C01e_paragraph_ok (t : TextFmt) (text : List Node) (ht : textFmtOk t = true) (hx : textOk text = true)
    (after : Option Char) :
    plainNode (paragraph t text) = true ∧ nodeOk (paragraph t text) after = true := by
  have hw := Proofs.Emit.textWords_ok t ht
  simp only [textOk, Bool.and_eq_true] at hx
  refine ⟨Proofs.Emit.paragraph_plain t text (Proofs.Emit.all_notTable _ hw) hx.1, ?_⟩
  simp only [paragraph, nodeOk]
  exact Proofs.Emit.nodesOk_frame _ (some '}')
    (Proofs.Emit.paragraph_frame t text (Proofs.Emit.all_nameOk _ hw) hx.2) (by simp only [Proofs.Emit.goodNext]; decide)

/-- the `\u` discipline is compositional: a text hole of the escaper's form inside an emitted row leaves the
reader's `\uc` state as it found it.

The hypothesis `hn` is needed: the words a row takes from its inputs (`r.just`, the cells' `valign`, border `style`,
text `just` / `formats`) are arbitrary names, and `wordOk` (letters only, not a table word) does not exclude `u` / `uc`.
Smallest counterexample:
`r = ⟨0, "u".toList, []⟩`, `st = []`, `ts = []`: the row prints `\trowd\trgaph0\trleft0\u\n\intbl\row\pard`,
`uOk 1 [] 0 (toksNodes (rowNodesFull r) ++ []) = false` (a `\u` without parameter) but `uOk 1 [] 0 [] = true`.
`rowNoU r` (Model/Emit.lean) says that none of the input words of the row is `u` / `uc`. -/
theorem C01e_row_u (r : RowFmt) (hn : rowNoU r = true) (hu : ∀ c ∈ r.cells, uForm c.body = true) (st : List Nat)
    (ts : List Tok) :
    uOk 1 st 0 (toksNodes (rowNodesFull r) ++ ts) = uOk 1 st 0 ts :=
  Proofs.Emit.row_uNeutral r hn (fun c hc => Proofs.Emit.uNeutral_uForm _ (hu c hc)) st ts

/-- every document made of a `\u`-free plain head and any number of emitted rows is well-formed RTF.

`hfirst`, and `rowNoU r` in `hrows`, are needed; without them the statement is false in two ways:
* `hadj` says nothing about the FIRST character of the head, which follows `\rtf1` directly.
  `head = [Node.txt ['5']]`, `rows = []` satisfies `hplain`, `hnou`, `hadj`, but prints `{\rtf15\n}`, which lexes as
  `\rtf` with parameter 15: `wellFormed = false` (signature).  `hfirst`: the control word `\rtf1` may be followed by
  the first printed character of the head (it is not a digit or a blank).
* an input word of a row may be `u` / `uc` (`wordOk` does not exclude them).  `head = []`,
  `rows = [⟨0, "u".toList, []⟩]` satisfies all the other hypotheses (`rowOk = true`, no cells), but prints
  `{\rtf1\n\trowd\trgaph0\trleft0\u\n\intbl\row\pard\n}`: `wellFormed = false` (`\u` without parameter).
  `rowNoU r` in `hrows`: none of the input words of the row is `u` / `uc`. -/
theorem C01e_rows_doc_wellformed (head : List Node) (rows : List RowFmt)
    (hplain : plainNodes head = true) (hnou : noUNodes head = true)
    (hadj : nodesOk (head ++ [Node.nl]) none = true)
    (hfirst : nodeOk (Node.cw "rtf".toList (some 1) false) (printNodes (head ++ [Node.nl])).head? = true)
    (hrows : ∀ r ∈ rows, rowOk r = true ∧ rowNoU r = true ∧ ∀ c ∈ r.cells, uForm c.body = true) :
    wellFormed (printDoc (rowsDoc (head ++ [Node.nl]) rows)) = true :=
  Props.C01.C01_grammar_wellformed _ (Proofs.Emit.rowsDoc_ok head rows hplain hnou hadj hfirst hrows)

/-- the two counterexamples that make `hfirst` and `rowNoU` necessary (see the comments above) -/
example : plainNodes [Node.txt ['5']] = true ∧ noUNodes [Node.txt ['5']] = true ∧
    nodesOk ([Node.txt ['5']] ++ [Node.nl]) none = true ∧
    wellFormed (printDoc (rowsDoc ([Node.txt ['5']] ++ [Node.nl]) [])) = false := by decide
example : rowOk ⟨0, "u".toList, []⟩ = true ∧
    wellFormed (printDoc (rowsDoc ([] ++ [Node.nl]) [⟨0, "u".toList, []⟩])) = false ∧
    uOk 1 [] 0 (toksNodes (rowNodesFull ⟨0, "u".toList, []⟩) ++ []) = false ∧ uOk 1 [] 0 [] = true := by decide

/-- non-vacuity: a two-cell row with a bold red cell containing an escaped é -/
def exT : TextFmt := ⟨false, 15, 15, none, 0, 0, 0, "qc".toList, 18, 0, some 2, none, ["b".toList]⟩
def exB : BorderFmt := ⟨"brdrs".toList, 15, none⟩
def exBody : List Node :=
  [Node.txt "caf".toList, Node.cw "uc".toList (some 1) false, Node.cw "u".toList (some 233) false, Node.txt "*".toList]
def exC1 : CellFmt := ⟨some exB, some exB, none, some exB, ["clvertalt".toList], 4500, exT, exBody⟩
def exC2 : CellFmt := ⟨some exB, some exB, some exB, some exB, ["clvertalt".toList], 9000, exT, [Node.txt "x".toList]⟩
def exR : RowFmt := ⟨108, "trqc".toList, [exC1, exC2]⟩

example : rowOk exR = true ∧ rowNoU exR = true ∧ uForm exBody = true := by decide
example : wellFormed (printDoc (rowsDoc [cw0 "ansi", Node.nl] [exR, exR])) = true := by decide +kernel

/-- the hypotheses of the main theorem are satisfiable (the theorem applied to the example) -/
example : wellFormed (printDoc (rowsDoc ([cw0 "ansi"] ++ [Node.nl]) [exR, exR])) = true :=
  C01e_rows_doc_wellformed [cw0 "ansi"] [exR, exR] (by decide) (by decide) (by decide) (by decide)
    (by simp only [List.mem_cons, List.not_mem_nil, or_false, or_self, forall_eq]; decide)

end Props.C01emit
