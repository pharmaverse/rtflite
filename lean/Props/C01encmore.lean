import Model.EncodeMulti
import Model.EncodeFigure
import Model.EncodeDomainMore
import Proofs.EncodeMulti
import Proofs.EncodeFigure
import Props.C01
import Props.C01enc
import Proofs.FontTable
/-!
# C01 for the multi-section and the figure-only encoder models

`Model.EncodeMulti.encodeWithM` (`_encode_multi_section`, driver op `encode_multi`) and
`Model.EncodeFigure.encodeWithF` (`_encode_figure_only`, driver op `encode_figure`) build their output as instances of
the grammar of `Model/RtfDoc.lean`, like the single-section model.  The theorems: every document of the domain
(`Model/EncodeDomainMore.lean`) that these encoders accept prints to well-formed RTF.

* multi-section: `InDomainMulti d` = every per-section document `sectionDoc` is `InDomain` (+ the page header / footer
  texts of the original document, from which the preamble is built).  Each section goes through
  `Model.Encode.encodePages` with the DOCUMENT-wide colour context; `Proofs.Encode.encodePages_ok` holds for every
  colour context, so the single-section result carries over section by section.
* a single frame under a nested header list (`encodeWithNested1`) is the single-section encoder on the concatenated
  list: C01 follows from `C01_encode_wellformed` directly.
* figure-only: `InDomainFig d` = admissible texts; a source rendered as table additionally needs the width clauses.
  The picture data needs no clause.  FINDING: with no figure the encoder returns the EMPTY string, which is not an RTF
  document (`C01encmore_finding_no_figures`); the string-level theorem therefore assumes `d.figs ≠ []`.
-/
namespace Props.C01encmore
open Model.Rtf Model.Emit Model.Encode Model.EncodeDomain Model.EncodeMulti Model.EncodeFigure Model.EncodeDomainMore

/-! ## multi-section -/

/-- the grammar's side condition for the document the multi-section encoder returns (entry point of the driver op) -/
theorem C01encmore_multi_docOk (measure : Measure) (d : MDoc) (x : DocG × Nat) (h : encodeWithM measure d = .ok x)
    (hdom : InDomainMulti d) : docOk x.1 = true :=
  Proofs.EncodeMulti.encodeWithM_docOk h hdom

/-- **C01 for the multi-section encoder** -/
theorem C01_encodeMulti_wellformed (measure : Measure) (d : MDoc) (g : DocG) (h : encodeM measure d = .ok g)
    (hdom : InDomainMulti d) : wellFormed (printDoc g) = true :=
  Props.C01.C01_grammar_wellformed g (Proofs.EncodeMulti.encodeM_docOk h hdom)

theorem C01_encodeWithM_wellformed (measure : Measure) (d : MDoc) (x : DocG × Nat)
    (h : encodeWithM measure d = .ok x) (hdom : InDomainMulti d) : wellFormed (printDoc x.1) = true :=
  Props.C01.C01_grammar_wellformed x.1 (C01encmore_multi_docOk measure d x h hdom)

/-- the same on the string `rtf_encode()` returns -/
theorem C01_encodeTextM_wellformed (measure : Measure) (d : MDoc) (s : List Char)
    (h : encodeTextM measure d = .ok s) (hdom : InDomainMulti d) : wellFormed s = true := by
  unfold encodeTextM at h
  obtain ⟨g, hg, rfl⟩ := Proofs.Encode.map_ok h
  exact C01_encodeMulti_wellformed measure d g hg hdom

/-- a single frame under a nested header list -/
theorem C01_encodeNested1_wellformed (measure : Measure) (d : Doc) (hs : List (List (Option Header))) (x : DocG × Nat)
    (h : encodeWithNested1 measure d hs = .ok x) (hdom : InDomain { d with headers := hs.flatten }) :
    wellFormed (printDoc x.1) = true :=
  Props.C01.C01_grammar_wellformed x.1 (Proofs.EncodeMulti.encodeWithNested1_docOk h hdom)

/-! ## figure-only -/

theorem C01encmore_figure_docOk (d : FDoc) (g : DocG) (n : Nat) (h : encodeWithF d = .ok (some g, n))
    (hdom : InDomainFig d) : docOk g = true :=
  Proofs.EncodeFigure.encodeWithF_docOk h hdom

/-- **C01 for the figure-only encoder**: whenever it returns a document, the document is well-formed -/
theorem C01_encodeFigure_wellformed (d : FDoc) (g : DocG) (n : Nat) (h : encodeWithF d = .ok (some g, n))
    (hdom : InDomainFig d) : wellFormed (printDoc g) = true :=
  Props.C01.C01_grammar_wellformed g (C01encmore_figure_docOk d g n h hdom)

/-- the same on the string `rtf_encode()` returns; `hne`: there is at least one figure (see the finding below) -/
theorem C01_encodeTextF_wellformed (d : FDoc) (s : List Char) (h : encodeTextF d = .ok s) (hdom : InDomainFig d)
    (hne : d.figs ≠ []) : wellFormed s = true := by
  obtain ⟨g, rfl, hg⟩ := Proofs.EncodeFigure.encodeTextF_docOk h hdom hne
  exact Props.C01.C01_grammar_wellformed g hg

/-- the picture data is a valid text hole whatever the file bytes are -/
theorem C01encmore_payload_hole (bytes : List Nat) :
    plainNodes (textNodes (Model.Figure.hexLines bytes)) = true ∧
    nodesOk (textNodes (Model.Figure.hexLines bytes)) (some '}') = true :=
  let h := Proofs.EncodeFigure.hole_okc _ (Proofs.EncodeFigure.okc_hexLines bytes)
  ⟨h.1, h.2.1⟩

/-! ## non-vacuity and findings -/

open Props.C01enc in
def exBody : Body :=
  { attrs := exTbl, colRelWidth := some [1, 2], asColheader := true, groupBy := none, pageBy := none,
    sublineBy := none, newPage := false, pagebyHeader := true, pagebyColumn := true }

open Props.C01enc in
/-- two sections; flat header list, so the column header row appears in section 0 only; title on the first page,
footnote (two lines) after the last section -/
def exMulti : MDoc :=
  { sections := [{ cols := ["a".toList, "b".toList], rows := [[some "x".toList, some "1".toList]], body := exBody,
                   headers := [] },
                 { cols := ["a".toList, "b".toList], rows := [[some "n>=3".toList, some "é".toList]], body := exBody,
                   headers := [] }],
    nested := false, flatHeaders := [some { text := none, colRelWidth := none, attrs := exTbl }],
    page := exPage, pageHeader := none, pageFooter := none,
    title := some { text := some ["Title".toList], attrs := exText }, subline := none,
    footnote := some { text := some "note 1\\line note 2".toList, asTable := true, colRelWidth := some [1],
                       attrs := exTbl },
    source := none }

open Props.C01enc in
/-- two figures (PNG suffix, arbitrary bytes), title on every page, footnote on the last -/
def exFig (figs : List FigFile) : FDoc :=
  { figs := figs, widths := [5], heights := [4, 3], align := "center", page := exPage,
    pageHeader := none, pageFooter := none,
    title := some { text := some ["Figure x^2".toList], attrs := exText }, subline := none,
    footnote := some { text := some "note é".toList, asTable := true, colRelWidth := some [1], attrs := exTbl },
    source := none, body := some exTbl, headers := [] }

def exFigs : List FigFile :=
  [{ suffix := ".png".toList, bytes := [137, 80, 78, 71, 1, 255] }, { suffix := ".PNG".toList, bytes := [0, 17] }]

set_option maxRecDepth 100000

/-- the two-section example is in the domain … -/
example : InDomainMulti exMulti := by decide +kernel

/-- … the encoder accepts it, and by direct evaluation the result satisfies the side condition and is well-formed -/
example : (match encodeM Props.C01enc.exMeasure exMulti with
    | .ok g => docOk g && wellFormed (printDoc g)
    | .error _ => false) = true := by
  simp only [encodeM, encodeWithM, Proofs.FontTable.preamble_eq]
  decide +kernel

/-- the theorem applied to the example -/
example : ∀ g, encodeM Props.C01enc.exMeasure exMulti = .ok g → wellFormed (printDoc g) = true :=
  fun g h => C01_encodeMulti_wellformed _ exMulti g h (by decide +kernel)

/-- the two-figure example is in the domain, is accepted, and its output is well-formed (direct evaluation) -/
example : InDomainFig (exFig exFigs) := by decide +kernel

example : (match encodeWithF (exFig exFigs) with
    | .ok (some g, _) => docOk g && wellFormed (printDoc g)
    | _ => false) = true := by
  simp only [encodeWithF, Proofs.FontTable.preambleF_eq]
  decide +kernel

example : ∀ s, encodeTextF (exFig exFigs) = .ok s → wellFormed s = true :=
  fun s h => C01_encodeTextF_wellformed (exFig exFigs) s h (by decide +kernel) (by decide)

/-- FINDING (empty output).  A figure-only document without figures (`rtf_figure.figures` empty) is in the domain, the
encoder accepts it and returns the EMPTY string — not an RTF document (no `{\rtf1`, no group).  The hypothesis
`d.figs ≠ []` of `C01_encodeTextF_wellformed` cannot be dropped.  (rtflite now refuses such a document at construction
— repo fix 359e88c — so this post-construction state is no longer reachable through the constructors.) -/
theorem C01encmore_finding_no_figures :
    inDomainFig (exFig []) = true ∧
    (match encodeTextF (exFig []) with
     | .ok s => s.isEmpty && !wellFormed s
     | .error _ => false) = true := by decide +kernel

open Props.C01enc in
/-- The former finding `\\cellx0` on the figure path is repaired in rtflite (a table-rendered footnote / source is one
cell ending at the LAST boundary of its width vector, i.e. the table's right edge): a source rendered as table with
`col_rel_width = [1, 100000]` now prints to well-formed RTF.  It lies outside `InDomainFig` only because the `firstOk`
clause of `sourceOkF` is sufficient, not necessary, for this component. -/
example :
    let d : FDoc := { exFig exFigs with
      source := some { text := some "src".toList, asTable := true, colRelWidth := some [1, 100000], attrs := exTbl } }
    posW [1, 100000] = true ∧ footTxtOk d.source = true ∧ inDomainFig d = false ∧
    (match encodeWithF d with
     | .ok (some g, _) => docOk g && wellFormed (printDoc g)
     | _ => false) = true := by
  simp only [encodeWithF, Proofs.FontTable.preambleF_eq]
  decide +kernel

end Props.C01encmore
