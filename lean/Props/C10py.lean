import Generated.PyEscapeNonAscii
import Model.Escape
/-!
# C10 — translator tie for the non-ASCII escaper

`Generated.Py.EscapeNonAscii.run` is regenerated on every run from `TextContent._escape_non_ascii`.
It equals `Model.Escape.escape`, the function C10's round-trip theorems are about, on every list of code points
(Python strings hold code points `< 0x110000`; the equality needs no bound).
-/
namespace Props.C10py
open Model.Escape
open Generated.Py.EscapeNonAscii (loop1 loop2)
abbrev PSt := Generated.Py.EscapeNonAscii.St
abbrev pyRun := Generated.Py.EscapeNonAscii.run

theorem signed_eq (u : Nat) :
    ((u : Int) - if decide ((u : Int) < 32768) = true then (0 : Int) else 65536) = signed16 u := by
  unfold signed16
  by_cases h : u < 32768
  · have h' : ((u : Int) < 32768) := by omega
    rw [if_pos h, if_pos (by simpa using h')]; omega
  · have h' : ¬ ((u : Int) < 32768) := by omega
    rw [if_neg h, if_neg (by simpa using h')]

/-- the inner loop appends one `\uc1\uN*` per UTF-16 unit and touches nothing else that is read later -/
theorem loop2_units (text : List Nat) (x1 : Nat) :
    ∀ (us : List Nat) (s : PSt),
      ((us.map Int.ofNat).foldl (loop2 text x1) s).v0 = s.v0 ++ us.flatMap escUnit := by
  intro us
  induction us with
  | nil => intro s; simp
  | cons u us ih =>
    intro s
    simp only [List.map_cons, List.foldl_cons, List.flatMap_cons]
    rw [ih]
    have := signed_eq u
    simp only [loop2, Int.ofNat_eq_natCast, this, escUnit, Generated.Py.strOfInt, List.append_assoc]

/-- one iteration of the outer loop appends `escapeCp` of the character -/
theorem loop1_cp (text : List Nat) (s : PSt) (c : Nat) :
    (loop1 text s c).v0 = s.v0 ++ escapeCp c := by
  unfold loop1 escapeCp
  simp only [Int.ofNat_eq_natCast]
  by_cases h : c < 128
  · have h' : ((c : Int) < 128) := by omega
    rw [if_pos (by simpa using h'), if_pos h]
  · have h' : ¬ ((c : Int) < 128) := by omega
    rw [if_neg (by simpa using h'), if_neg h]
    by_cases hb : c < 0x10000
    · have hb' : ((c : Int) < 65536) := by omega
      rw [if_pos (by simpa using hb')]
      have := loop2_units text c [c] { s with v1 := (c : Int), v2 := [(c : Int)] }
      simp only [codeUnits, if_pos hb]
      simpa using this
    · have hb' : ¬ ((c : Int) < 65536) := by omega
      rw [if_neg (by simpa using hb')]
      have e1 : (55296 : Int) + ((c : Int) - 65536) / 1024 = ((0xD800 + (c - 0x10000) / 1024 : Nat) : Int) := by
        omega
      have e2 : (56320 : Int) + ((c : Int) - 65536) % 1024 = ((0xDC00 + (c - 0x10000) % 1024 : Nat) : Int) := by
        omega
      have := loop2_units text c [0xD800 + (c - 0x10000) / 1024, 0xDC00 + (c - 0x10000) % 1024]
        { s with v1 := (c : Int), v3 := (c : Int) - 65536,
                 v2 := [(55296 : Int) + ((c : Int) - 65536) / 1024, (56320 : Int) + ((c : Int) - 65536) % 1024] }
      simp only [List.map_cons, List.map_nil, Int.ofNat_eq_natCast, ← e1, ← e2] at this
      simp only [codeUnits, if_neg hb]
      exact this

theorem loop1_all (text : List Nat) : ∀ (t : List Nat) (s : PSt),
    (t.foldl (loop1 text) s).v0 = s.v0 ++ escape t := by
  intro t
  induction t with
  | nil => intro s; simp [escape]
  | cons c t ih => intro s; simp only [List.foldl_cons]; rw [ih, loop1_cp]; simp [escape]

/-- **the translated `_escape_non_ascii` is the model's `escape`**, for every string -/
theorem C10py_escape_translated (t : List Nat) : pyRun t = escape t := by
  unfold pyRun Generated.Py.EscapeNonAscii.run
  simp [loop1_all]

example : pyRun [65, 233, 0x1F600] = escape [65, 233, 0x1F600] := C10py_escape_translated _

end Props.C10py
