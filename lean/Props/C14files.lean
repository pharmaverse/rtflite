import Model.World
import Model.Memo
import Model.WorldFiles
import Proofs.World
import Proofs.Memo
import Proofs.WorldFiles
import Props.C14
import Props.C14memo
/-!
# C14, the files a figure document reads

`Props/C14.lean` proves purity for the process state the code has; `Props/C14memo.lean` says when a process-global
keyed store keeps it.  This file adds the part of the OUTSIDE world an encode reads — the working directory and the
contents of the image files of a figure document (`Model/WorldFiles.lean`) — to the histories: between two operations
a file may be written / replaced / deleted / renamed / touched and the process may change its working directory.

"What a fresh interpreter produces for an equal-valued document" is the outcome of a fresh process in the file
system AS IT IS WHEN THE TARGET IS ENCODED (same working directory, files as they are then).

* `C14files_code_purity`      the code as it is (no store: every `rtf_encode()` opens every file): after any history
                              of operations and file-system events, the target's outcome and the contents it embeds
                              are the fresh process's in the file system reached;
* `C14files_purity`           the same with any store of file contents whose key determines the content;
* `C14files_reads_current`    … and what is embedded is what the paths designate NOW (`Fs.read` of the state reached);
* `C14files_pure_iff`         exactly then (instance of `C14memo_pure_iff`);
* `C14files_spelling_*`       a store keyed by the path as the caller spelled it is not of that kind, and NO file
                              has to change for it to show: the same relative name encoded in one working directory
                              and then in another (`C14files_spelling_cwd_witness`, a history inside the quantifier of
                              C14 as written); a file regenerated between two encodes (`…_rewrite_witness`);
* `C14files_resolved_*`       a store keyed by the resolved path survives every history that changes no file
                              (`C14files_resolved_pure_readonly`) and fails on a rewrite;
* `C14files_fingerprint_faithful`  a key that contains a fingerprint of the file's present content is harmless.
-/
namespace Props.C14files
open Model.Memo Model.World Proofs.Memo Proofs.WorldFiles

variable {κ : Type} [DecidableEq κ]

/-- With a store whose key determines the content: after any history of operations (encodes read through the store,
failing ones too) and file-system events, the target's modelled outcome and the content every one of its paths is
answered with are those of a fresh process in the file system as it is then. -/
theorem C14files_purity (S : Spec FileReq κ (Option Content)) (hF : Faithful S) (q : Paths) (T : Table) (w₀ : World)
    (fs₀ : Fs) (ops : List FOp) (c : Ctor) :
    encodeCtorF S q T (runF S q T (freshF w₀ fs₀) ops) c
      = encodeCtorF S q T (freshF w₀ (fs₀.run (eventsF ops))) c :=
  purityOn S (faithfulOn_of_faithful hF) q T w₀ fs₀ ops c (fun _ => trivial) (fun _ _ _ _ _ => trivial)

/-- … and those contents are what the document's paths designate in the file system as it is then: a relative path
against the working directory of that moment, the bytes the file holds at that moment. -/
theorem C14files_reads_current (key : FileReq → κ) (hF : Faithful (readSpec key)) (q : Paths) (T : Table) (w₀ : World)
    (fs₀ : Fs) (ops : List FOp) (c : Ctor) (d : Doc) (hc : construct w₀.heap w₀.frames c = .ok d) :
    (encodeCtorF (readSpec key) q T (runF (readSpec key) q T (freshF w₀ fs₀) ops) c).2
      = (q w₀.heap d).map (fs₀.run (eventsF ops)).read := by
  rw [C14files_purity (readSpec key) hF q T w₀ fs₀ ops c]
  simp only [encodeCtorF, freshF, hc, List.map_map,
    (readDoc_soundOn _ (faithfulOn_of_faithful hF) q _ _ (fun _ => trivial) _ (soundOn_nil _ _) d).2]
  rfl

/-- no store: every request is its own key -/
theorem C14files_nostore_faithful : Faithful noStore := fun _ _ h => by cases h; rfl

/-- The code as it is: after any history of operations and file-system events, the target's outcome and the contents
it embeds are those of a fresh process in the file system as it is when the target is encoded. -/
theorem C14files_code_purity (q : Paths) (T : Table) (w₀ : World) (fs₀ : Fs) (ops : List FOp) (c : Ctor) :
    encodeCtorF noStore q T (runF noStore q T (freshF w₀ fs₀) ops) c
      = encodeCtorF noStore q T (freshF w₀ (fs₀.run (eventsF ops))) c :=
  C14files_purity noStore C14files_nostore_faithful q T w₀ fs₀ ops c

/-- Exactly then: every file read is answered with the file's present content after every history of reads iff the
key determines the content (`C14memo_pure_iff` for stores of file contents). -/
theorem C14files_pure_iff (key : FileReq → κ) :
    (∀ (hist : List FileReq) (r : FileReq), (ask (readSpec key) (askAll (readSpec key) [] hist).1 r).2 = r.fs.read r.path)
      ↔ Faithful (readSpec key) :=
  Props.C14memo.C14memo_pure_iff (readSpec key)

/-- two report directories, each with its own, unchanged `fig.png` (name 0): contents 10 and 11 -/
def twoDirs (cwd : Nat) : Fs := { cwd := cwd, files := [((0, 0), 10), ((1, 0), 11)] }

/-- Keyed by the path as spelled: the same relative name in two working directories — no file differs between the
two requests, only the directory the process is in. -/
theorem C14files_spelling_not_faithful : ¬ Faithful spellingKey := by
  intro h
  have := h { fs := twoDirs 0, path := .rel 0 } { fs := twoDirs 1, path := .rel 0 } rfl
  exact absurd this (by decide)

/-- … and an absolute spelling does not save it: the file was regenerated between the two requests. -/
theorem C14files_spelling_not_faithful_abs : ¬ Faithful spellingKey := by
  intro h
  have := h { fs := twoDirs 0, path := .abs 0 0 } { fs := (twoDirs 0).step (.write 0 0 12), path := .abs 0 0 } rfl
  exact absurd this (by decide)

/-- Keyed by the resolved path: the working directory no longer matters, a rewrite still does. -/
theorem C14files_resolved_not_faithful : ¬ Faithful resolvedKey := by
  intro h
  have := h { fs := twoDirs 0, path := .abs 0 0 } { fs := (twoDirs 0).step (.write 0 0 12), path := .rel 0 } rfl
  exact absurd this (by decide)

/-- Keyed by the resolved path, the store is harmless as long as NO FILE CHANGES: after any history of operations,
changes of the working directory and touches, the target's outcome and embedded contents are the fresh process's. -/
theorem C14files_resolved_pure_readonly (q : Paths) (T : Table) (w₀ : World) (fs₀ : Fs) (ops : List FOp) (c : Ctor)
    (hro : (eventsF ops).all (fun e => !e.changesFiles) = true) :
    encodeCtorF resolvedKey q T (runF resolvedKey q T (freshF w₀ fs₀) ops) c
      = encodeCtorF resolvedKey q T (freshF w₀ (fs₀.run (eventsF ops))) c := by
  -- every request of such a history is made over the files of the start
  apply purityOn resolvedKey (resolvedKey_faithfulOn fs₀.files) q T w₀ fs₀ ops c (fun _ => rfl)
  intro fs e he h p
  have hne : e.changesFiles = false := by simpa using List.all_eq_true.mp hro e he
  exact (step_files_of_not_changes fs e hne).trans (h p)

/-- A key that contains a fingerprint of what the file holds now determines the content. -/
theorem C14files_fingerprint_faithful : Faithful fingerprintKey := by
  intro r r' h
  have h2 : r.fs.read r.path = r'.fs.read r'.path := (Prod.mk.inj h).2
  exact h2

/-- a figure document always constructs; its paths are put in by `q` -/
def figCtor : Ctor := { kind := .figure, secs := [], headers := .default, others := [] }

/-- In the world, NO FILE CHANGING: a document naming `fig.png` is encoded in directory 0, the process changes into
directory 1 (which holds its own `fig.png`), the target naming `fig.png` is encoded there.  With the store keyed by
the spelling the target embeds directory 0's file; a fresh process in directory 1 embeds directory 1's. -/
theorem C14files_spelling_cwd_witness :
    let q : Paths := fun _ _ => [.rel 0]
    let other : Ctor := { figCtor with others := [7] }
    let ops : List FOp := [.op (.construct 0 other), .op (.encode 0), .ev (.chdir 1)]
    (eventsF ops).all (fun e => !e.changesFiles) = true ∧
    (encodeCtorF spellingKey q [] (runF spellingKey q [] (freshF (fresh [] []) (twoDirs 0)) ops) figCtor).2 = [some 10] ∧
    (encodeCtorF spellingKey q [] (freshF (fresh [] []) ((twoDirs 0).run (eventsF ops))) figCtor).2 = [some 11] := by
  decide

/-- In the world, a file regenerated between two encodes (absolute path, the working directory never changes): the
target embeds the old plot, a fresh process the new one. -/
theorem C14files_spelling_rewrite_witness :
    let q : Paths := fun _ _ => [.abs 0 0]
    let other : Ctor := { figCtor with others := [7] }
    let ops : List FOp := [.op (.construct 0 other), .op (.encode 0), .ev (.write 0 0 12)]
    (encodeCtorF spellingKey q [] (runF spellingKey q [] (freshF (fresh [] []) (twoDirs 0)) ops) figCtor).2 = [some 10] ∧
    (encodeCtorF spellingKey q [] (freshF (fresh [] []) ((twoDirs 0).run (eventsF ops))) figCtor).2 = [some 12] := by
  decide

/-- … the same with the store keyed by the resolved path, and with the SAME document encoded twice around the
rewrite (no other document involved). -/
theorem C14files_resolved_rewrite_witness :
    let q : Paths := fun _ _ => [.rel 0]
    let ops : List FOp := [.op (.construct 0 figCtor), .op (.encode 0), .ev (.write 0 0 12)]
    encodeCtorF resolvedKey q [] (runF resolvedKey q [] (freshF (fresh [] []) (twoDirs 0)) ops) figCtor
      ≠ encodeCtorF resolvedKey q [] (freshF (fresh [] []) ((twoDirs 0).run (eventsF ops))) figCtor := by
  decide

/-- Non-vacuity of `C14files_code_purity`: on the history of `C14files_spelling_cwd_witness` the code as it is embeds
directory 1's file. -/
example :
    (encodeCtorF noStore (fun _ _ => [.rel 0]) [] (runF noStore (fun _ _ => [.rel 0]) []
        (freshF (fresh [] []) (twoDirs 0))
        [.op (.construct 0 { figCtor with others := [7] }), .op (.encode 0), .ev (.chdir 1)]) figCtor).2 = [some 11] := by
  decide

end Props.C14files
