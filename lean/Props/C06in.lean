import Model.HeaderInput
/-!
# C06 — the container the column headers are handed over in

C06's statement speaks about the configured header rows ("column headers appear on the first page and on every later
page exactly when pageby_header is true"); `Model.Layout.LDoc.headers` / `Model.Encode.Doc.headers` are the LIST of
those rows.  `Model.HeaderInput` is the step before: what the constructor and the renderer's type guards make of the
Python container.  The theorems say that for every spelling the constructors accept the rows that reach the header
loop are the configured rows, in order — and why: the constructor hands on a `list`, the only sequence type the
guards recognise (`C06in_tuple_unrecognised` is what a tuple that survived construction would mean).
-/
namespace Props.C06in
open Model.HeaderInput

-- `α`: a header row; `f`: what the constructor does to one row (it fills in the body's widths where the row has none)
variable {α : Type} (f : α → α)

/-- a non-empty flat sequence of header rows, list or tuple, is a LIST of the resolved rows after construction -/
theorem C06in_post_is_list (box : Box) (r : α) (rows : List α) :
    construct f none (.flat box ((r :: rows).map some)) = .ok (.flat .list ((r :: rows).map (fun h => some (f h)))) := by
  simp [construct, validate, initFlatPath, List.all_map]

/-- single table: whatever the container — list or tuple, any number of rows (none included) — exactly the
configured rows reach the header loop, in order, with the body's widths inherited -/
theorem C06in_flat_spelling (box : Box) (rows : List α) :
    renderedOf f none (.flat box (rows.map some)) = .ok [rows.map f] := by
  cases rows with
  | nil => cases box <;> simp [renderedOf, construct, validate, initFlatPath, renderedDoc, rendered, toProcess, Except.map]
  | cons r rows =>
    simp only [renderedOf, C06in_post_is_list, renderedDoc, rendered, toProcess, Except.map]
    simp [List.filterMap_map]

/-- a single `RTFColumnHeader` object is the one-element list -/
theorem C06in_single (nsec : Option Nat) (h : α) :
    construct f nsec (.single h) = construct f nsec (.flat .list [some h]) := by
  simp [construct, validate]

theorem C06in_single_rendered (h : α) : renderedOf f none (.single h) = .ok [[f h]] := by
  simp [renderedOf, construct, validate, initFlatPath, renderedDoc, rendered, toProcess, Except.map]

/-- the same table handed over as a one-section list (df=[frame], rtf_body=[body]) with flat headers: the same
field value, and section 0 renders with the whole of it -/
theorem C06in_one_section_list (box : Box) (rows : List (Option α)) :
    construct f (some 1) (.flat box rows) = construct f none (.flat box rows) := by
  by_cases h : rows.all Option.isSome = true
  · simp only [construct, validate, h, if_true]
    rfl
  · simp only [construct, validate, h]
    rfl

theorem C06in_one_section_rendered (box : Box) (rows : List α) :
    renderedOf f (some 1) (.flat box (rows.map some)) = .ok [rows.map f] := by
  cases rows with
  | nil =>
    cases box <;>
      simp [renderedOf, construct, validate, initMulti, initFlatPath, renderedDoc, rendered, toProcess, sectionVal,
        isNestedList, List.range, List.range.loop, List.mapM_cons, List.mapM_nil, pure, Except.pure, bind, Except.bind]
  | cons r rows =>
    have h := C06in_post_is_list f box r rows
    rw [← C06in_one_section_list] at h
    simp only [renderedOf, h, renderedDoc]
    simp [rendered, toProcess, sectionVal, isNestedList, List.range, List.range.loop, List.mapM_cons, List.mapM_nil,
      pure, Except.pure, bind, Except.bind, List.filterMap_map]

/-- the type guards recognise no header in a tuple: a tuple that reached the renderer would render nothing -/
theorem C06in_tuple_unrecognised (rows : List (Option α)) : rendered (.flat .tuple rows) = .ok [] := by
  simp [rendered, toProcess]

/-- recorded domain decision: nested headers (any section non-empty) on a single table are refused at construction -/
theorem C06in_nested_refused (box : Box) (secs : List (Box × List (Option α)))
    (h : secs.any (fun s => !s.2.isEmpty) = true) :
    construct f none (.nested box secs) = .error .attribute := by
  have hne : secs.isEmpty = false := by
    cases secs with
    | nil => simp at h
    | cons _ _ => rfl
  simp [construct, validate, initFlatPath, hne, h]

/-- per-section headers: a list (or tuple) of `n` sections whose first is a list renders section i's own rows -/
theorem C06in_nested_sections (box : Box) (s0 : List (Option α)) (rest : List (Box × List (Option α))) (n : Nat)
    (hn : (rest.length + 1) = n) :
    ∃ secs', construct f (some n) (.nested box ((.list, s0) :: rest)) = .ok (.nested .list secs') ∧
      secs'.length = n ∧
      ∀ i : Nat, (secs'[i]?).map (fun (s : Box × List (Option α)) => s.2) =
        (((Box.list, s0) :: rest)[i]?).map (fun (s : Box × List (Option α)) => s.2.map (Option.map f)) := by
  refine ⟨((Box.list, s0) :: rest).map fun (s : Box × List (Option α)) =>
    if s.2.isEmpty then s else (.list, s.2.map (Option.map f)), ?_, ?_, ?_⟩
  · simp [construct, validate, initMulti, firstIsList, hn]
  · simp [hn]
  · intro i
    simp only [List.getElem?_map, Option.map_map]
    congr 1
    funext s
    by_cases hs : s.2 = []
    · simp [hs]
    · simp [hs]

/-- non-vacuity: two rows (one with own widths) as a tuple; the one-section list; the refused tuple of tuples -/
example : renderedOf (fun (h : Nat × Bool) => (h.1, true)) none (.flat .tuple [some (0, true), some (1, false)])
    = .ok [[(0, true), (1, true)]] := by rfl
example : renderedOf (fun (h : Nat × Bool) => (h.1, true)) (some 1) (.flat .tuple [some (0, true)])
    = .ok [[(0, true)]] := by rfl
example : construct (fun (h : Nat × Bool) => (h.1, true)) none (.nested .tuple [(.tuple, [some (0, true)])])
    = .error .attribute := by rfl
example : renderedOf (fun (h : Nat × Bool) => (h.1, true)) (some 2)
    (.nested .tuple [(.list, [some (0, false)]), (.tuple, [none])]) = .ok [[(0, true)], []] := by rfl

end Props.C06in
