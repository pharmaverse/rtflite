import Model.EncodeFigure
import Model.Figure
import Proofs.EncodeFigureLift
import Proofs.Figure
import Props.C16enc
/-!
# C06 for figure documents: one page per FIGURE, whatever the shape of `fig_width` / `fig_height`

C06's quantifier names "figure documents with 1..n figures".  `RTFFigure` takes the sizes as "single value or list"; the
page loop of `_encode_figure_only` resolves the size of figure `j` with `_get_dimension` (`Model.Figure.getDim`:
positional, the LAST value reused for the figures beyond the list).  The statement's pages, and its `first` / `last`,
are therefore those of the FIGURE list; the length of a size list must enter nowhere.  For the encoder model
`Model.EncodeFigure.encodeWithF` (byte-exact against `rtf_encode()`; `harness/props/c06.py: run_figure_docs` ties the
role sequences per page for sizes given as scalar / one entry / fewer, as many, more entries than figures, list or tuple):

* `C06fig_dims_total`     a non-empty size list answers EVERY position: the entry at the position, the last entry beyond
                          the list — a list shorter than the figure list is no refusal and ends no loop;
* `C06fig_page`           an accepted document has `figs.length` pages and page `j` is, in this order, title slot, subline,
                          picture, `\par`, footnote, source — each exactly when its placement selects page `j` of
                          `figs.length` (`first` ↔ `j = 0`, `last` ↔ `j + 1 = figs.length`), a page break between
                          consecutive pages and none after the last;
* `C06fig_roles_independent_of_sizes`   the roles of page `j` are a function of the placements, the components present
                          and the figure count alone: two documents that differ in `fig_width` / `fig_height` only (any
                          lengths) have the same roles on every page;
* `C06fig_single_page`    with one figure the three placements coincide.
-/
namespace Props.C06fig
open Model.Rtf Model.Emit Model.Encode Model.EncodeFigure
open Model.Figure (Pict Piece Cfg figureLoop pageBody getDim splitPages)
open Proofs.EncodeFigureLift

/-- the pieces C06 prescribes for page `j` of `N` of a figure document, in order -/
def prescribed (d : FDoc) (N j : Nat) (p : Pict) : List Piece :=
  (if d.page.pageTitle.shows (j == 0) (j + 1 == N) then [.title] else []) ++
  (if d.subline.isSome && d.page.pageTitle.shows (j == 0) (j + 1 == N) then [.subline] else []) ++
  [.pict p, .par] ++
  (if d.footnote.isSome && d.page.pageFootnote.shows (j == 0) (j + 1 == N) then [.footnote] else []) ++
  (if d.source.isSome && d.page.pageSource.shows (j == 0) (j + 1 == N) then [.source] else [])

/-- the role of a piece (the picture without its content) -/
def role : Piece → Nat
  | .title => 0 | .subline => 1 | .pict _ => 2 | .par => 3 | .footnote => 4 | .source => 5 | .pageBreak => 6

theorem pageBody_eq_prescribed (d : FDoc) (N j : Nat) (p : Pict) : pageBody (cfgOf d) N j p = prescribed d N j p := by
  simp only [pageBody, prescribed, cfgOf, shows_figPl, Bool.true_and]

/-- a non-empty size list answers every position — the entry at the position, beyond the list its last entry -/
theorem C06fig_dims_total (dims : List Rat) (hne : dims ≠ []) (j : Nat) :
    ∃ v, getDim dims j = some v ∧ (∀ h : j < dims.length, v = dims[j]) ∧ (dims.length ≤ j → v = dims.getLast hne) := by
  by_cases hj : j < dims.length
  · refine ⟨dims[j], Props.C16.C16_dim_positional dims j hj, fun _ => rfl, fun h => absurd hj (Nat.not_lt.mpr h)⟩
  · refine ⟨dims.getLast hne, Props.C16.C16_dim_last_reused dims j (Nat.le_of_not_lt hj) hne, fun h => absurd h hj,
      fun _ => rfl⟩

/-- **C06 on figure documents.**  Every accepted figure document — whatever the lengths of its size lists — has as many
pages as FIGURES, one page break fewer, and page `j` carries exactly the prescribed pieces in the prescribed order, the
placements evaluated against the figure count -/
theorem C06fig_page (d : FDoc) (g : DocG) (n : Nat) (h : encodeWithF d = .ok (some g, n)) :
    ∃ picts, PictsOf d picts ∧
      g.blocks = (figureLoop (cfgOf d) picts).flatMap (renderPiece d) ++ [BlockG.plain [Node.nl, Node.nl]] ∧
      (splitPages (figureLoop (cfgOf d) picts)).length = d.figs.length ∧
      (figureLoop (cfgOf d) picts).count Piece.pageBreak + 1 = d.figs.length ∧
      ∀ j, j < d.figs.length → ∃ p, picts[j]? = some p ∧
        (splitPages (figureLoop (cfgOf d) picts))[j]? = some (prescribed d d.figs.length j p) := by
  obtain ⟨hne, picts, hP, hb⟩ := Props.C16enc.C16enc_structure d g n h
  refine ⟨picts, hP, hb, Props.C16enc.C16enc_page_count d picts hP hne, Props.C16enc.C16enc_breaks d picts hP hne, ?_⟩
  intro j hj
  have hj' : j < picts.length := by rw [hP.length]; exact hj
  refine ⟨picts[j], List.getElem?_eq_getElem hj', ?_⟩
  rw [Props.C16enc.C16enc_page_j d picts hP j picts[j] (List.getElem?_eq_getElem hj'), pageBody_eq_prescribed]

/-- the roles of a page do not depend on the sizes: documents that differ in `fig_width` / `fig_height` only — lists of
any lengths — prescribe the same roles for page `j` of `N` -/
theorem C06fig_roles_independent_of_sizes (d : FDoc) (ws hs : List Rat) (N j : Nat) (p p' : Pict) :
    (prescribed { d with widths := ws, heights := hs } N j p').map role = (prescribed d N j p).map role := by
  simp only [prescribed, List.map_append, List.map_cons, List.map_nil, role]

/-- one figure: `first`, `last` and `all` select the only page alike -/
theorem C06fig_single_page (d : FDoc) (pt pf ps : Model.Layout.Placement) (p : Pict) :
    prescribed { d with page := { d.page with pageTitle := pt, pageFootnote := pf, pageSource := ps } } 1 0 p =
      prescribed { d with page := { d.page with pageTitle := .all, pageFootnote := .all, pageSource := .all } } 1 0 p := by
  cases pt <;> cases pf <;> cases ps <;> rfl

/-! ## non-vacuity: THREE figures, `fig_width = [4, 5]` (shorter than the figure list), `fig_height = [3]`; title on
every page, footnote on the last -/

def exShort : FDoc :=
  { Props.C16enc.exFigDoc with
    figs := Props.C16enc.exFigDoc.figs ++ [{ suffix := ".png".toList, bytes := Props.C16.exPng }],
    widths := [4, 5], heights := [3] }

/-- the encoder accepts the example; three pictures at widths 4, 5, 5 (the last value reused) -/
example :
    (match encodeWithF exShort with
     | .ok (some g, _) =>
       (g.blocks.filterMap fun b => match b with
          | BlockG.plain [_, Node.grp (_ :: Node.cw _ none false :: Node.cw _ (some _) _ :: Node.cw _ (some _) _ ::
              Node.cw _ (some wg) _ :: Node.cw _ (some hg) _ :: _)] => some (wg, hg)
          | _ => none) == [(5760, 4320), (7200, 4320), (7200, 4320)]
     | _ => false) = true := by
  decide +kernel

/-- `C06fig_page` applied to it: three pages; title on each, the footnote on the third only -/
example : ∀ g n, encodeWithF exShort = .ok (some g, n) → ∃ picts : List Pict,
    (splitPages (figureLoop (cfgOf exShort) picts)).length = 3 ∧
    ∀ j, j < 3 → ∃ p, (splitPages (figureLoop (cfgOf exShort) picts))[j]? = some (prescribed exShort 3 j p) ∧
      (prescribed exShort 3 j p).map role = if j = 2 then [0, 2, 3, 4] else [0, 2, 3] := by
  intro g n h
  obtain ⟨picts, _, _, hlen, _, hpg⟩ := C06fig_page exShort g n h
  refine ⟨picts, hlen, ?_⟩
  intro j hj
  obtain ⟨p, _, hp⟩ := hpg j hj
  refine ⟨p, hp, ?_⟩
  match j, hj with
  | 0, _ => rfl
  | 1, _ => rfl
  | 2, _ => rfl

end Props.C06fig
