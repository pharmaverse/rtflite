import Generated.PyColWidths
import Model.Widths
/-!
# C08 — translator tie for the cumulative column widths

`Generated.Py.ColWidths.run` is regenerated on every run from the source of `Utils._col_widths` (harness/pytranslate.py):
`sum`, the walrus accumulator of the list comprehension and the float division, in the exception monad
(`ZeroDivisionError` when the relative widths sum to 0), **floats as exact rationals** (the float caveat of DESIGN §6).

This file proves that it is `Model.Widths.colWidthsE` / `colWidths` — the function every C08 theorem (one right edge,
proportional columns) is about — for every list of relative widths and every table width.
-/
-- the `simp` sets below serve several cases at once, or every way the regenerated function may be cut into steps: a
-- lemma that one of them does not call for is not a defect
set_option linter.unusedSimpArgs false
namespace Props.C08py
open Model.Widths Generated.Py Generated.Py.ColWidths

/-- Python's left-to-right `sum` is the model's sum (exact arithmetic) -/
theorem foldl_add (l : List Rat) (a : Rat) : l.foldl (· + ·) a = a + sumQ l := by
  induction l generalizing a with
  | nil => simp [sumQ, Rat.add_zero]
  | cons x xs ih => simp only [List.foldl_cons, ih, sumQ, Rat.add_assoc]

theorem sumRat_eq (l : List Rat) : sumRat l = sumQ l := by
  simp [sumRat, foldl_add, Rat.zero_add]

/-- one element over a non-zero total: no exception; the total is kept, the accumulator grows by this column's share
and is appended to the result (proved from the generated loop body by `simp`, up to commutativity of `+`) -/
theorem loop1_ok (w : List Rat) (W : Rat) (x : Rat) (s : St) (h : s.v0 ≠ 0) :
    ∃ s1, loop1 w W s x = .ok s1 ∧ s1.v0 = s.v0 ∧
      s1.v1 = s.v1 + x * W / s.v0 ∧ s1.v2 = s.v2 ++ [s1.v1] := by
  have hd : ∀ a : Rat, pyDiv a s.v0 = .ok (a / s.v0) := by intro a; simp [pyDiv, h]
  refine ⟨_, by simp only [loop1, hd, bind, Except.bind, pure, Except.pure]; rfl, ?_, ?_, ?_⟩ <;>
    simp [Rat.add_comm, Rat.mul_comm]

/-- the comprehension over a non-zero total: no exception, the accumulator runs through `cumFrom` -/
theorem loop_ok (w : List Rat) (W : Rat) (l : List Rat) (s : St) (h : s.v0 ≠ 0) :
    ∃ s', l.foldlM (loop1 w W) s = .ok s' ∧ s'.v2 = s.v2 ++ cumFrom s.v0 W s.v1 l := by
  induction l generalizing s with
  | nil => exact ⟨s, rfl, by simp [cumFrom]⟩
  | cons x xs ih =>
    obtain ⟨s1, e1, ht, hc, hl⟩ := loop1_ok w W x s h
    obtain ⟨s', h1, h2⟩ := ih s1 (ht ▸ h)
    refine ⟨s', ?_, ?_⟩
    · simp only [List.foldlM_cons, e1, bind, Except.bind]
      exact h1
    · rw [h2, hl, ht, hc]; simp [cumFrom]

/-- a zero total: the first element already divides by zero -/
theorem loop_zero (w : List Rat) (W : Rat) (x : Rat) (xs : List Rat) (s : St) (h : s.v0 = 0) :
    (x :: xs).foldlM (loop1 w W) s = .error .ZeroDivisionError := by
  simp [List.foldlM_cons, loop1, pyDiv, h, bind, Except.bind]

/-- **the translated `_col_widths` is the model** (floats as exact rationals): `ZeroDivisionError` exactly when a
non-empty list sums to zero, otherwise the cumulative widths `colWidths` -/
theorem C08py_col_widths_translated (w : List Rat) (W : Rat) :
    run w W = if w ≠ [] ∧ sumQ w = 0 then .error .ZeroDivisionError else .ok (colWidths w W) := by
  by_cases hz : sumQ w = 0
  · cases w with
    | nil => simp [run, colWidths, cumFrom, bind, Except.bind, pure, Except.pure]
    | cons x xs =>
      have := loop_zero (x :: xs) W x xs
        { v0 := sumRat (x :: xs), v1 := 0, v2 := [] } (by simp [sumRat_eq, hz])
      simp only [run, this, bind, Except.bind]
      simp [hz]
  · obtain ⟨s', h1, h2⟩ := loop_ok w W w { v0 := sumRat w, v1 := 0, v2 := [] }
      (by simp [sumRat_eq, hz])
    simp only [run, h1, bind, Except.bind, pure, Except.pure]
    simp [hz, h2, colWidths, sumRat_eq]

/-- in the vocabulary of the model's own exception type -/
theorem C08py_col_widths_model (w : List Rat) (W : Rat) :
    (run w W).toOption = (colWidthsE w W).toOption := by
  rw [C08py_col_widths_translated]
  unfold colWidthsE
  split <;> rfl

example : run [1, 1, 2] 8 = .ok [2, 4, 8] := by
  rw [C08py_col_widths_translated]; decide +kernel

end Props.C08py
