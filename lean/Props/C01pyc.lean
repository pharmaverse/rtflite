import Generated.PyCellAsRtf
import Props.C01py
/-!
# C01 — translator tie for the cell-definition emitter

`Generated.Py.CellAsRtf.run` is regenerated on every run from the source of `Cell._as_rtf` (`row.py`); it calls the
translated `Border._as_rtf`.  Proved here: the string it builds is the printed form of the model's cell definition,
`Model.Emit.cellDefn` (without the newline the caller's `"\n".join` puts in front) followed by `\cellxN` — the
`defn` / `cellx` of the row grammar that C01's well-formedness theorems are about.
-/
namespace Props.C01pyc
open Model.Rtf Model.Emit Generated.Py Generated.Py.CellAsRtf Props.C01py

/-- a border of the Python cell against a border of the model cell: both absent, or the style has the code of the
model's control word and the colour resolves to the model's index -/
def BorderRel (bc : List Nat → Option (List Nat)) (gci : List Nat → Except Exc Int) :
    Option Border → Option BorderFmt → Prop
  | none, none => True
  | some b, some m => bc b.style = some (codeText m.style) ∧ m.width = b.width ∧
      (match b.color with
        | none => m.color = none
        | some c => ∃ k, gci c = .ok k ∧ m.color = some k)
  | _, _ => False

/-- one optional border: the statement `if self.border_x is not None: rtf.append("\\clbrdrx" + …)` appends exactly the
printed `optBorder` (or nothing) -/
theorem border_step (bc gci) (side : String) (pb : Option Border) (mb : Option BorderFmt)
    (h : BorderRel bc gci pb mb) :
    (match pb with
      | none => (pure [] : Except Exc (List (List Nat)))
      | some b => do
        let t ← BorderAsRtf.run bc gci b.style b.width b.color
        pure [cps ('\\' :: side.toList) ++ t]) =
    .ok (match mb with
      | none => []
      | some _ => [cps (printNodes (optBorder side mb))]) := by
  rcases pb with _ | b <;> rcases mb with _ | m <;> simp only [BorderRel] at h
  · rfl
  · obtain ⟨h1, h2, h3⟩ := h
    rcases m with ⟨ms, mw, mc⟩
    simp only at h1 h2 h3
    subst h2
    have := C01py_border_translated bc gci side b.style b.width b.color ms mc h1 h3
    cases hr : BorderAsRtf.run bc gci b.style b.width b.color with
    | error e => rw [hr] at this; simp [Except.map] at this
    | ok r =>
      rw [hr] at this
      simp only [Except.map, Except.ok.injEq] at this
      simp only [hr, bind, Except.bind, pure, Except.pure, optBorder, this]

/-- the same, as a case distinction that a proof about the generated state-passing code can consume -/
theorem border_cases (bc gci) (side : String) (pb : Option Border) (mb : Option BorderFmt)
    (h : BorderRel bc gci pb mb) :
    (pb = none ∧ mb = none) ∨
    (∃ b m r, pb = some b ∧ mb = some m ∧ BorderAsRtf.run bc gci b.style b.width b.color = .ok r ∧
      cps ('\\' :: side.toList) ++ r = cps (printNodes (borderNodes side m))) := by
  have hs := border_step bc gci side pb mb h
  rcases pb with _ | b <;> rcases mb with _ | m
  · exact .inl ⟨rfl, rfl⟩
  · exact False.elim h
  · exact False.elim h
  · dsimp only at hs
    cases ht : BorderAsRtf.run bc gci b.style b.width b.color with
    | error e =>
      rw [ht] at hs
      cases hs
    | ok r =>
      rw [ht] at hs
      injection hs with hs
      exact .inr ⟨b, m, r, rfl, rfl, ht, (List.cons.inj hs).1⟩

/-- The same statement inside the generated state-passing code: it appends the printed border to the list of strings,
or nothing.  The generated `match` differs from border to border (it carries the earlier states along), so it enters as
a function `F` of the border, which `apply` reads off the goal; `h0` and `h1`, both closed by `rfl`, say what `F`
does, and `hp` that the literal in front of the border string is the side's control word. -/
theorem border_stmt {β : Type} {bc gci} (side : String) {pb : Option Border} {mb : Option BorderFmt}
    (h : BorderRel bc gci pb mb) {F : Option Border → Except Exc St} {s : St} {pre : List Nat}
    {f : St → Except Exc β} {r : Except Exc β} (h0 : F none = pure s)
    (h1 : ∀ b, F (some b) = BorderAsRtf.run bc gci b.style b.width b.color >>= fun t =>
      pure { s with v0 := s.v0 ++ [pre ++ t] })
    (hp : pre = cps ('\\' :: side.toList))
    (hr : f { s with v0 := s.v0 ++ match (generalizing := false) mb with
      | none => []
      | some _ => [cps (printNodes (optBorder side mb))] } = r) :
    F pb >>= f = r := by
  subst hr hp
  rcases border_cases bc gci side pb mb h with ⟨rfl, rfl⟩ | ⟨b, m, t, rfl, rfl, ht, hp⟩
  · rw [h0, List.append_nil]
    rfl
  · rw [h1, ht, optBorder, ← hp]
    rfl

theorem flatten_optBorder (side : String) (mb : Option BorderFmt) :
    (match mb with
      | none => []
      | some _ => [cps (printNodes (optBorder side mb))]).flatten = cps (printNodes (optBorder side mb)) := by
  cases mb with
  | none => rfl
  | some m => exact List.append_nil _

/-- **the translated `Cell._as_rtf` prints the model's cell definition and `\cellxN`** -/
theorem C01py_cell_translated (bc gci vac) (i2t : Rat → Int) (bl bt br bb : Option Border)
    (vj : Option (List Nat)) (width : Rat) (c : CellFmt)
    (hl : BorderRel bc gci bl c.left) (ht : BorderRel bc gci bt c.top)
    (hr : BorderRel bc gci br c.right) (hb : BorderRel bc gci bb c.bottom)
    (hv : match vj with
      | none => c.valign = []
      | some v => vac v = some (c.valign.flatMap fun w => cps ('\\' :: w)))
    (hx : i2t width = c.cellx) :
    run bc gci vac i2t bl bt br bb vj width =
      .ok (cps (printNodes ((cellDefn c).tail ++ [cwi "cellx" c.cellx]))) := by
  have ex : cps "cellx".toList = [99, 101, 108, 108, 120] := by decide +kernel
  rcases c with ⟨cl, ct, cr, cb, cv, cx, ctext, cbody⟩
  simp only at hl ht hr hb hv hx
  subst hx
  simp only [CellAsRtf.run]
  -- each of the four guarded statements is replaced by its effect on the list of strings
  apply border_stmt "clbrdrl" hl rfl (fun _ => rfl) (by decide)
  apply border_stmt "clbrdrt" ht rfl (fun _ => rfl) (by decide)
  apply border_stmt "clbrdrr" hr rfl (fun _ => rfl) (by decide)
  apply border_stmt "clbrdrb" hb rfl (fun _ => rfl) (by decide)
  -- the vertical alignment: nothing, or the text of the code table
  rcases vj with _ | v <;> simp only at hv <;>
    simp only [hv, pyDictGet, pure, Except.pure, bind, Except.bind, pyJoin_nil, cellDefn, List.tail_cons, cwi,
      Proofs.Emit.printNodes_append, cps_append, cps_printNodes_cons, cps_printNodes_nil, cps_cw, print_valign, ex,
      List.flatten_append, flatten_optBorder, List.flatten_cons, List.flatten_nil, List.map_nil,
      List.nil_append, List.append_nil, List.append_assoc, List.cons_append]

end Props.C01pyc
