import Generated.PyTextFormatting
import Proofs.PyStr
import Proofs.Emit
import Model.Emit
import Model.Encode
/-!
# C01 — translator tie for the text-formatting emitter

`Generated.Py.TextFormatting.run` is regenerated on every run from the source of `TextContent._get_text_formatting`
(`row.py`).  The function returns `\fsN{\fK…`: the size, the OPENING brace of the text group and the control words inside
it; its callers add `" " + text + "}"`.  Proved here: that string is `\fsN`, `{`, and the printed `Model.Emit.runWords t`
(`C01py_text_formatting_translated`), and `print_plainRun`: with the caller's blank, text and closing brace it is the
printed `Model.Emit.plainRun t text` — the node pair every text run of the model consists of.  The format characters are
taken in the order of `sorted(list(set(format)))`, `Generated.Py.pySortedSet`: strictly increasing with the members of
the string (`pySortedSet_sorted`, `pySortedSet_mem` — which determines it), and equal to the encoder model's `sortedSet`
(`pySortedSet_model`).  A format character without a code raises `ValueError`.
-/
namespace Props.C01pyt
open Model.Rtf Model.Emit Generated.Py Generated.Py.TextFormatting Props.C01py Props.C01pyc

/-- a colour field of the text against the model's optional index: `None` and `""` give no control word, any other
colour resolves to the model's index -/
def ColorRel (gci : List Nat → Except Exc Int) : Option (List Nat) → Option Int → Prop
  | none, m => m = none
  | some c, m => if c.isEmpty then m = none else ∃ k, gci c = .ok k ∧ m = some k

/-- the format characters in emission order: none for `None` (and for `""`) -/
def fmtChars : Option (List Nat) → List Nat
  | none => []
  | some f => pySortedSet f

/-- the emitted format characters against the model's format control words, one to one -/
def FmtRel (fc : List Nat → Option (List Nat)) : List Nat → List (List Char) → Prop
  | [], [] => True
  | ch :: cs, w :: ws => fc [ch] = some (cps ('\\' :: w)) ∧ FmtRel fc cs ws
  | _, _ => False

theorem loop1_fold (p2h gci fc keys) (size : Rat) (font : Int) :
    ∀ (cs : List Nat) (ws : List (List Char)), FmtRel fc cs ws → ∀ (color bg format : Option (List Nat)) (s : St),
      cs.foldlM (loop1 p2h gci fc keys size font color bg format) s =
        .ok { s with v0 := s.v0 ++ ws.map fun w => cps ('\\' :: w) } := by
  intro cs
  induction cs with
  | nil =>
    intro ws h color bg format s
    cases ws <;> simp [FmtRel] at h
    simp [List.foldlM, pure, Except.pure]
  | cons c cs ih =>
    intro ws h color bg format s
    rcases ws with _ | ⟨w, ws⟩ <;> simp only [FmtRel] at h
    obtain ⟨h1, h2⟩ := h
    simp [List.foldlM_cons, loop1, h1, pyDictGet, bind, Except.bind, pure, Except.pure, ih ws h2]

/-- a character without a code stops the loop with `ValueError` -/
theorem loop1_fold_error (p2h gci fc keys) (size : Rat) (font : Int) :
    ∀ (cs : List Nat), (∃ ch ∈ cs, fc [ch] = none) → ∀ (color bg format : Option (List Nat)) (s : St),
      cs.foldlM (loop1 p2h gci fc keys size font color bg format) s = .error .ValueError := by
  intro cs
  induction cs with
  | nil =>
    intro h
    obtain ⟨_, hm, _⟩ := h
    cases hm
  | cons c cs ih =>
    intro h color bg format s
    cases hc : fc [c] with
    | none =>
      simp [List.foldlM_cons, loop1, hc, bind, Except.bind, throw, throwThe, MonadExceptOf.throw]
    | some code =>
      have h' : ∃ ch ∈ cs, fc [ch] = none := by
        obtain ⟨ch, hm, hn⟩ := h
        rcases List.mem_cons.mp hm with rfl | hm
        · rw [hc] at hn; cases hn
        · exact ⟨ch, hm, hn⟩
      simp [List.foldlM_cons, loop1, hc, pyDictGet, bind, Except.bind, pure, Except.pure, ih h']

theorem print_cws (ws : List (List Char)) :
    cps (printNodes (ws.map fun w => Node.cw w none false)) = (ws.map fun w => cps ('\\' :: w)).flatten := by
  rw [print_valign, List.flatMap_def]

/-- The guarded statement of a colour field (`if self.color:` …) inside the generated state-passing code: skipped for
`None` and `""`, run on the model's index otherwise.  The generated `match` differs from statement to statement (it
carries the earlier states along), so it enters as a function `F` of the field, which `apply` reads off the goal;
`h0` and `h1`, both closed by `rfl`, say what `F` does. -/
theorem color_step {β : Type} {gci : List Nat → Except Exc Int} {c : Option (List Nat)} {m : Option Int}
    (h : ColorRel gci c m) {F : Option (List Nat) → Except Exc St} {s : St} {g : Int → St}
    {f : St → Except Exc β} {r : Except Exc β} (h0 : F none = pure s)
    (h1 : ∀ b, F (some b) = if (!b.isEmpty) = true then gci b >>= fun i => pure (g i) else pure s)
    (hr : f (match (generalizing := false) m with | none => s | some i => g i) = r) :
    F c >>= f = r := by
  subst hr
  rcases c with _ | b
  · cases h
    rw [h0]
    rfl
  · rw [h1]
    by_cases hb : b.isEmpty = true
    · simp only [ColorRel, hb, if_true] at h
      subst h
      simp only [hb, Bool.not_true, Bool.false_eq_true, if_false]
      rfl
    · simp only [ColorRel, hb, if_false, Bool.false_eq_true] at h
      obtain ⟨i, hi, rfl⟩ := h
      simp only [hb, hi, Bool.not_false, if_true]
      rfl

/-- the guarded loop over the format characters, in the same way: it appends their codes (none for `None` and `""`);
the parameters of `loop1` are explicit because `rfl` does not determine those the loop body ignores -/
theorem format_step {β : Type} (p2h gci) {fc} (keys) (size : Rat) (font : Int) (color bg format : Option (List Nat))
    {fmt : Option (List Nat)} {ws : List (List Char)} (h : FmtRel fc (fmtChars fmt) ws)
    {F : Option (List Nat) → Except Exc St} {s : St} {f : St → Except Exc β} {r : Except Exc β} (h0 : F none = pure s)
    (h1 : ∀ b, F (some b) = if (!b.isEmpty) = true then
      (pySortedSet b).foldlM (loop1 p2h gci fc keys size font color bg format) s else pure s)
    (hr : f { s with v0 := s.v0 ++ ws.map fun w => cps ('\\' :: w) } = r) :
    F fmt >>= f = r := by
  subst hr
  have hnil : fmtChars fmt = [] →
      pure s >>= f = f { s with v0 := s.v0 ++ ws.map fun w => cps ('\\' :: w) } := by
    intro e
    rw [e] at h
    cases ws <;> simp only [FmtRel] at h
    rw [List.map_nil, List.append_nil]
    rfl
  rcases fmt with _ | b
  · rw [h0]
    exact hnil rfl
  · rw [h1]
    by_cases hb : b.isEmpty = true
    · rw [if_neg (by simp [hb])]
      exact hnil (by rw [List.isEmpty_iff.mp hb]; rfl)
    · rw [if_pos (by simpa using hb), show pySortedSet b = fmtChars (some b) from rfl,
        loop1_fold p2h gci fc keys size font _ _ h]
      rfl

/-- **the translated `_get_text_formatting` prints `\fsN`, the opening brace and the model's run words** -/
theorem C01py_text_formatting_translated (p2h : Rat → Int) (gci fc) (keys : List (List Nat)) (size : Rat) (font : Int)
    (color bg format : Option (List Nat)) (t : TextFmt)
    (hh : t.halfPts = p2h size) (hf : t.fontIdx = font - 1)
    (hc : ColorRel gci color t.color) (hb : ColorRel gci bg t.bg)
    (hfm : FmtRel fc (fmtChars format) t.formats) :
    run p2h gci fc keys size font color bg format =
      .ok (cps (printNodes [cwi "fs" t.halfPts]) ++ 123 :: cps (printNodes (runWords t))) := by
  have e1 : cps "fs".toList = [102, 115] := by decide +kernel
  have e2 : cps "f".toList = [102] := by decide +kernel
  have e3 : cps "cf".toList = [99, 102] := by decide +kernel
  have e4 : cps "chshdng".toList = [99, 104, 115, 104, 100, 110, 103] := by decide +kernel
  have e5 : cps "chcbpat".toList = [99, 104, 99, 98, 112, 97, 116] := by decide +kernel
  have e6 : cps "cb".toList = [99, 98] := by decide +kernel
  have e7 : strOfInt 0 = [48] := by decide +kernel
  rcases t with ⟨thyph, tsb, tsa, tsl, tfi, tli, tri, tjust, thp, tfont, tcol, tbg, tfmts⟩
  simp only at hh hf hc hb hfm
  subst hh hf
  simp only [TextFormatting.run]
  -- each of the three guarded statements is replaced by its effect on the state
  apply color_step hc rfl (fun _ => rfl)
  apply color_step hb rfl (fun _ => rfl)
  apply format_step p2h gci keys size font color bg format hfm rfl (fun _ => rfl)
  -- what is left: the words of the state, joined, against the printed model words
  rcases tcol with _ | kc <;> rcases tbg with _ | kb <;>
    simp only [runWords, cwi, cps_printNodes_cons, cps_printNodes_nil,
      cps_cw, print_valign, List.flatMap_def, e1, e2, e3, e4, e5, e6, e7, pyJoin_nil, pure, Except.pure,
      List.flatten_cons, List.nil_append, List.append_nil, List.append_assoc,
      List.cons_append]

/-- a format character without a code: `ValueError` (when the colours resolve) -/
theorem C01py_text_formatting_unknown_format (p2h : Rat → Int) (gci fc) (keys : List (List Nat)) (size : Rat)
    (font : Int) (color bg format : Option (List Nat)) (mc mb : Option Int)
    (hc : ColorRel gci color mc) (hb : ColorRel gci bg mb)
    (hbad : ∃ ch ∈ fmtChars format, fc [ch] = none) :
    run p2h gci fc keys size font color bg format = .error .ValueError := by
  simp only [TextFormatting.run]
  apply color_step hc rfl (fun _ => rfl)
  apply color_step hb rfl (fun _ => rfl)
  rcases format with _ | f
  · obtain ⟨_, hm, _⟩ := hbad
    cases hm
  · have hfe : f.isEmpty = false := by
      cases f with
      | nil =>
        obtain ⟨_, hm, _⟩ := hbad
        cases hm
      | cons _ _ => rfl
    simp only [hfe, Bool.not_false, if_true]
    rw [show pySortedSet f = fmtChars (some f) from rfl, loop1_fold_error p2h gci fc keys size font _ hbad]
    rfl

/-! ### the caller's part: blank, text, closing brace -/

theorem print_withSpace : ∀ ws : List Node, ws ≠ [] → (∀ n ∈ ws, ∃ w p, n = Node.cw w p false) →
    printNodes (withSpace ws) = printNodes ws ++ [' ']
  | [], h, _ => absurd rfl h
  | [n], _, hall => by
    obtain ⟨w, p, rfl⟩ := hall n (List.mem_singleton.mpr rfl)
    simp [withSpace, printNodes, printNode]
  | x :: y :: rest, _, hall => by
    have ih := print_withSpace (y :: rest) (by simp) (fun n hn => hall n (List.mem_cons_of_mem _ hn))
    simp only [withSpace, printNodes, ih, List.append_assoc]

theorem runWords_cws (t : TextFmt) : ∀ n ∈ runWords t, ∃ w p, n = Node.cw w p false := by
  intro n hn
  rcases t with ⟨thyph, tsb, tsa, tsl, tfi, tli, tri, tjust, thp, tfont, tcol, tbg, tfmts⟩
  simp only [runWords, List.mem_append, List.mem_map, List.mem_singleton] at hn
  rcases hn with ((rfl | hn) | hn) | ⟨w, _, rfl⟩
  · exact ⟨_, _, rfl⟩
  · rcases tcol with _ | c <;> simp at hn
    subst hn
    exact ⟨_, _, rfl⟩
  · rcases tbg with _ | b <;> simp at hn
    rcases hn with rfl | rfl | rfl <;> exact ⟨_, _, rfl⟩
  · exact ⟨_, _, rfl⟩

/-- `_get_text_formatting() + " " + text + "}"` is the printed `plainRun` -/
theorem print_plainRun (t : TextFmt) (text : List Node) :
    printNodes (plainRun t text) =
      printNodes [cwi "fs" t.halfPts] ++ '{' :: printNodes (runWords t) ++ ' ' :: printNodes text ++ ['}'] := by
  have hne : runWords t ≠ [] := by simp [runWords]
  simp only [plainRun, printNodes, printNode, Proofs.Emit.printNodes_append,
    print_withSpace (runWords t) hne (runWords_cws t), List.append_nil, List.append_assoc, List.cons_append,
    List.nil_append]

/-! ### `sorted(list(set(s)))` -/

theorem mem_insertCp (x c : Nat) : ∀ l : List Nat, x ∈ insertCp c l ↔ x = c ∨ x ∈ l
  | [] => by simp [insertCp]
  | d :: ds => by
    simp only [insertCp]
    split
    · simp
    · split
      · rename_i h; subst h; simp
      · simp only [List.mem_cons, mem_insertCp x c ds]
        constructor
        · rintro (h | h | h) <;> simp [h]
        · rintro (h | h | h) <;> simp [h]

/-- the members of `sorted(set(s))` are the characters of `s` -/
theorem pySortedSet_mem (x : Nat) : ∀ s : List Nat, x ∈ pySortedSet s ↔ x ∈ s
  | [] => by simp [pySortedSet]
  | c :: cs => by
    have ih := pySortedSet_mem x cs
    simp only [pySortedSet, List.foldr_cons] at ih ⊢
    simp [mem_insertCp, ih]

theorem sorted_insertCp (c : Nat) : ∀ l : List Nat, l.Pairwise (· < ·) → (insertCp c l).Pairwise (· < ·)
  | [], _ => by simp [insertCp]
  | d :: ds, h => by
    have hd := List.pairwise_cons.mp h
    simp only [insertCp]
    split
    · rename_i hcd
      refine List.pairwise_cons.mpr ⟨?_, h⟩
      intro a ha
      rcases List.mem_cons.mp ha with rfl | ha
      · exact hcd
      · exact Nat.lt_trans hcd (hd.1 a ha)
    · split
      · exact h
      · rename_i h1 h2
        refine List.pairwise_cons.mpr ⟨?_, sorted_insertCp c ds hd.2⟩
        intro a ha
        rcases (mem_insertCp a c ds).mp ha with rfl | ha
        · omega
        · exact hd.1 a ha

/-- `sorted(set(s))` is strictly increasing (so it has no repetition) -/
theorem pySortedSet_sorted : ∀ s : List Nat, (pySortedSet s).Pairwise (· < ·)
  | [] => by simp [pySortedSet]
  | c :: cs => by
    have ih := pySortedSet_sorted cs
    simp only [pySortedSet, List.foldr_cons] at ih ⊢
    exact sorted_insertCp c _ ih

theorem insertCp_model (c : Char) : ∀ l : List Char,
    insertCp c.toNat (cps l) = cps (Model.Encode.insertChar c l)
  | [] => rfl
  | d :: ds => by
    have hinj : (c.toNat = d.toNat) = (c = d) := propext Char.toNat_inj
    simp only [cps, List.map_cons, insertCp, Model.Encode.insertChar, hinj]
    split
    · rfl
    · split
      · rfl
      · have := insertCp_model c ds
        simp only [cps] at this
        simp [this]

/-- the order of the translated function is the order of the encoder model (`Model.Encode.sortedSet`) -/
theorem pySortedSet_model : ∀ l : List Char, pySortedSet (cps l) = cps (Model.Encode.sortedSet l)
  | [] => rfl
  | c :: cs => by
    have ih := pySortedSet_model cs
    simp only [pySortedSet, Model.Encode.sortedSet, List.foldr_cons, cps, List.map_cons] at ih ⊢
    rw [ih]
    exact insertCp_model c _

end Props.C01pyt
