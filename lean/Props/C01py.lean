import Generated.PyBorderAsRtf
import Model.Emit
import Proofs.EscNodes
import Proofs.PyStr
/-!
# C01 — translator tie for the border emitter

`Generated.Py.BorderAsRtf.run` is regenerated on every run from the source of `Border._as_rtf` (`row.py`), in the
exception monad; the module dict `BORDER_CODES` and `Utils._get_color_index` are parameters.

This file proves that the string it builds is the printed form of the syntax tree `Model.Emit.borderNodes` — the tree the
well-formedness theorems of C01 are about: `"\\" + side + border._as_rtf()` = `printNodes (borderNodes side b)` for
every border whose style has a code (`""` or a control word) and whose colour resolves; an unknown style raises
`ValueError`; an exception of the colour resolution propagates.
-/
namespace Props.C01py
open Model.Rtf Model.Emit Generated.Py Generated.Py.BorderAsRtf Props.C01pyc

/-! `cps` (code points of a list of characters), `codeText` (the text `BORDER_CODES` holds for a style whose control
word is `w`) and `strOfInt_digits` live in `Proofs/PyStr.lean`, shared by all emitter bridge files. -/

/-- an unknown style: `ValueError` -/
theorem C01py_border_unknown_style (bc gci) (style : List Nat) (width : Int) (color : Option (List Nat))
    (h : bc style = none) : run bc gci style width color = .error .ValueError := by
  simp [BorderAsRtf.run, h, throw, throwThe, MonadExceptOf.throw]

/-- **the translated `Border._as_rtf` prints the model's border nodes**: `side` is the cell-border control word the
caller puts in front (`"\\clbrdrl" + …`), `w` the control word of the style, `cidx` the resolved colour index -/
theorem C01py_border_translated (bc gci) (side : String) (style : List Nat) (width : Int)
    (color : Option (List Nat)) (w : List Char) (cidx : Option Int)
    (hcode : bc style = some (codeText w))
    (hcol : match color with
      | none => cidx = none
      | some c => ∃ k, gci c = .ok k ∧ cidx = some k) :
    (run bc gci style width color).map (cps ('\\' :: side.toList) ++ ·) =
      .ok (cps (printNodes (borderNodes side ⟨w, width, cidx⟩))) := by
  have e1 : cps "brdrw".toList = [98, 114, 100, 114, 119] := by decide +kernel
  have e2 : cps "brdrcf".toList = [98, 114, 100, 114, 99, 102] := by decide +kernel
  -- the printed nodes, in the shape of the function's string
  have hp : cps (printNodes (borderNodes side ⟨w, width, cidx⟩)) =
      cps ('\\' :: side.toList) ++ (codeText w ++ [92, 98, 114, 100, 114, 119] ++ strOfInt width ++
        match cidx with
        | some k => [92, 98, 114, 100, 114, 99, 102] ++ strOfInt k
        | none => []) := by
    cases cidx
    all_goals
      simp only [borderNodes, cw0, cwi, Proofs.Emit.printNodes_append, cps_append, cps_optCw, cps_printNodes_cons,
        cps_printNodes_nil, cps_cw, e1, e2, List.append_nil, List.append_assoc, List.cons_append, List.nil_append]
      rfl
  rw [hp]
  rcases color with _ | c
  · subst hcol
    simp only [BorderAsRtf.run, hcode, pyDictGet, Option.isNone_some, Bool.false_eq_true, if_false, bind, Except.bind,
      pure, Except.pure, Except.map, List.append_nil]
  · obtain ⟨k, hk, rfl⟩ := hcol
    simp only [BorderAsRtf.run, hcode, hk, pyDictGet, Option.isNone_some, Bool.false_eq_true, if_false, bind,
      Except.bind, pure, Except.pure, Except.map, List.append_assoc]

/-- a failure of the colour resolution propagates -/
theorem C01py_border_color_error (bc gci) (style : List Nat) (width : Int) (c : List Nat) (code : List Nat) (e : Exc)
    (hcode : bc style = some code) (he : gci c = .error e) :
    run bc gci style width (some c) = .error e := by
  simp [BorderAsRtf.run, hcode, he, pyDictGet, bind, Except.bind]

end Props.C01py
