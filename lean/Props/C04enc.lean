import Model.Encode
import Model.Layout
import Model.PaginateSpec
import Proofs.EncodeLift
import Proofs.EncodePages
import Proofs.EncodeOwnWidth
import Props.C02enc
import Props.C03enc
import Props.C04
import Props.C01enc
/-!
# C04 for the whole-encoder model: page breaks occur only when required, and always when required

`Props/C04.lean` proves the property about `Model.Paginate.assignPages` fed by `mkMeta` for EVERY list of row inputs.
Here it is stated about the ENCODER model (`Model.Encode.encodePages`, byte-exact against `rtf_encode()`): for every
accepted document (`plan measure d = .ok pl`, `Proofs/EncodeLift.lean`)

* `C04enc_pageNums`     the page number of every frame row in the encoder's layout (`pl.ld.pageNums`) is
                        `assignPages d.page.nrow (additionalDoc d) (newPageDoc d) (metaDoc d pl)`: the rows per page of the
                        document, the rows reserved per page (`Props.C03enc.additionalDoc`: subline_by heading, column
                        headers with text, footnote, source), the effective new-page flag (body `new_page` with page_by,
                        forced by subline_by), and `mkMeta` of the row inputs `rowIns pl.ld`;
* `C04enc_rowIn`        what the row inputs are, on the document: the data lines are the encoder's `dataLines` of the
                        displayed cells of the row, the keys are the `str()` of the page_by / subline_by cells, and for a
                        row that starts a group the heading rows are `Model.Encode.headingRows` of the group's values;
* `C04enc_own_width`    the data lines of a frame row, cell by cell: the displayed cell at position `j` counts
                        `max(1, int(width / (cum[j] − cum[j−1])) + 1)` lines, its `str()` measured at the font and size the
                        processed attributes hold at (row, `j`) — every displayed column against ITS OWN width, font and size,
                        whichever columns left the table — and the row's data lines are the largest of these (and 1);
* `C04enc_cell_lines_unique`  that count is a function of the cell alone (its text, the font and size at its own row and
                        column, its own width): the same text in one column at two rows with different sizes has two
                        heights (`exDocRowSizes`: per-row sizes as tuple / n×1 matrix / short cyclic tuple);
* `C04enc_columns_out`  which columns leave the table: the subline_by columns always, the page_by columns unless
                        `new_page` with `pageby_row = "column"` (then they stay and are measured like any other column);
* `C04enc_meta`         the three fields `_assign_pages` reads for row `i`: group start = `str()` key differs from the
                        previous row's (`keyChange`), total = data lines + heading rows of the groups it starts;
* `C04enc_rendered_on`  `.data i` is rendered on page `pageNums[i]` and on no other page (with `C02enc`);
* `C04enc_a_*`          one page number per frame row, the first is 1, never decreasing, never skipping; the number of
                        pages the encoder renders is the last page number;
* `C04enc_bc`, `C04enc_break_iff`   a break before row `i` exactly when the row does not fit into what is left of
                        `max(1, nrow − reserved)` or a grouping rule demands it (rows of the encoder are at least one
                        line high, so (c) has no side condition);
* `C04enc_d_no_mixing`, `C04enc_d_rendered`   rows of two subline_by groups, or of two page_by groups under the effective
                        new-page flag, never share a page;
* `C04enc_e_prefix`     the pagination of the document cut after `m` frame rows is the first `m` page numbers of the
                        document's pagination;
* `C04enc`              the core of it from `encode measure d = .ok g`.
-/
namespace Props.C04enc
open Model.Rtf Model.Emit Model.Encode Model.Broadcast Model.Layout Model.Paginate
open Proofs.EncodeLift Proofs.Paginate
open Proofs.EncodePages (strKey keyChange rowIn rowIns RowInFacts takeRows)
open Proofs.PaginateGroups (mkRow)
open Proofs.EncodeOwnWidth (CellLines ownWidth)
open Props.C02 (dataIdx)
open Props.C03enc (additionalDoc)

/-! ## the pagination input on the document -/

/-- the effective new-page flag of `_assign_pages`: `new_page` with page_by; subline_by always forces it -/
def newPageDoc (d : Doc) : Bool :=
  if !d.body.sublineByL.isEmpty then true else (!d.body.pageByL.isEmpty && d.body.newPage)

/-- row `i` starts a page_by group -/
def pageStart (d : Doc) (i : Nat) : Bool := !d.body.pageByL.isEmpty && keyChange d d.body.pageByL i

/-- row `i` starts a subline_by group -/
def sublineStart (d : Doc) (i : Nat) : Bool := !d.body.sublineByL.isEmpty && keyChange d d.body.sublineByL i

/-- the `RowMeta` list the encoder paginates: `mkMeta` of the row inputs -/
def metaDoc (d : Doc) (pl : Plan) : List RowMeta :=
  mkMeta (!d.body.pageByL.isEmpty) (!d.body.sublineByL.isEmpty) (rowIns pl.ld)

/-- the rows' metadata paired with their page numbers (`Props.C04.paged` for the encoder) -/
def pagedDoc (d : Doc) (pl : Plan) : List (RowMeta × Nat) := (metaDoc d pl).zip pl.ld.pageNums

/-- keys are equal exactly when the `str()` of every named cell is equal -/
theorem strKey_eq_iff (d : Doc) (names : List Str) (a b : List (Option Str)) :
    strKey d names a = strKey d names b ↔
      (pick d.cols a names).map strOfCell = (pick d.cols b names).map strOfCell := by
  rw [Proofs.EncodePages.strKey_eq, Proofs.EncodePages.strKey_eq]
  exact ⟨Proofs.EncodePages.map_ofList_inj _ _, fun h => by rw [h]⟩

theorem meta_eq_metaDoc (measure : Measure) (d : Doc) (pl : Plan) (hp : plan measure d = .ok pl) :
    pl.ld.meta = metaDoc d pl := by
  have hf := plan_facts hp
  rw [Proofs.EncodePages.meta_eq, hf.hasPageBy, hf.hasSubline]
  rfl

/-- **the encoder paginates with `_assign_pages`** on `nrow`, the reserved rows, the effective new-page flag and the
row metadata of the document -/
theorem C04enc_pageNums (measure : Measure) (d : Doc) (pl : Plan) (hp : plan measure d = .ok pl) :
    pl.ld.pageNums =
      assignPages d.page.nrow (additionalDoc d) (newPageDoc d) (metaDoc d pl) := by
  have hf := plan_facts hp
  unfold LDoc.pageNums
  rw [meta_eq_metaDoc measure d pl hp, Props.C03enc.C03enc_additional measure d pl hp, hf.nrow]
  unfold LDoc.forceNewPage newPageDoc
  rw [hf.hasSubline, hf.hasPageBy, hf.newPage]

theorem C04enc_paged (measure : Measure) (d : Doc) (pl : Plan) (hp : plan measure d = .ok pl) :
    pagedDoc d pl = Props.C04.paged d.page.nrow (additionalDoc d) (newPageDoc d) (metaDoc d pl) := by
  unfold pagedDoc Props.C04.paged
  rw [C04enc_pageNums measure d pl hp]

/-- one row input per frame row -/
theorem C04enc_rowIns_length (measure : Measure) (d : Doc) (pl : Plan) (hp : plan measure d = .ok pl) :
    (rowIns pl.ld).length = d.rows.length := by
  rw [Proofs.EncodePages.rowIns_length, (plan_rows_length hp).2]

/-- **the row input of frame row `i`** (`RowInFacts`): data lines = the encoder's `dataLines` of the displayed cells of
row `i` (≥ 1), keys = the `str()` of the page_by / subline_by cells, and for a row that starts a page_by (subline_by)
group the heading rows are `headingRows` of the group's values against the table width -/
theorem C04enc_rowIn (measure : Measure) (d : Doc) (pl : Plan) (hp : plan measure d = .ok pl) (i : Nat)
    (ri : RowIn (List String)) (hri : (rowIns pl.ld)[i]? = some ri) :
    ∃ row cells, d.rows[i]? = some row ∧ pl.p.dispRows[i]? = some cells ∧ RowInFacts measure d pl.p i row cells ri :=
  Proofs.EncodePages.rowIns_facts (plan_ok hp).2.2.1 i ri hri

/-- the keys of the row inputs are the `str()` keys of the frame rows -/
theorem C04enc_keys (measure : Measure) (d : Doc) (pl : Plan) (hp : plan measure d = .ok pl) :
    (rowIns pl.ld).map (·.pkey) = d.rows.map (strKey d d.body.pageByL) ∧
    (rowIns pl.ld).map (·.skey) = d.rows.map (strKey d d.body.sublineByL) := by
  obtain ⟨hprep, _, hld, _⟩ := plan_ok hp
  exact Proofs.EncodePages.rowIns_keys (prepare_dispRows_length hprep) hld

/-- **every displayed column is measured against its own width, font and size**: with `cells` the displayed cells of
frame row `i` (the row without the removed columns) and `cum` the cumulative widths of the displayed columns, the cell at
displayed position `j` counts `linesOf w (cum[j] − cum[j−1])` lines (`CellLines`: `w` the width of its `str()` at the font
and size of processed attribute column `j`); the data lines of the row are at least that for every displayed cell, and they
are 1 or exactly the count of one displayed cell — so they are the maximum, and no other column's width enters -/
theorem C04enc_own_width (measure : Measure) (d : Doc) (pl : Plan) (hp : plan measure d = .ok pl) (i : Nat)
    (ri : RowIn (List String)) (hri : (rowIns pl.ld)[i]? = some ri) :
    ∃ cells, pl.p.dispRows[i]? = some cells ∧
      (∀ (j : Nat) (cell : Option Str) (c : Rat), cells[j]? = some cell → pl.p.cum[j]? = some c →
        ∃ l, CellLines measure pl.p.attrs i j cell (ownWidth pl.p.cum 0 j c) l ∧ l ≤ ri.dataRows) ∧
      (ri.dataRows = 1 ∨ ∃ (j : Nat) (cell : Option Str) (c : Rat), cells[j]? = some cell ∧ pl.p.cum[j]? = some c ∧
        CellLines measure pl.p.attrs i j cell (ownWidth pl.p.cum 0 j c) ri.dataRows) := by
  obtain ⟨_, cells, _, hc, hf⟩ := C04enc_rowIn measure d pl hp i ri hri
  obtain ⟨nr, hdl⟩ := hf.dataRows
  refine ⟨cells, hc, ?_, ?_⟩
  · intro j cell c hj hw
    have h := Proofs.EncodeOwnWidth.dataLines_own_width cells pl.p.cum 0 0 (1, false) _ hdl j cell c hj hw
    simpa only [Nat.zero_add] using h
  · have h := Proofs.EncodeOwnWidth.dataLines_attained cells pl.p.cum 0 0 (1, false) _ hdl
    simpa only [Nat.zero_add] using h

/-- **the line count of a cell is a function of the cell alone**: of its text, of the font and size the processed
attributes hold at ITS OWN (row, displayed column) and of its own column width (`CellLines` has one solution wherever the
font attribute is a font number or absent — anything else the encoder refuses with `ValueError`).  With `C04enc_own_width`:
the same text in the same column at two rows counts the lines of each row's own font and size, whatever was counted for
another row — so `text_font_size` / `text_font` that vary BY ROW (tuple, column matrix, full matrix, a short value repeated
cyclically: all of them are `ilocV` at (row, column)) give one text several heights in one column. -/
theorem C04enc_cell_lines_unique (measure : Measure) (A : TblAttrsOf MatV) (r k : Nat) (cell : Option Str) (cw : Rat)
    (l l' : Nat) (hf : ∀ fv, ilocV A.font r k = .ok fv → fv = .null ∨ ∃ i, fv = .int i)
    (h : CellLines measure A r k cell cw l) (h' : CellLines measure A r k cell cw l') : l = l' := by
  obtain ⟨sv, fv, size, font, w, hsv, hfv, hs0, hs1, hf0, hf1, hm, _, hl⟩ := h
  obtain ⟨sv', fv', size', font', w', hsv', hfv', hs0', hs1', hf0', hf1', hm', _, hl'⟩ := h'
  have e1 : sv' = sv := by rw [hsv] at hsv'; cases hsv'; rfl
  have e2 : fv' = fv := by rw [hfv] at hfv'; cases hfv'; rfl
  subst e1 e2
  have es : size' = size := by
    by_cases hn : sv' = .null
    · rw [hs0 hn, hs0' hn]
    · have a := hs1 hn; have b := hs1' hn; rw [a] at b; cases b; rfl
  have ef : font' = font := by
    rcases hf fv' hfv with hn | ⟨i, hi⟩
    · rw [hf0 hn, hf0' hn]
    · rw [hf1 i hi, hf1' i hi]
  subst es ef
  rw [hm] at hm'; cases hm'
  rw [hl, hl']

/-- **which columns leave the table**: the subline_by columns always; the page_by columns unless `new_page` is set and
`pageby_row` is `"column"` — then they stay in the table and `C04enc_own_width` measures them like every other column -/
theorem C04enc_columns_out (b : Body) :
    removedNames b =
      b.sublineByL ++ (if b.newPage = true ∧ b.pagebyColumn = true then [] else b.pageByL) := by
  unfold removedNames Body.pageByRemoved Body.pageByL
  cases b.pageBy <;> cases b.newPage <;> cases b.pagebyColumn <;> simp

theorem C04enc_meta_length (measure : Measure) (d : Doc) (pl : Plan) (hp : plan measure d = .ok pl) :
    (metaDoc d pl).length = d.rows.length := by
  rw [← meta_eq_metaDoc measure d pl hp, Proofs.Layout.meta_length, (plan_rows_length hp).2]

/-- **the metadata of frame row `i`**: it starts a page_by / subline_by group exactly when it is the first row or its
`str()` key differs from the previous row's, and its total is its data lines plus the heading rows of the groups it
starts -/
theorem C04enc_meta (measure : Measure) (d : Doc) (pl : Plan) (hp : plan measure d = .ok pl) (i : Nat)
    (hi : i < d.rows.length) :
    ∃ ri, (rowIns pl.ld)[i]? = some ri ∧
      (metaDoc d pl)[i]? = some
        { total := ri.dataRows + (if pageStart d i then ri.pagebyRows else 0) +
                   (if sublineStart d i then ri.sublineRows else 0),
          grp := pageStart d i, sub := sublineStart d i } := by
  obtain ⟨ri, hri⟩ : ∃ ri, (rowIns pl.ld)[i]? = some ri :=
    ⟨_, List.getElem?_eq_getElem (by rw [C04enc_rowIns_length measure d pl hp]; exact hi)⟩
  obtain ⟨hk1, hk2⟩ := C04enc_keys measure d pl hp
  refine ⟨ri, hri, Proofs.PaginateGroups.mkMeta_getElem? _ _ _ i ri _ _ hri ?_ ?_⟩
  · rw [hk1]; exact Proofs.EncodePages.changes_strKey_getElem? d _ i hi
  · rw [hk2]; exact Proofs.EncodePages.changes_strKey_getElem? d _ i hi

/-- a grouping rule demands a break before row `i`: it starts a subline_by group, or a page_by group under the effective
new-page flag -/
theorem C04enc_demands (measure : Measure) (d : Doc) (pl : Plan) (hp : plan measure d = .ok pl) (i : Nat)
    (r : RowMeta) (hr : (metaDoc d pl)[i]? = some r) :
    demands (newPageDoc d) r = (sublineStart d i || (newPageDoc d && pageStart d i)) := by
  have hi : i < d.rows.length := by
    rw [← C04enc_meta_length measure d pl hp]
    exact (List.getElem?_eq_some_iff.mp hr).1
  obtain ⟨ri, _, hm⟩ := C04enc_meta measure d pl hp i hi
  rw [hr] at hm
  cases hm
  rfl

/-- every row of the encoder is at least one line high -/
theorem C04enc_meta_pos (measure : Measure) (d : Doc) (pl : Plan) (hp : plan measure d = .ok pl) :
    ∀ r ∈ metaDoc d pl, 1 ≤ r.total := by
  rw [← meta_eq_metaDoc measure d pl hp]
  exact Proofs.Layout.meta_pos pl.ld (Props.C03enc.C03enc_lines_pos measure d pl hp)

/-! ## the page on which a row is rendered -/

/-- **frame row `i` is rendered on page `pageNums[i]`** (pages numbered from 1) and on no other page -/
theorem C04enc_rendered_on (measure : Measure) (d : Doc) (pl : Plan) (hp : plan measure d = .ok pl) (i : Nat)
    (hi : i < d.rows.length) :
    ∃ n x, pl.ld.pageNums[i]? = some (n + 1) ∧ pl.pageBlocks[n]? = some x ∧ x.1.number = n + 1 ∧ i ∈ dataIdx x.2 ∧
      ∀ n' x', pl.pageBlocks[n']? = some x' → i ∈ dataIdx x'.2 → n' = n := by
  have hmem : i ∈ pl.pageBlocks.flatMap (fun x => dataIdx x.2) := by
    rw [Props.C02enc.C02enc_rows_once_in_order measure d pl hp]
    exact List.mem_range.mpr hi
  obtain ⟨x, hx, hix⟩ := List.mem_flatMap.mp hmem
  obtain ⟨n, hn⟩ := List.getElem?_of_mem hx
  obtain ⟨h1, h2, _⟩ := Props.C02enc.C02enc_row_on_its_page measure d pl hp n i x hn hix
  refine ⟨n, x, h1, hn, h2, hix, ?_⟩
  intro n' x' hn' hix'
  obtain ⟨h1', _⟩ := Props.C02enc.C02enc_row_on_its_page measure d pl hp n' i x' hn' hix'
  rw [h1] at h1'
  cases h1'
  rfl

/-! ## (a) pages are numbered 1, 2, … without gaps -/

theorem C04enc_a_length (measure : Measure) (d : Doc) (pl : Plan) (hp : plan measure d = .ok pl) :
    pl.ld.pageNums.length = d.rows.length := by
  rw [Proofs.Layout.pageNums_length, (plan_rows_length hp).2]

theorem C04enc_a_first (measure : Measure) (d : Doc) (pl : Plan) (hp : plan measure d = .ok pl)
    (hne : d.rows ≠ []) : pl.ld.pageNums[0]? = some 1 := by
  have hlen := C04enc_meta_length measure d pl hp
  rw [C04enc_pageNums measure d pl hp]
  cases hm : metaDoc d pl with
  | nil =>
    rw [hm] at hlen
    exact absurd (List.eq_nil_of_length_eq_zero hlen.symm) hne
  | cons r rs =>
    have := Props.C04.C04_a_first d.page.nrow (additionalDoc d) (newPageDoc d) r rs
    rw [List.head?_eq_getElem?] at this
    exact this

/-- page numbers never decrease and never skip -/
theorem C04enc_a_steps (measure : Measure) (d : Doc) (pl : Plan) (_hp : plan measure d = .ok pl) :
    Steps 1 pl.ld.pageNums :=
  Proofs.Layout.pageNums_steps pl.ld

theorem steps_consecutive {s : Nat} {l : List Nat} (hs : Steps s l) {i p q : Nat} (hp : l[i]? = some p)
    (hq : l[i + 1]? = some q) : q = p ∨ q = p + 1 := by
  induction l generalizing s i with
  | nil => cases hp
  | cons a l ih =>
    cases i with
    | succ i => exact ih hs.2 hp hq
    | zero =>
      cases hp
      cases l with
      | nil => cases hq
      | cons b l =>
        cases hq
        have h : p ≤ q ∧ q ≤ p + 1 := hs.2.1
        omega

/-- consecutive rows are on the same page or on consecutive pages -/
theorem C04enc_a_consecutive (measure : Measure) (d : Doc) (pl : Plan) (hp : plan measure d = .ok pl) (i p q : Nat)
    (hpi : pl.ld.pageNums[i]? = some p) (hqi : pl.ld.pageNums[i + 1]? = some q) : q = p ∨ q = p + 1 :=
  steps_consecutive (C04enc_a_steps measure d pl hp) hpi hqi

theorem le_getLast_of_sorted {l : List Nat} (hs : l.Pairwise (· ≤ ·)) {x y : Nat} (hx : x ∈ l)
    (hy : l.getLast? = some y) : x ≤ y := by
  obtain ⟨ys, rfl⟩ := List.getLast?_eq_some_iff.mp hy
  rcases List.mem_append.mp hx with h | h
  · exact (List.pairwise_append.mp hs).2.2 x h y (List.mem_singleton_self y)
  · exact Nat.le_of_eq (List.mem_singleton.mp h)

/-- the number of pages the encoder renders is the page number of the last frame row -/
theorem C04enc_a_page_count (measure : Measure) (d : Doc) (pl : Plan) (hp : plan measure d = .ok pl)
    (hne : d.rows ≠ []) : pl.ld.pageNums.getLast? = some pl.pageBlocks.length := by
  have hpos : 0 < d.rows.length := List.length_pos_iff.mpr hne
  obtain ⟨n, x, h1, h2, _⟩ := C04enc_rendered_on measure d pl hp (d.rows.length - 1) (by omega)
  have hn : n < pl.pageBlocks.length := (List.getElem?_eq_some_iff.mp h2).1
  have hlast : pl.ld.pageNums.getLast? = some (n + 1) := by
    rw [List.getLast?_eq_getElem?, C04enc_a_length measure d pl hp, h1]
  -- no later page: the number of the last page is the page number of some row, so at most that of the last row
  have hldne : pl.ld.rows ≠ [] := List.ne_nil_of_length_pos (by rw [(plan_rows_length hp).2]; exact hpos)
  obtain ⟨P, hP, hlen, _, hok, _⟩ := Proofs.Layout.pages_spec pl.ld hldne
  obtain ⟨pg, hpg⟩ : ∃ pg, pl.ld.pages[P - 1]? = some pg := ⟨_, List.getElem?_eq_getElem (by omega)⟩
  have hmem := (hok pg (List.mem_of_getElem? hpg)).mem
  rw [(Proofs.Layout.pages_numbering pl.ld _ pg hpg).1] at hmem
  have hle := le_getLast_of_sorted (Proofs.Layout.pageNums_sorted pl.ld) hmem hlast
  rw [← pageBlocks_map_fst, List.length_map] at hlen
  rw [hlast, Option.some.injEq]
  omega

/-! ## (b), (c) a break exactly when the next row does not fit or a grouping rule demands it -/

/-- **only when required and always when required**, for every position after the first row of the encoder's paginated
frame (`done` = the rows before it with their pages): the row goes to the next page exactly when a grouping rule
demands it or it does not fit into what is left of `max(1, nrow − reserved)` on the current page; otherwise it stays.
No side condition for "always": every row of the encoder is at least one line high, so the current page is never
empty. -/
theorem C04enc_bc (measure : Measure) (d : Doc) (pl : Plan) (hp : plan measure d = .ok pl)
    (done : List (RowMeta × Nat)) (r : RowMeta) (q : Nat) (rest : List (RowMeta × Nat))
    (hsplit : pagedDoc d pl = done ++ (r, q) :: rest) (hne : done ≠ []) :
    let p := lastPage done
    let over := decide (loadOn p done + r.total > availRows d.page.nrow (additionalDoc d))
    (q = p + 1 ↔ (demands (newPageDoc d) r = true ∨ over = true)) ∧ (q = p ∨ q = p + 1) := by
  rw [C04enc_paged measure d pl hp] at hsplit
  obtain ⟨h1, h2, h3⟩ := Props.C04.C04_bc d.page.nrow (additionalDoc d) (newPageDoc d) (metaDoc d pl) done r q rest
    hsplit hne
  have hpos : loadOn (lastPage done) done > 0 := by
    apply Props.C04.loadOn_pos_of_last done hne
    intro x hx
    have hmem : x ∈ Props.C04.paged d.page.nrow (additionalDoc d) (newPageDoc d) (metaDoc d pl) := by
      rw [hsplit]; simp [hx]
    exact C04enc_meta_pos measure d pl hp _ (List.of_mem_zip hmem).1
  refine ⟨⟨fun hq => h1 (by omega), fun hreq => h2 hreq hpos⟩, h3⟩

theorem getLast?_take_succ {α : Type} (l : List α) (i : Nat) (hi : i < l.length) :
    (l.take (i + 1)).getLast? = l[i]? := by
  rw [List.getLast?_eq_getElem?, List.length_take, Nat.min_eq_left (by omega), Nat.add_sub_cancel,
    List.getElem?_take, if_pos (by omega)]

/-- the same by row index: for consecutive frame rows `i`, `i + 1` on pages `p`, `q`, with `load` = the rows the
frame rows `≤ i` occupy on page `p`: row `i + 1` opens page `p + 1` exactly when it starts a subline_by group, or a
page_by group under the effective new-page flag, or `load + total > max(1, nrow − reserved)`; otherwise `q = p`. -/
theorem C04enc_break_iff (measure : Measure) (d : Doc) (pl : Plan) (hp : plan measure d = .ok pl) (i : Nat)
    (r : RowMeta) (p q : Nat) (hr : (metaDoc d pl)[i + 1]? = some r) (hpi : pl.ld.pageNums[i]? = some p)
    (hqi : pl.ld.pageNums[i + 1]? = some q) :
    let load := loadOn p ((pagedDoc d pl).take (i + 1))
    (q = p + 1 ↔ ((sublineStart d (i + 1) || (newPageDoc d && pageStart d (i + 1))) = true ∨
        load + r.total > availRows d.page.nrow (additionalDoc d))) ∧ (q = p ∨ q = p + 1) := by
  have hz : (pagedDoc d pl)[i + 1]? = some (r, q) := List.getElem?_zip_eq_some.mpr ⟨hr, hqi⟩
  obtain ⟨hlt, hget⟩ := List.getElem?_eq_some_iff.mp hz
  have hsplit : pagedDoc d pl = (pagedDoc d pl).take (i + 1) ++ (r, q) :: (pagedDoc d pl).drop (i + 1 + 1) := by
    rw [← hget, ← List.drop_eq_getElem_cons hlt, List.take_append_drop]
  have hne : (pagedDoc d pl).take (i + 1) ≠ [] :=
    List.ne_nil_of_length_pos (by rw [List.length_take]; exact Nat.lt_min.mpr ⟨Nat.succ_pos i, Nat.zero_lt_of_lt hlt⟩)
  obtain ⟨m, hm⟩ : ∃ m, (metaDoc d pl)[i]? = some m :=
    ⟨_, List.getElem?_eq_getElem (Nat.lt_of_succ_lt (List.getElem?_eq_some_iff.mp hr).1)⟩
  have hlast : lastPage ((pagedDoc d pl).take (i + 1)) = p := by
    unfold lastPage
    have hzi : (pagedDoc d pl)[i]? = some (m, p) := List.getElem?_zip_eq_some.mpr ⟨hm, hpi⟩
    rw [getLast?_take_succ _ i (Nat.lt_of_succ_lt hlt), hzi]
    rfl
  have h := C04enc_bc measure d pl hp _ r q _ hsplit hne
  dsimp only at h
  rw [hlast, C04enc_demands measure d pl hp (i + 1) r hr, decide_eq_true_eq] at h
  exact h

/-! ## (d) no page mixes rows of two subline_by groups, nor of two page_by groups under new_page -/

theorem isEmpty_not_of_ne {α : Type} {l : List α} (h : l ≠ []) : (!l.isEmpty) = true := by
  cases l with
  | nil => exact absurd rfl h
  | cons _ _ => rfl

/-- frame rows `i < j` with the same page number carry the same subline_by key, and the same page_by key when the
effective new-page flag is set (`new_page`, or any subline_by) -/
theorem C04enc_d_no_mixing (measure : Measure) (d : Doc) (pl : Plan) (hp : plan measure d = .ok pl)
    (i j : Nat) (hij : i < j) (ri rj : List (Option Str)) (p : Nat)
    (hri : d.rows[i]? = some ri) (hrj : d.rows[j]? = some rj)
    (hpi : pl.ld.pageNums[i]? = some p) (hpj : pl.ld.pageNums[j]? = some p) :
    (d.body.sublineByL ≠ [] → strKey d d.body.sublineByL ri = strKey d d.body.sublineByL rj) ∧
    (d.body.pageByL ≠ [] → newPageDoc d = true → strKey d d.body.pageByL ri = strKey d d.body.pageByL rj) := by
  have hlen := C04enc_rowIns_length measure d pl hp
  obtain ⟨xi, hxi⟩ : ∃ xi, (rowIns pl.ld)[i]? = some xi :=
    ⟨_, List.getElem?_eq_getElem (by rw [hlen]; exact (List.getElem?_eq_some_iff.mp hri).1)⟩
  obtain ⟨xj, hxj⟩ : ∃ xj, (rowIns pl.ld)[j]? = some xj :=
    ⟨_, List.getElem?_eq_getElem (by rw [hlen]; exact (List.getElem?_eq_some_iff.mp hrj).1)⟩
  obtain ⟨_, _, a1, _, fi⟩ := C04enc_rowIn measure d pl hp i xi hxi
  obtain ⟨_, _, b1, _, fj⟩ := C04enc_rowIn measure d pl hp j xj hxj
  cases hri.symm.trans a1
  cases hrj.symm.trans b1
  have hpos : ∀ r ∈ rowIns pl.ld, 1 ≤ r.dataRows := by
    intro r hr
    obtain ⟨k, hk⟩ := List.getElem?_of_mem hr
    obtain ⟨_, _, _, _, fk⟩ := C04enc_rowIn measure d pl hp k r hk
    exact fk.dataRows_pos
  rw [C04enc_pageNums measure d pl hp] at hpi hpj
  obtain ⟨h1, h2⟩ := Props.C04.C04_d_no_mixing d.page.nrow (additionalDoc d) (!d.body.pageByL.isEmpty)
    (!d.body.sublineByL.isEmpty) (newPageDoc d) (rowIns pl.ld) hpos i j hij xi xj p hxi hxj hpi hpj
  refine ⟨fun hs => ?_, fun hpb hnp => ?_⟩
  · rw [← fi.skey, ← fj.skey]; exact h1 (isEmpty_not_of_ne hs)
  · rw [← fi.pkey, ← fj.pkey]; exact h2 (isEmpty_not_of_ne hpb) hnp

/-- the same on the rendered pages: two data rows the encoder renders on one page carry the same subline_by key, and
the same page_by key under the effective new-page flag -/
theorem C04enc_d_rendered (measure : Measure) (d : Doc) (pl : Plan) (hp : plan measure d = .ok pl)
    (x : PageCtx × List Block) (hx : x ∈ pl.pageBlocks) (i j : Nat) (hi : i ∈ dataIdx x.2) (hj : j ∈ dataIdx x.2)
    (ri rj : List (Option Str)) (hri : d.rows[i]? = some ri) (hrj : d.rows[j]? = some rj) :
    (d.body.sublineByL ≠ [] → strKey d d.body.sublineByL ri = strKey d d.body.sublineByL rj) ∧
    (d.body.pageByL ≠ [] → newPageDoc d = true → strKey d d.body.pageByL ri = strKey d d.body.pageByL rj) := by
  obtain ⟨n, hn⟩ := List.getElem?_of_mem hx
  obtain ⟨h1, _⟩ := Props.C02enc.C02enc_row_on_its_page measure d pl hp n i x hn hi
  obtain ⟨h2, _⟩ := Props.C02enc.C02enc_row_on_its_page measure d pl hp n j x hn hj
  rcases Nat.lt_trichotomy i j with hlt | heq | hgt
  · exact C04enc_d_no_mixing measure d pl hp i j hlt ri rj (n + 1) hri hrj h1 h2
  · subst heq
    rw [hri] at hrj
    cases hrj
    exact ⟨fun _ => rfl, fun _ _ => rfl⟩
  · obtain ⟨g1, g2⟩ := C04enc_d_no_mixing measure d pl hp j i hgt rj ri (n + 1) hrj hri h2 h1
    exact ⟨fun h => (g1 h).symm, fun h h' => (g2 h h').symm⟩

/-! ## (e) later rows never change how the earlier rows were paginated -/

/-- **prefix stability**: for the document cut after `m` frame rows (every other component unchanged), the encoder's
pagination is the first `m` page numbers of the document's pagination — line estimates, keys, heading rows and the
reservation of a row do not depend on later rows -/
theorem C04enc_e_prefix (measure : Measure) (d : Doc) (m : Nat) (pl pl' : Plan) (hp : plan measure d = .ok pl)
    (hp' : plan measure (takeRows d m) = .ok pl') : pl'.ld.pageNums = pl.ld.pageNums.take m := by
  obtain ⟨hprep, _, hld, _⟩ := plan_ok hp
  obtain ⟨hprep', _, hld', _⟩ := plan_ok hp'
  have hrows : rowIns pl'.ld = (rowIns pl.ld).take m := by
    unfold rowIns
    rw [Proofs.EncodePages.ldRows_take hprep hprep' hld hld', List.map_take]
  rw [C04enc_pageNums measure d pl hp, C04enc_pageNums measure _ pl' hp', ← Proofs.Paginate.assignPages_take]
  unfold metaDoc
  rw [hrows, Proofs.EncodePages.mkMeta_take]
  -- rows per page, reserved rows, new-page flag and the by-columns are not read off the frame rows
  rfl

/-! ## from `encode measure d = .ok g` -/

/-- **C04 for the encoder model.**  For every document the encoder accepts there are a plan and a trace (the output is
the trace's elements joined by newlines) such that the page numbers of the frame rows are `_assign_pages` of the
document's parameters and row metadata, every data row is rendered on the page with its number (the `n`-th page of
the trace is page `n + 1`), and the trace has as many pages as the last row's page number. -/
theorem C04enc (measure : Measure) (d : Doc) (g : DocG) (h : encode measure d = .ok g) :
    ∃ pl R, plan measure d = .ok pl ∧ Renders (mkColorCtx d) d pl R ∧
      g.blocks = joinElems R.elems ++ [BlockG.plain [Node.nl, Node.nl, Node.nl, Node.nl]] ∧
      pl.ld.pageNums = assignPages d.page.nrow (additionalDoc d) (newPageDoc d) (metaDoc d pl) ∧
      (∀ n x, R[n]? = some x → ∀ i ∈ dataIdx (x.2.map Prod.fst), pl.ld.pageNums[i]? = some (n + 1)) ∧
      (d.rows ≠ [] → pl.ld.pageNums.getLast? = some R.length) := by
  obtain ⟨pl, R, hp, hR, hg⟩ := encode_trace h
  refine ⟨pl, R, hp, hR, hg, C04enc_pageNums measure d pl hp, ?_, ?_⟩
  · intro n x hn i hi
    have hpb : pl.pageBlocks[n]? = some (x.1, x.2.map Prod.fst) := by
      rw [← hR.blocks, Trace.blocks, List.getElem?_map, hn]; rfl
    exact (Props.C02enc.C02enc_row_on_its_page measure d pl hp n i _ hpb hi).1
  · intro hne
    rw [C04enc_a_page_count measure d pl hp hne, ← hR.blocks, Trace.blocks, List.length_map]

/-! ## non-vacuity -/

open Props.C01enc in
/-- four columns, page_by `g` with `new_page`, seven rows, `nrow = 8` (header, footnote, source reserve three rows, so
five are available): group `A` (four rows of one line, the first with its heading row) fills page 1 and continues on
page 2; group `B` starts page 3 because `new_page` demands it -/
def exDocNP : Doc :=
  { exDoc [1, 1, 2] with
    cols := ["g".toList, "a".toList, "b".toList],
    rows := [[some "A".toList, some "x".toList, some "1".toList],
             [some "A".toList, some "y".toList, some "2".toList],
             [some "A".toList, some "z".toList, none],
             [some "A".toList, some "u".toList, some "4".toList],
             [some "A".toList, some "v".toList, some "5".toList],
             [some "B".toList, some "n>=3".toList, some "é".toList],
             [some "B".toList, some "w".toList, some "7".toList]],
    page := { exPage with nrow := 8 },
    headers := [some { text := some ["A".toList, "B".toList], colRelWidth := none, attrs := exTbl }],
    body := { (exDoc [1, 1, 2]).body with pageBy := some ["g".toList], newPage := true, pagebyColumn := false } }

set_option maxRecDepth 100000

open Props.C01enc in
/-- the encoder accepts the example and renders it on three pages; the page numbers are those of `_assign_pages`; the
break before row 4 is a capacity break (`1 + 1 + 1 + 1 + 1` rows are on page 1 and `5 + 1 > 5`), the break before row 5 is
demanded by `new_page` (page 2 holds one row) -/
example :
    (match encode exMeasure exDocNP with | .ok _ => true | .error _ => false) = true ∧
    (match plan exMeasure exDocNP with
     | .ok pl => pl.ld.pageNums == [1, 1, 1, 1, 2, 3, 3] &&
         (metaDoc exDocNP pl).map (fun r => (r.total, r.grp, r.sub)) ==
           [(2, true, false), (1, false, false), (1, false, false), (1, false, false), (1, false, false),
            (2, true, false), (1, false, false)] &&
         pl.pageBlocks.map (fun x => dataIdx x.2) == [[0, 1, 2, 3], [4], [5, 6]]
     | .error _ => false) = true ∧
    additionalDoc exDocNP = 3 ∧ newPageDoc exDocNP = true ∧
    availRows exDocNP.page.nrow (additionalDoc exDocNP) = 5 := by
  refine ⟨by decide +kernel, by decide +kernel, by decide, by decide, by decide⟩

open Props.C01enc in
/-- the hypotheses of (d) and (e) are satisfiable: the theorems applied to the example -/
example : ∀ pl, plan exMeasure exDocNP = .ok pl → ∀ pl', plan exMeasure (takeRows exDocNP 5) = .ok pl' →
    pl'.ld.pageNums = pl.ld.pageNums.take 5 :=
  fun pl hp pl' hp' => C04enc_e_prefix exMeasure exDocNP 5 pl pl' hp hp'

open Props.C01enc in
/-- the cut document is accepted as well, and paginated as the theorem says -/
example :
    (match plan exMeasure (takeRows exDocNP 5) with
     | .ok pl => pl.ld.pageNums == [1, 1, 1, 1, 2]
     | .error _ => false) = true := by decide +kernel

open Props.C01enc in
/-- two columns `g` (page_by, `new_page`, `pageby_row = "column"`: it STAYS in the table) and `t`, relative widths
`wg : wt` of a table 6.25 in wide, ten rows of one group whose `t` texts are 3 in wide and whose `g` texts 0.1 in;
`nrow = 12`, one column-header row reserved -/
def exDocKept (wg wt : Rat) : Doc :=
  { exDoc [wg, wt] with
    cols := ["g".toList, "t".toList],
    rows := List.replicate 10 [some "A".toList, some "T".toList],
    page := { exPage with nrow := 12 }, title := none, footnote := none, source := none,
    headers := [some { text := some ["G".toList, "T".toList], colRelWidth := none, attrs := exTbl }],
    body := { (exDoc [wg, wt]).body with pageBy := some ["g".toList], newPage := true, pagebyColumn := true } }

/-- `T` is 3 in wide, everything else 0.1 in -/
def exMeasureKept : Measure := fun s _ _ => if s == "T".toList then some 3 else some (1 / 10)

open Props.C01enc in
/-- the kept page_by column does not shift the widths: with `g : t = 1 : 4` the `t` column is 5 in wide and a 3 in text is
ONE line (against the 1.25 in of its left neighbour it would be three) — all ten rows and the heading row of the group
(11 lines) fit the 11 available lines, one page; with `g : t = 2 : 1` the `t` column is 2.08 in wide and the same text
is TWO lines (against its neighbour's 4.17 in it would be one) — the heading row and five such rows fill the 11 lines of
page 1, the other five rows stand on page 2 -/
example :
    (match plan exMeasureKept (exDocKept 1 4) with
     | .ok pl => pl.p.removed == [] && pl.p.cum == [5 / 4, 25 / 4] &&
         (rowIns pl.ld).map (·.dataRows) == List.replicate 10 1 && pl.ld.pageNums == List.replicate 10 1
     | .error _ => false) = true ∧
    (match plan exMeasureKept (exDocKept 2 1) with
     | .ok pl => pl.p.removed == [] && pl.p.cum == [25 / 6, 25 / 4] &&
         (rowIns pl.ld).map (·.dataRows) == List.replicate 10 2 &&
         pl.ld.pageNums == [1, 1, 1, 1, 1, 2, 2, 2, 2, 2]
     | .error _ => false) = true := by
  refine ⟨by decide +kernel, by decide +kernel⟩

open Props.C01enc in
/-- two columns `i`, `t` (relative widths 1 : 3 of 6.25 in: `t` is 4.6875 in wide), twelve rows that ALL show the same text
`T` in column `t`, `text_font_size = sizes` (one value per ROW when it is a tuple / an n×1 matrix); `nrow = 11`, one
column-header row reserved -/
def exDocRowSizes (sizes : Attr) : Doc :=
  { exDoc [1, 3] with
    cols := ["i".toList, "t".toList],
    rows := (List.range 12).map fun _ => [some "R".toList, some "T".toList],
    page := { exPage with nrow := 11 }, title := none, footnote := none, source := none,
    headers := [some { text := some ["I".toList, "T".toList], colRelWidth := none, attrs := exTbl }],
    body := { (exDoc [1, 3]).body with attrs := { exTbl with size := sizes } } }

/-- `T` is 0.3 in wide per point of font size (2.7 in at 9pt, 5.4 in at 18pt), everything else 0.1 in -/
def exMeasureSized : Measure := fun s _ z => if s == "T".toList then some (z * 3 / 10) else some (1 / 10)

open Props.C01enc in
/-- the same text in one column has the height of ITS OWN ROW's font size: four rows at 9pt (one line each) and eight at
18pt (two lines each) — page 1 holds `4·1 + 3·2 = 10` lines, the other five rows (10 lines) stand on page 2; the same sizes
spelled as an n×1 matrix paginate alike; a two-element tuple is repeated cyclically down the rows (`1 + 2 + 1 + 2 + …`:
six rows are 9 lines, the seventh — one line — still fits); and with one size for the whole table all twelve rows are one
line high, ten on page 1 -/
example :
    (match plan exMeasureSized (exDocRowSizes (.tuple (List.replicate 4 (.int 9) ++ List.replicate 8 (.int 18)))) with
     | .ok pl => (rowIns pl.ld).map (·.dataRows) == [1, 1, 1, 1, 2, 2, 2, 2, 2, 2, 2, 2] &&
         pl.ld.pageNums == [1, 1, 1, 1, 1, 1, 1, 2, 2, 2, 2, 2]
     | .error _ => false) = true ∧
    (match plan exMeasureSized
        (exDocRowSizes (.nested (List.replicate 4 [.int 9] ++ List.replicate 8 [.int 18]))) with
     | .ok pl => pl.ld.pageNums == [1, 1, 1, 1, 1, 1, 1, 2, 2, 2, 2, 2]
     | .error _ => false) = true ∧
    (match plan exMeasureSized (exDocRowSizes (.tuple [.int 9, .int 18])) with
     | .ok pl => (rowIns pl.ld).map (·.dataRows) == [1, 2, 1, 2, 1, 2, 1, 2, 1, 2, 1, 2] &&
         pl.ld.pageNums == [1, 1, 1, 1, 1, 1, 1, 2, 2, 2, 2, 2]
     | .error _ => false) = true ∧
    (match plan exMeasureSized (exDocRowSizes (.scalar (.int 9))) with
     | .ok pl => pl.ld.pageNums == [1, 1, 1, 1, 1, 1, 1, 1, 1, 1, 2, 2]
     | .error _ => false) = true := by
  refine ⟨by decide +kernel, by decide +kernel, by decide +kernel, by decide +kernel⟩

end Props.C04enc
