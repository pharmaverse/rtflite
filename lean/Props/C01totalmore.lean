import Model.Rtf
import Model.EncodeMulti
import Model.EncodeFigure
import Model.EncodeDomainMore
import Model.EncodeAcceptedMore
import Proofs.EncodeTotalFig
import Proofs.EncodeTotalIff
import Props.C01total
import Props.C01encmore
/-!
# C01, first clause, for the multi-section and the figure-only encoder models

C01: *"For every document configuration accepted at construction, `rtf_encode()` succeeds (the only data-dependent
refusal being a `ValueError` for non-contiguous group_by keys) and returns … well-formed RTF.  This holds for single
tables, multi-section tables and figure documents alike."*  `Props/C01total.lean` proves the first clause for the
single-section encoder model, `Props/C01encmore.lean` the second clause for the two other models.  This file proves the
FIRST clause for them: **`Model.EncodeMulti.encodeM` and `Model.EncodeFigure.encodeWithF` do not fail on an accepted
configuration.**  Both models are byte-equal to `rtf_encode()` on every generated document, exceptions included
(`harness/encodecorr2.py`, every run).

Hypotheses (decidable, `Model/EncodeAcceptedMore.lean`; every clause names its validator):

* `AcceptedM d` / `AcceptedF d` — the post-construction state the constructors GUARANTEE, stated on the components of
  the document (page, the sections' frames / bodies / headers, the flat header list, the text components; for a figure
  document the figure list, its formats, sizes and alignment, `as_table=False` on footnote and source);
  `C01_sections_accepted`: every per-section `temp_document` of an accepted multi-section document is an accepted
  single-section state — no hypothesis about them is needed;
* `ShapesInQuantifierM d` / `ShapesInQuantifierF d` — the attribute shapes of C01's quantifier, per `temp_document` /
  for the text attributes a figure document prints.  As on the single-section path the constructors accept more
  (an empty attribute list, …) and `rtf_encode()` raises there: `C01totalmore_outside_*`, `C01_totalM_witness`,
  `C01_totalF_witness` (domain decisions, DESIGN §8);
* `MeasureOkM measure d` — `get_string_width` answers what the sections' paginations ask for (no string is measured on
  the figure path).

Conclusions: the multi-section encoder returns a document, or raises `ValueError` and the group_by keys of SOME SECTION
are not contiguous — and it refuses exactly then (`C01_encodeM_refused_iff`, `C01_encodeM_encodes_iff`; likewise the
single-section encoder, `C01_encode_refused_iff`); the figure encoder returns a document — it has no refusal.  The
hypotheses are the three of the single-section theorem: the multi-section path adds no failure of its own (the
per-section documents only drop texts and page borders, the colour table is built from validated colours of all
sections), and on the figure path every remaining failure of the model (`IndexError` of an empty size list,
`ValueError` of an unknown suffix, the empty output of an empty figure list) is excluded by a constructor check (D37,
`359e88c`).
-/
namespace Props.C01totalmore
open Model.Rtf Model.Encode Model.EncodeDomain Model.EncodeMulti Model.EncodeFigure Model.EncodeDomainMore
open Model.EncodeAccepted Model.EncodeAcceptedMore Proofs.EncodeTotal

/-! ## multi-section -/

/-- every `temp_document` `_encode_multi_section` hands to `_encode_body_section` is an accepted single-section state -/
theorem C01_sections_accepted (d : MDoc) (ha : AcceptedM d) : ∀ sd ∈ sectionDocs d, Accepted sd :=
  accepted_sectionDocs ha

/-- **C01, totality of the multi-section encoder model**: an accepted configuration inside C01's quantifier encodes,
unless the group_by keys of one of its sections are not contiguous — then, and only then, the encoder refuses, with
`ValueError`. -/
theorem C01_encodeM_total (measure : Measure) (d : MDoc) (ha : AcceptedM d) (hs : ShapesInQuantifierM d)
    (hm : MeasureOkM measure d) :
    (∃ g, encodeM measure d = .ok g) ∨
    (encodeM measure d = .error "ValueError" ∧ ∃ sd ∈ sectionDocs d, ¬ GroupKeysContiguous sd) :=
  (encodeM_total measure ha hs hm).imp (fun ⟨g, hg, _⟩ => ⟨g, hg⟩) id

/-- contiguous keys in every section ⇒ the encoder returns a document -/
theorem C01_encodeM_total_contiguous (measure : Measure) (d : MDoc) (ha : AcceptedM d) (hs : ShapesInQuantifierM d)
    (hm : MeasureOkM measure d) (hc : ∀ sd ∈ sectionDocs d, GroupKeysContiguous sd) :
    ∃ g, encodeM measure d = .ok g :=
  ok_of_ok_or_error (encodeM_total measure ha hs hm) fun ⟨sd, hsd, hn⟩ => hn (hc sd hsd)

/-- a document none of whose sections uses `group_by` is never refused -/
theorem C01_encodeM_total_no_groupby (measure : Measure) (d : MDoc) (ha : AcceptedM d) (hs : ShapesInQuantifierM d)
    (hm : MeasureOkM measure d) (h0 : ∀ s ∈ d.sections, s.body.groupByL = []) : ∃ g, encodeM measure d = .ok g := by
  apply C01_encodeM_total_contiguous measure d ha hs hm
  intro sd hsd
  obtain ⟨i, s, hmem, rfl⟩ := mem_sectionDocs hsd
  exact groupKeysContiguous_of_no_groupby (h0 s hmem)

/-- whatever the multi-section encoder model raises on an accepted configuration of the quantifier is `ValueError` -/
theorem C01_encodeM_only_valueError (measure : Measure) (d : MDoc) (ha : AcceptedM d) (hs : ShapesInQuantifierM d)
    (hm : MeasureOkM measure d) (e : String) (he : encodeM measure d = .error e) : e = "ValueError" :=
  error_eq_of_ok_or_error (encodeM_total measure ha hs hm) he

/-- the decidable form of the refusal condition (evaluated by the driver on every generated document) -/
theorem C01_groupKeysContiguousM_decidable (d : MDoc) :
    groupKeysContiguousM d = true ↔ ∀ sd ∈ sectionDocs d, GroupKeysContiguous sd := by
  rw [groupKeysContiguousM_iff]
  constructor
  · intro h sd hsd
    exact Classical.byContradiction fun hn => h ⟨sd, hsd, hn⟩
  · intro h ⟨sd, hsd, hn⟩
    exact hn (h sd hsd)

/-- **the refusal is decided by the data alone**: on an accepted configuration of the quantifier the multi-section
encoder returns a document if and only if the group_by keys of every section are contiguous … -/
theorem C01_encodeM_encodes_iff (measure : Measure) (d : MDoc) (ha : AcceptedM d) (hs : ShapesInQuantifierM d)
    (hm : MeasureOkM measure d) :
    (∃ g, encodeM measure d = .ok g) ↔ ∀ sd ∈ sectionDocs d, GroupKeysContiguous sd :=
  ⟨fun ⟨_, hg⟩ => encodeM_ok_contiguous measure ha hs hm hg, C01_encodeM_total_contiguous measure d ha hs hm⟩

/-- … and refuses, with `ValueError`, if and only if the keys of some section are not -/
theorem C01_encodeM_refused_iff (measure : Measure) (d : MDoc) (ha : AcceptedM d) (hs : ShapesInQuantifierM d)
    (hm : MeasureOkM measure d) :
    encodeM measure d = .error "ValueError" ↔ ∃ sd ∈ sectionDocs d, ¬ GroupKeysContiguous sd :=
  error_iff_of_ok_or_error (encodeM_total measure ha hs hm) (fun hc ⟨sd, hsd, hn⟩ => hn (hc sd hsd))

/-- the same for the single-section encoder model (complement of `Props.C01total.C01_encode_total`) -/
theorem C01_encode_encodes_iff (measure : Measure) (d : Doc) (ha : Accepted d) (hs : ShapesInQuantifier d)
    (hm : MeasureOk measure d) : (∃ g, encode measure d = .ok g) ↔ GroupKeysContiguous d :=
  ⟨fun ⟨_, hg⟩ => encode_ok_contiguous measure ha hs hm hg,
   Props.C01total.C01_encode_total_contiguous measure d ha hs hm⟩

theorem C01_encode_refused_iff (measure : Measure) (d : Doc) (ha : Accepted d) (hs : ShapesInQuantifier d)
    (hm : MeasureOk measure d) : encode measure d = .error "ValueError" ↔ ¬ GroupKeysContiguous d :=
  error_iff_of_ok_or_error (encode_total measure ha hs hm) (fun hc hn => hn hc)

/-- **C01 for the multi-section encoder model, both clauses** -/
theorem C01_encodeM_total_wellformed (measure : Measure) (d : MDoc) (ha : AcceptedM d) (hs : ShapesInQuantifierM d)
    (hm : MeasureOkM measure d) (hdom : InDomainMulti d) (hc : ∀ sd ∈ sectionDocs d, GroupKeysContiguous sd) :
    ∃ g, encodeM measure d = .ok g ∧ wellFormed (printDoc g) = true := by
  obtain ⟨g, hg⟩ := C01_encodeM_total_contiguous measure d ha hs hm hc
  exact ⟨g, hg, Props.C01encmore.C01_encodeMulti_wellformed measure d g hg hdom⟩

/-- … and in every case: a document that prints to well-formed RTF, or the `ValueError` of non-contiguous keys -/
theorem C01_encodeM_total_or_refused (measure : Measure) (d : MDoc) (ha : AcceptedM d) (hs : ShapesInQuantifierM d)
    (hm : MeasureOkM measure d) (hdom : InDomainMulti d) :
    (∃ g, encodeM measure d = .ok g ∧ wellFormed (printDoc g) = true) ∨
    (encodeM measure d = .error "ValueError" ∧ ∃ sd ∈ sectionDocs d, ¬ GroupKeysContiguous sd) := by
  rcases C01_encodeM_total measure d ha hs hm with ⟨g, hg⟩ | h
  · exact Or.inl ⟨g, hg, Props.C01encmore.C01_encodeMulti_wellformed measure d g hg hdom⟩
  · exact Or.inr h

/-! ## a single frame under a nested header list (assigned after construction)

`encodeWithNested1 measure d hs` is the single-section encoder on the concatenated list, so `C01_encode_total` applies
to the state `{ d with headers := hs.flatten }` (which no constructor produces: `RTFDocument(df=<frame>,
rtf_column_header=[[…]])` is refused, the list can only be assigned afterwards). -/

theorem C01_encodeNested1_total (measure : Measure) (d : Doc) (hs : List (List (Option Header)))
    (ha : Accepted { d with headers := hs.flatten }) (hsh : ShapesInQuantifier { d with headers := hs.flatten })
    (hm : MeasureOk measure { d with headers := hs.flatten }) :
    (∃ x, encodeWithNested1 measure d hs = .ok x) ∨
    (encodeWithNested1 measure d hs = .error "ValueError" ∧ ¬ GroupKeysContiguous { d with headers := hs.flatten }) :=
  (encodeWith_total measure ha hsh hm).imp (fun ⟨x, hx, _⟩ => ⟨x, hx⟩) id

theorem C01_encodeNested1_total_wellformed (measure : Measure) (d : Doc) (hs : List (List (Option Header)))
    (ha : Accepted { d with headers := hs.flatten }) (hsh : ShapesInQuantifier { d with headers := hs.flatten })
    (hm : MeasureOk measure { d with headers := hs.flatten }) (hdom : InDomain { d with headers := hs.flatten })
    (hc : GroupKeysContiguous { d with headers := hs.flatten }) :
    ∃ x, encodeWithNested1 measure d hs = .ok x ∧ wellFormed (printDoc x.1) = true := by
  rcases C01_encodeNested1_total measure d hs ha hsh hm with ⟨x, hx⟩ | ⟨_, hn⟩
  · exact ⟨x, hx, Props.C01encmore.C01_encodeNested1_wellformed measure d hs x hx hdom⟩
  · exact absurd hc hn

/-! ## figure-only -/

/-- **C01, totality of the figure-only encoder model**: an accepted figure document inside C01's quantifier encodes —
to a document (not the empty string); there is no refusal on this path. -/
theorem C01_encodeF_total (d : FDoc) (ha : AcceptedF d) (hs : ShapesInQuantifierF d) :
    ∃ g n, encodeWithF d = .ok (some g, n) :=
  encodeWithF_total ha hs

/-- the same on the string `rtf_encode()` returns -/
theorem C01_encodeTextF_total (d : FDoc) (ha : AcceptedF d) (hs : ShapesInQuantifierF d) :
    ∃ g, encodeTextF d = .ok (printDoc g) := by
  obtain ⟨g, n, h⟩ := C01_encodeF_total d ha hs
  exact ⟨g, by unfold encodeTextF; rw [h]; rfl⟩

/-- **C01 for the figure-only encoder model, both clauses** -/
theorem C01_encodeF_total_wellformed (d : FDoc) (ha : AcceptedF d) (hs : ShapesInQuantifierF d)
    (hdom : InDomainFig d) : ∃ g n, encodeWithF d = .ok (some g, n) ∧ wellFormed (printDoc g) = true := by
  obtain ⟨g, n, h⟩ := C01_encodeF_total d ha hs
  exact ⟨g, n, h, Props.C01encmore.C01_encodeFigure_wellformed d g n h hdom⟩

/-- the hypothesis `d.figs ≠ []` of `C01_encodeTextF_wellformed` (the empty-output finding of `Props/C01encmore.lean`)
is a constructor guarantee -/
theorem C01_acceptedF_has_figures (d : FDoc) (ha : AcceptedF d) : d.figs ≠ [] := by
  have := (accFactsF ha).figs
  intro h
  rw [h] at this
  cases this

/-! ## non-vacuity: three sections with different strategies -/

open Props.C01total (sc tp exText exTbl exPage exDoc exMeasure)

def plainBody : Body :=
  { attrs := exTbl, colRelWidth := some [1, 2], asColheader := true, groupBy := none, pageBy := none,
    sublineBy := none, newPage := false, pagebyHeader := true, pagebyColumn := true }

/-- section 0: `exDoc` of `Props/C01total.lean` (page_by `g` shown as spanning rows, group_by `a`, explicit header,
per-column fonts and colours); section 1: a plain two-column frame without header row (`[None]`), its own colour;
section 2: subline_by `s` and group_by `a` starting a new page (page_by `p` as a column), default header filled with
the column names.  Nested header list; title on every page, footnote (as table) after the last section. -/
def exMulti : MDoc :=
  { sections :=
      [{ cols := exDoc.cols, rows := exDoc.rows, body := exDoc.body, headers := exDoc.headers },
       { cols := ["a".toList, "b".toList], rows := [[some "n>=3".toList, some "é".toList], [none, some "2".toList]],
         body := { plainBody with attrs := { exTbl with color := sc (.str "tomato") } }, headers := [none] },
       { cols := ["s".toList, "p".toList, "a".toList, "b".toList],
         rows := [[some "S1".toList, some "P".toList, some "x".toList, some "1".toList],
                  [some "S1".toList, some "P".toList, some "x".toList, some "2".toList],
                  [some "S2".toList, some "Q".toList, some "y".toList, some "3".toList]],
         body := { attrs := exTbl, colRelWidth := some [1, 1, 1, 1], asColheader := true,
                   groupBy := some ["a".toList], pageBy := some ["p".toList], sublineBy := some ["s".toList],
                   newPage := true, pagebyHeader := true, pagebyColumn := true },
         headers := [some { text := none, colRelWidth := some [1, 1, 1, 1], attrs := exTbl }] }],
    nested := true, flatHeaders := [],
    page := exPage, pageHeader := some { text := some ["Study".toList], attrs := exText }, pageFooter := none,
    title := exDoc.title, subline := none, footnote := exDoc.footnote, source := exDoc.source }

set_option maxRecDepth 100000

/-- the hypotheses of the totality theorem hold of the example (and so do the text domain and contiguity) -/
theorem exMulti_hypotheses : AcceptedM exMulti ∧ ShapesInQuantifierM exMulti ∧ MeasureOkM exMeasure exMulti ∧
    InDomainMulti exMulti ∧ groupKeysContiguousM exMulti = true := by decide +kernel

example : AcceptedM exMulti ∧ ShapesInQuantifierM exMulti ∧ MeasureOkM exMeasure exMulti ∧ InDomainMulti exMulti ∧
    groupKeysContiguousM exMulti = true := exMulti_hypotheses

/-- the three paginations ask for 12 + 4 + 13 widths -/
example : (sectionDocs exMulti).map (fun sd => (requests sd).length) = [12, 4, 13] := by decide +kernel

/-- the theorem applied to the example: it encodes, and the result is well-formed -/
example : ∃ g, encodeM exMeasure exMulti = .ok g ∧ wellFormed (printDoc g) = true :=
  have ⟨ha, hs, hm, hdom, hc⟩ := exMulti_hypotheses
  C01_encodeM_total_wellformed exMeasure exMulti ha hs hm hdom ((C01_groupKeysContiguousM_decidable exMulti).mp hc)

/-- the same document with the keys `x, y, x` in the LAST section -/
def exRefusedM : MDoc :=
  { exMulti with sections := exMulti.sections.map fun s =>
      if s.cols.length == 4 then
        { s with rows := [[some "S1".toList, some "P".toList, some "x".toList, some "1".toList],
                          [some "S1".toList, some "P".toList, some "y".toList, some "2".toList],
                          [some "S1".toList, some "P".toList, some "x".toList, some "3".toList]] }
      else s }

/-- the refusal branch is inhabited: accepted, in the quantifier, measurable, and refused with `ValueError` — because
of its third section alone -/
example : AcceptedM exRefusedM ∧ ShapesInQuantifierM exRefusedM ∧ MeasureOkM exMeasure exRefusedM ∧
    (sectionDocs exRefusedM).map groupKeysContiguous = [true, true, false] ∧
    raises (encodeM exMeasure exRefusedM) "ValueError" = true := by decide +kernel

/-- a document without sections (`RTFDocument(df=[], rtf_body=[], rtf_column_header=[])`) is accepted and encodes (to
the preamble) -/
example : let d : MDoc := { exMulti with sections := [] }
    AcceptedM d ∧ ShapesInQuantifierM d ∧ MeasureOkM exMeasure d ∧
    (match encodeM exMeasure d with
     | .ok g => g.blocks.length == 1
     | .error _ => false) = true := by decide +kernel

/-! ## non-vacuity: two figures with per-figure sizes -/

def exFigs : List FigFile :=
  [{ suffix := ".png".toList, bytes := [137, 80, 78, 71, 1, 255] }, { suffix := ".JPG".toList, bytes := [255, 216, 0, 17] }]

/-- two figures (a PNG and a JPEG suffix, arbitrary bytes) of sizes 5 × 4 and 6.1 × 3 inches, right-aligned; title and
subline on every page, footnote on the last page, source on the first; default `rtf_body` / `rtf_column_header` -/
def exFig : FDoc :=
  { figs := exFigs, widths := [5, 61 / 10], heights := [4, 3], align := "right", page := exPage,
    pageHeader := none, pageFooter := some { text := some ["Page \\pagenumber".toList], attrs := exText },
    title := some { text := some ["Figure x^2".toList], attrs := exText },
    subline := some { text := some ["sub".toList], attrs := exText },
    footnote := some { text := some "note é".toList, asTable := false, colRelWidth := some [1], attrs := exTbl },
    source := some { text := some "src".toList, asTable := false, colRelWidth := some [1],
                     attrs := { exTbl with color := sc (.str "blue") } },
    body := some exTbl, headers := [some { text := none, colRelWidth := none, attrs := exTbl }] }

theorem exFig_hypotheses : AcceptedF exFig ∧ ShapesInQuantifierF exFig ∧ InDomainFig exFig := by decide +kernel

example : AcceptedF exFig ∧ ShapesInQuantifierF exFig ∧ InDomainFig exFig := exFig_hypotheses

/-- the theorem applied to the example: it encodes, and the result is well-formed -/
example : ∃ g n, encodeWithF exFig = .ok (some g, n) ∧ wellFormed (printDoc g) = true :=
  have ⟨ha, hs, hdom⟩ := exFig_hypotheses
  C01_encodeF_total_wellformed exFig ha hs hdom

/-- a paragraph-rendered footnote reads its text attributes only: an empty `border_left` list is inside the figure
quantifier (and `rtf_encode()` encodes `RTFFootnote(text="x", as_table=False, border_left=[])` on a figure document) -/
example : let d : FDoc := { exFig with footnote := some { text := some "x".toList, asTable := false,
                                                           colRelWidth := some [1], attrs := { exTbl with bLeft := .list [] } } }
    acceptedF d = true ∧ shapesInQuantifierF d = true ∧ encodesF d = true := by decide +kernel

/-! ## outside the quantifier: accepted at construction, and the encoder raises -/

/-- the multi-section statement WITHOUT the quantifier-shape hypothesis -/
def C01_totalM_full : Prop :=
  ∀ (measure : Measure) (d : MDoc), AcceptedM d → MeasureOkM measure d →
    (∃ g, encodeM measure d = .ok g) ∨
    (encodeM measure d = .error "ValueError" ∧ ∃ sd ∈ sectionDocs d, ¬ GroupKeysContiguous sd)

/-- the figure statement WITHOUT the quantifier-shape hypothesis -/
def C01_totalF_full : Prop :=
  ∀ (d : FDoc), AcceptedF d → ∃ g n, encodeWithF d = .ok (some g, n)

/-- `rtf_body=[RTFBody(…), RTFBody(text_font=[]), RTFBody(…)]`: an empty attribute list in the SECOND section's body →
`ZeroDivisionError` -/
def exEmptyListM : MDoc :=
  { exMulti with sections := exMulti.sections.map fun s =>
      if s.cols.length == 2 then { s with body := { s.body with attrs := { exTbl with font := .list [] } } } else s }

theorem C01totalmore_outside_empty_list_section :
    acceptedM exEmptyListM = true ∧ shapesInQuantifierM exEmptyListM = false ∧
    (sectionDocs exEmptyListM).map shapesInQuantifier = [true, false, true] ∧
    measureOkM exMeasure exEmptyListM = true ∧
    raises (encodeM exMeasure exEmptyListM) "ZeroDivisionError" = true := by decide +kernel

/-- nested `rtf_column_header=[[…], [RTFColumnHeader(text=["A","B","C"])], […]]` on the two-column second section: the
header's width vector, inherited from that section's body, is shorter than its cells → `IndexError` -/
def exShortWidthsM : MDoc :=
  { exMulti with sections := exMulti.sections.map fun s =>
      if s.cols.length == 2 then
        { s with headers := [some { text := some ["A".toList, "B".toList, "C".toList], colRelWidth := some [1, 2],
                                    attrs := exTbl }] }
      else s }

theorem C01totalmore_outside_short_widths_section :
    acceptedM exShortWidthsM = true ∧ shapesInQuantifierM exShortWidthsM = false ∧
    measureOkM exMeasure exShortWidthsM = true ∧
    raises (encodeM exMeasure exShortWidthsM) "IndexError" = true := by decide +kernel

/-- `RTFTitle(text="Figure", text_font=[])` on a figure document → `ZeroDivisionError` -/
def exEmptyListF : FDoc :=
  { exFig with title := some { text := some ["Figure".toList], attrs := { exText with font := .tuple [] } } }

theorem C01totalmore_outside_empty_list_figure :
    acceptedF exEmptyListF = true ∧ shapesInQuantifierF exEmptyListF = false ∧
    raises (encodeWithF exEmptyListF) "ZeroDivisionError" = true := by decide +kernel

/-- `RTFFootnote(text="x", as_table=False, text_hyphenation=None)` on a figure document → `ValidationError` -/
def exNoneF : FDoc :=
  { exFig with footnote := some { text := some "x".toList, asTable := false, colRelWidth := some [1],
                                  attrs := { exTbl with hyph := .null } } }

theorem C01totalmore_outside_none_figure :
    acceptedF exNoneF = true ∧ shapesInQuantifierF exNoneF = false ∧
    raises (encodeWithF exNoneF) "ValidationError" = true := by decide +kernel

/-- totality does NOT hold for everything the constructors accept — on neither path -/
theorem C01_totalM_witness : ¬ C01_totalM_full := by
  intro h
  obtain ⟨ha, _, _, hm, he⟩ := C01totalmore_outside_empty_list_section
  have he := (raises_iff _ _).mp he
  rcases h exMeasure exEmptyListM ha hm with ⟨g, hg⟩ | ⟨hv, _⟩
  · rw [he] at hg; cases hg
  · rw [he] at hv
    exact absurd (Except.error.inj hv) (by decide)

theorem C01_totalF_witness : ¬ C01_totalF_full := by
  intro h
  obtain ⟨ha, _, he⟩ := C01totalmore_outside_empty_list_figure
  have he := (raises_iff _ _).mp he
  obtain ⟨g, n, hg⟩ := h exEmptyListF ha
  rw [he] at hg
  cases hg

/-! ## what `acceptedF` excludes is what made the figure encoder fail before the constructors checked it (D37) -/

/-- an empty size list (`IndexError`), an unknown suffix (`ValueError`), no figure (empty output), a table-rendered
source without widths (`TypeError`): each is refused by `acceptedF` -/
theorem C01totalmore_acceptedF_excludes :
    (let d := { exFig with widths := [] }; acceptedF d = false ∧ raises (encodeWithF d) "IndexError" = true) ∧
    (let d := { exFig with figs := [{ suffix := ".gif".toList, bytes := [1] }] };
      acceptedF d = false ∧ raises (encodeWithF d) "ValueError" = true) ∧
    (let d := { exFig with figs := [] }; acceptedF d = false ∧ encodesF d = false) ∧
    (let d := { exFig with source := some { text := some "s".toList, asTable := true, colRelWidth := none,
                                             attrs := exTbl } };
      acceptedF d = false ∧ raises (encodeWithF d) "TypeError" = true) := by decide +kernel

end Props.C01totalmore
