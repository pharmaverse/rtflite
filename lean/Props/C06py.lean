import Generated.PyShouldShow
import Model.Layout
/-!
# C06 — translator tie for the placement rule

`Generated.Py.ShouldShow.run` is regenerated on every run from `PageFeatureProcessor._should_show_element`.
It equals `Model.Layout.Placement.shows` (the rule every C06 placement theorem uses) on the three documented
options, and answers `False` for every other string.
-/
namespace Props.C06py
open Model.Layout Generated.Py.ShouldShow

/-- the option strings as code points -/
def name : Placement → List Nat
  | .first => "first".toList.map Char.toNat
  | .last => "last".toList.map Char.toNat
  | .all => "all".toList.map Char.toNat

/-- … spelled out, as the generated code writes them -/
theorem name_eq (p : Placement) :
    name p = match p with
      | .all => [97, 108, 108]
      | .first => [102, 105, 114, 115, 116]
      | .last => [108, 97, 115, 116] := by
  cases p <;> decide

theorem C06py_should_show_translated (p : Placement) (isFirst isLast : Bool) :
    run (name p) isFirst isLast = p.shows isFirst isLast := by
  rw [name_eq]
  cases p <;> simp [run, Placement.shows]

/-- any other string: not shown -/
theorem C06py_unknown_option (loc : List Nat) (isFirst isLast : Bool)
    (h : ∀ p, loc ≠ name p) : run loc isFirst isLast = false := by
  simp only [name_eq] at h
  simp [run, h .all, h .first, h .last]

example : run (name .last) false true = true := by decide

end Props.C06py
