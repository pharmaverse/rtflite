import Model.EncodeMulti
import Proofs.EncodeMultiLift
import Props.C07enc
import Props.C02encm
/-!
# C07 for section lists: which section carries `rtf_page.border_first` / `border_last`

`UnifiedRTFEncoder._encode_multi_section` (model: `Model.EncodeMulti.sectionDocs`) encodes every section of
`df = [f₀, …, fₙ₋₁]` on a copy of the document whose page has `border_first` removed for every section after the first
and `border_last` removed for every section before the last — **by the section's position in the list**.  Here, for a
list of ANY length n ≥ 1 (the one-element list `df=[f]`, `rtf_body=[b]` included):

* `C07encm_page_borders`   section document `i` has `border_first = (i = 0 ? page.border_first : "")` and
                           `border_last = (i + 1 = n ? page.border_last : "")`;
* `C07encm_first_only`     the first section document keeps `page.border_first`, every other one has `""`;
* `C07encm_last_only`      the last section document keeps `page.border_last`, every other one has `""`;
* `C07encm_one_section`    a one-element list: the only section document has the document's page, unchanged — it is the
                           first AND the last section;
* `C07encm_one_section_closed`   … so on its rendering both closing statements of `Props/C07enc.lean` hold with the
                           document's own page borders: the first data row of page 1 (no header row) is emitted with the
                           control word of `page.border_first` on top, the last data row of the last page (no
                           table-rendered footnote / source) with the control word of `page.border_last` at the bottom
                           (for the first / last section of a list of any length these are
                           `Props.C02encm.C02encm_first_row_border`, `…_last_row_border` at `i = 0`, `i = n − 1`).

**Finding (known finding `C07-empty-edge-section`).**  "By position" is not "where the table's first / last row is":
a section without data rows renders no data row, and its 0-row page leaves `_apply_pagination_borders` before any border
is applied.  `C07encm_full` states what C07 needs of the section rule on a document whose only table rows are data rows
(`Bare`: no header objects, no footnote, no source) — the last section that HAS a data row keeps `page.border_last`, the
first one that has a data row keeps `page.border_first`; `C07encm_partial` proves it whenever the first and the last
section of the list have a data row; `C07encm_witness` refutes it with the list `[2 rows, 0 rows]`.
-/
namespace Props.C07encm
open Model.Rtf Model.Emit Model.Encode Model.EncodeMulti Model.Broadcast Model.Layout Model.Borders
open Proofs.EncodeLift Proofs.EncodeMultiLift Generated
open Proofs.EncodeAttrs (Run borderIn edgeStr frameRect)

/-! ## the page borders of the section documents, for every list length -/

/-- **section document `i` of a list of `n` sections**: `page.border_first` iff `i = 0`, `page.border_last` iff
`i + 1 = n` (else the empty style: "no page border") -/
theorem C07encm_page_borders (d : MDoc) (i : Nat) (sd : Doc) (h : (sectionDocs d)[i]? = some sd) :
    sd.page.borderFirst = (if i = 0 then d.page.borderFirst else "") ∧
    sd.page.borderLast = (if i + 1 = d.sections.length then d.page.borderLast else "") := by
  rw [sectionDocs_getElem?] at h
  obtain ⟨s, hs, rfl⟩ := Option.map_eq_some_iff.mp h
  have hi : i < d.sections.length := (List.getElem?_eq_some_iff.mp hs).1
  obtain ⟨_, _, _, h4, h5, _⟩ := Props.C02encm.C02encm_sectionDoc d d.sections.length i s
  rw [h4, h5]
  refine ⟨by cases i <;> simp, ?_⟩
  by_cases h1 : i + 1 = d.sections.length
  · simp [h1]
  · simp [h1, show i + 1 < d.sections.length by omega]

/-- **`page.border_first` goes to the first section only** — for every non-empty list, the one-element list included -/
theorem C07encm_first_only (d : MDoc) (hne : d.sections ≠ []) :
    ∃ sd rest, sectionDocs d = sd :: rest ∧ sd.page.borderFirst = d.page.borderFirst ∧
      ∀ x ∈ rest, x.page.borderFirst = "" := by
  have hlen : (sectionDocs d).length = d.sections.length := sectionDocs_length d
  cases hsd : sectionDocs d with
  | nil =>
    rw [hsd] at hlen
    exact absurd (List.length_eq_zero_iff.mp hlen.symm) hne
  | cons sd rest =>
    refine ⟨sd, rest, rfl, ?_, ?_⟩
    · have := (C07encm_page_borders d 0 sd (by rw [hsd]; rfl)).1
      simpa using this
    · intro x hx
      obtain ⟨j, hj, hjx⟩ := List.getElem_of_mem hx
      have h2 : (sectionDocs d)[j + 1]? = some x := by
        rw [hsd, List.getElem?_cons_succ, List.getElem?_eq_getElem hj, hjx]
      have := (C07encm_page_borders d (j + 1) x h2).1
      simpa using this

/-- **`page.border_last` goes to the last section only** — for every non-empty list, the one-element list included -/
theorem C07encm_last_only (d : MDoc) (hne : d.sections ≠ []) :
    ∃ init sd, sectionDocs d = init ++ [sd] ∧ sd.page.borderLast = d.page.borderLast ∧
      ∀ x ∈ init, x.page.borderLast = "" := by
  have hlen : (sectionDocs d).length = d.sections.length := sectionDocs_length d
  rcases List.eq_nil_or_concat (sectionDocs d) with h0 | ⟨init, sd, hsd⟩
  · rw [h0] at hlen
    exact absurd (List.length_eq_zero_iff.mp hlen.symm) hne
  · rw [List.concat_eq_append] at hsd
    have hl : init.length + 1 = d.sections.length := by rw [← hlen, hsd, List.length_append, List.length_singleton]
    refine ⟨init, sd, hsd, ?_, fun x hx => ?_⟩
    · rw [(C07encm_page_borders d init.length sd (by rw [hsd, List.getElem?_concat_length])).2, if_pos hl]
    · obtain ⟨j, hj, rfl⟩ := List.getElem_of_mem hx
      have h2 : (sectionDocs d)[j]? = some init[j] := by
        rw [hsd, List.getElem?_append_left hj, List.getElem?_eq_getElem hj]
      rw [(C07encm_page_borders d j _ h2).2, if_neg (by omega)]

/-- **a one-element list** (`df=[f]`, `rtf_body=[b]`): there is one section document, and its page is the document's
page, unchanged — the only section is the first and the last, it keeps `border_first` AND `border_last` -/
theorem C07encm_one_section (d : MDoc) (s : Section) (h : d.sections = [s]) :
    sectionDocs d = [sectionDoc d 1 0 s] ∧ (sectionDoc d 1 0 s).page = d.page ∧
    (sectionDoc d 1 0 s).page.borderFirst = d.page.borderFirst ∧
    (sectionDoc d 1 0 s).page.borderLast = d.page.borderLast := by
  refine ⟨?_, ?_, ?_, ?_⟩
  · simp [sectionDocs, h, List.zipIdx]
  · simp [sectionDoc]
  · simp [sectionDoc]
  · simp [sectionDoc]

/-! ## … on the emitted rows -/

/-- **the one-element list is closed at both ends by its only section**: with `d.sections = [s]`, on the rendering of
the only section document the first data row of page 1 (no header row) carries `page.border_first` on top and the last
data row of the last page (no table-rendered footnote / source there) carries `page.border_last` at the bottom -/
theorem C07encm_one_section_closed (measure : Measure) (d : MDoc) (s : Section)
    (R : Run measure (ctxM d) (sectionDoc d 1 0 s))
    (hrect : frameRect (sectionDoc d 1 0 s) = true) (hcols : 0 < R.p.ncolsDisp)
    (ht : Props.C07enc.edgeShapeOk s.body.attrs.bTop = true) (hb : Props.C07enc.edgeShapeOk s.body.attrs.bBottom = true)
    {pg0 pg : PageCtx} {blocks0 blocks : List Block}
    (hr0 : R.Renders pg0 blocks0) (hh0 : 0 < pg0.height) (h1 : pg0.number = 1)
    (h2 : hasHeaderRow (sectionDoc d 1 0 s) = false) (h3 : d.page.borderFirst ≠ "")
    (hr : R.Renders pg blocks) (hh : 0 < pg.height) (hlast : pg.number = pg.total) (h4 : d.page.borderLast ≠ "")
    (hf : footTableHere (sectionDoc d 1 0 s).footnote d.page.pageFootnote (pg.number == 1) (pg.number == pg.total)
      = false)
    (hsrc : footTableHere (sectionDoc d 1 0 s).source d.page.pageSource (pg.number == 1) (pg.number == pg.total)
      = false) :
    (∃ code cells e cs gaph just, borderCodes.lookup d.page.borderFirst = some code ∧
      R.rows[pg0.start]? = some cells ∧ e ∈ R.ess.flatten ∧
      e = rowElem { gaph := gaph, just := just, cells := cs } ∧ cs.length = cells.length ∧
      ∀ c ∈ cs, ∃ b, c.top = some b ∧ b.style = codeWord code) ∧
    (∃ code cells e cs gaph just, borderCodes.lookup d.page.borderLast = some code ∧
      R.rows[pg.start + pg.height - 1]? = some cells ∧ e ∈ R.ess.flatten ∧
      e = rowElem { gaph := gaph, just := just, cells := cs } ∧ cs.length = cells.length ∧
      ∀ c ∈ cs, ∃ b, c.bottom = some b ∧ b.style = codeWord code) :=
  ⟨Props.C02encm.C02encm_first_row_border measure d 1 s R hrect hcols ht hb hr0 hh0 h1 h2 h3,
   Props.C02encm.C02encm_last_row_border measure d 1 0 (by omega) s R hrect hcols ht hb hr hh hlast h4 hf hsrc⟩

/-! ## finding: an edge section without data rows -/

/-- a document whose only table rows are data rows: no header object, no footnote, no source -/
structure Bare (d : MDoc) : Prop where
  nested : d.nested = false
  flat : d.flatHeaders = []
  fn : d.footnote = none
  src : d.source = none

/-- the closing border reaches the table's last row: the last section that HAS a data row keeps `page.border_last` -/
def ClosingReaches (d : MDoc) : Prop :=
  ∀ i s, d.sections[i]? = some s → s.rows ≠ [] →
    (∀ j s', i < j → d.sections[j]? = some s' → s'.rows = []) →
    (sectionDoc d d.sections.length i s).page.borderLast = d.page.borderLast

/-- the opening border reaches the table's first row: the first section that HAS a data row keeps `page.border_first` -/
def OpeningReaches (d : MDoc) : Prop :=
  ∀ i s, d.sections[i]? = some s → s.rows ≠ [] →
    (∀ j s', j < i → d.sections[j]? = some s' → s'.rows = []) →
    (sectionDoc d d.sections.length i s).page.borderFirst = d.page.borderFirst

/-- what C07 needs of the section rule, on documents whose only table rows are data rows -/
def C07encm_full : Prop := ∀ d : MDoc, Bare d → ClosingReaches d ∧ OpeningReaches d

/-- **partial**: when the first and the last section of the list have a data row, the page borders reach the first and
the last data row of the document (no `Bare` needed: the section rule is by position, and the positions agree) -/
theorem C07encm_partial (d : MDoc)
    (hfirst : ∀ s, d.sections[0]? = some s → s.rows ≠ [])
    (hlast : ∀ s, d.sections[d.sections.length - 1]? = some s → s.rows ≠ []) :
    ClosingReaches d ∧ OpeningReaches d := by
  refine ⟨?_, ?_⟩
  · intro i s hs hrows hafter
    have hi : i < d.sections.length := (List.getElem?_eq_some_iff.mp hs).1
    have hl : i + 1 = d.sections.length := Decidable.byContradiction fun h =>
      have h2 : d.sections[d.sections.length - 1]? = some d.sections[d.sections.length - 1] :=
        List.getElem?_eq_getElem (by omega)
      hlast _ h2 (hafter _ _ (by omega) h2)
    rw [(Props.C02encm.C02encm_sectionDoc d d.sections.length i s).2.2.2.2.1, if_neg (by omega)]
  · intro i s hs hrows hbefore
    have hi : i < d.sections.length := (List.getElem?_eq_some_iff.mp hs).1
    have h0 : i = 0 := Decidable.byContradiction fun h =>
      have h2 : d.sections[0]? = some d.sections[0] := List.getElem?_eq_getElem (by omega)
      hfirst _ h2 (hbefore _ _ (by omega) h2)
    rw [(Props.C02encm.C02encm_sectionDoc d d.sections.length i s).2.2.2.1, if_neg (by omega)]

open Props.C01enc Props.C01encmore in
/-- the witness: two sections under no header, no footnote, no source — 2 rows, then 0 rows; `nrow` and the page borders
of `exPage` (`border_first = border_last = "double"`) -/
def exEmptyLast : MDoc :=
  { exMulti with
    sections := [{ cols := ["a".toList, "b".toList],
                   rows := [[some "x".toList, some "1".toList], [some "y".toList, some "2".toList]],
                   body := exBody, headers := [] },
                 { cols := ["a".toList, "b".toList], rows := [], body := exBody, headers := [] }],
    flatHeaders := [], footnote := none, source := none }

/-- **witness**: in `[2 rows, 0 rows]` the last section that has a data row is section 0, and its section document has
lost `page.border_last` (the section is not the last of the list): the document's last table row is not closed -/
theorem C07encm_witness : ¬ C07encm_full := by
  intro h
  have hb : Bare exEmptyLast := ⟨rfl, rfl, rfl, rfl⟩
  have hc := (h exEmptyLast hb).1 0 _ rfl (by decide) (by
    intro j s' hj hs'
    match j, hj, hs' with
    | 1, _, hs' =>
      simp only [exEmptyLast] at hs'
      cases hs'
      rfl
    | j + 2, _, hs' =>
      simp [exEmptyLast] at hs')
  revert hc
  decide

open Props.C01enc Props.C02 in
/-- by evaluation: the encoder accepts the witness; its only data rows (0, 1) are rendered by section document 0, whose
page has `border_last = ""`; section document 1, which keeps `"double"`, renders no data row -/
example :
    (match encodeWithM exMeasure exEmptyLast with | .ok _ => true | .error _ => false) = true ∧
    ((sectionDocs exEmptyLast).map fun sd =>
      match encoderBlocks exMeasure sd with
      | .ok pbs => pbs.map (fun x => dataIdx x.2)
      | .error _ => []) = [[[0, 1]], [[]]] ∧
    (sectionDocs exEmptyLast).map (fun sd => (sd.page.borderFirst, sd.page.borderLast)) =
      [("double", ""), ("", "double")] := by
  refine ⟨by decide +kernel, by decide +kernel, by decide +kernel⟩

open Props.C01enc Props.C01encmore in
/-- the hypotheses of `C07encm_partial` are satisfiable by a non-trivial list (three sections, `exMulti3`), and those of
`C07encm_one_section` by a one-element list -/
example : ClosingReaches Props.C02encm.exMulti3 ∧ OpeningReaches Props.C02encm.exMulti3 :=
  C07encm_partial _ (by intro s hs; cases hs; decide) (by intro s hs; cases hs; decide)

open Props.C01enc Props.C01encmore in
example : ∃ s, ({ exMulti with sections := exMulti.sections.take 1 } : MDoc).sections = [s] := ⟨_, rfl⟩

end Props.C07encm
