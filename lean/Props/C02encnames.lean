import Model.Encode
import Proofs.EncodeLift
import Proofs.EncodeNames
import Props.C02enc
/-!
# C02 for the encoder model: what a table shows does not depend on the column NAMES

The model removes the page_by / subline_by columns **by position**: `removedIdx` turns every name of
`columns_to_remove` into the index of its (first, and for a polars frame only) occurrence among the frame's columns,
`keepMask` / `dropCols` then work with indices only, on the frame's rows and on every attribute matrix alike — as
`prepare_dataframe_for_body_encoding` does with `pl.nth(remaining_positions)`, and as
`_apply_data_post_processing` does by cutting the pages out of the column-reduced frame with `slice(offset, rows)`.
A column name is never interpreted: `*`, `^x$`, `^.*$`, the empty string, a name that is a prefix or a regular
expression of another name are names like any other (a projection BY NAME, `frame.select(names)`, would read the
first three as a wildcard / regular-expression selector).

Stated here for an arbitrary renaming `ρ` of the names that is injective on the names the document uses
(`InjOn ρ (d.cols ++ removedNames d.body)`: distinct names stay distinct — polars admits no frame with two equal
names):

* `C02encnames_idxOf`        the position of a name among the columns is the position of its image among the images;
* `C02encnames_removedIdx`   `removedIdx (renameDoc ρ d) = removedIdx d` — the same positions are removed, the same
                             `ValueError` for a page_by / subline_by name that is no column;
* `C02encnames_prepare`      the processed frame (`dispRows`), the removed positions and the keep mask of the renamed
                             document are those of the original one; the displayed names are the images of the
                             displayed names;
* `C02encnames_rows`         (without group_by) the frame the encoder takes its data rows from is the same for `d` and
                             for `renameDoc ρ d`, whenever both are accepted (the PAGINATION may differ: the width of a
                             group heading is measured on the text `name: value`); with `C02enc_data_row` /
                             `C02enc_rows_once_in_order` of `Props.C02enc`, both documents render every frame row once,
                             in order, from the same cells;
* `C02encnames_row_content`  for EVERY list of distinct names: row `i` of that frame is frame row `i` with exactly the
                             positions of the removed names dropped — restated with positions only (no name occurs on
                             the right-hand side).
-/
namespace Props.C02encnames
open Model.Encode Model.Broadcast Proofs.EncodeLift Proofs.EncodeNames

/-- the position of a name among the columns is the position of its image among the images -/
theorem C02encnames_idxOf (ρ : Str → Str) (cols : List Str) (n : Str) (h : InjOn ρ (n :: cols)) :
    (cols.map ρ).idxOf (ρ n) = cols.idxOf n :=
  idxOf_rename ρ cols n h

/-- **the same positions are removed under every injective renaming** (and the same refusal when a page_by /
subline_by name is no column) -/
theorem C02encnames_removedIdx (ρ : Str → Str) (d : Doc) (h : InjOn ρ (d.cols ++ removedNames d.body)) :
    removedIdx (renameDoc ρ d) = removedIdx d := by
  unfold removedIdx
  rw [renameDoc_removedNames]
  have hl : (renameDoc ρ d).cols.length = d.cols.length := List.length_map ρ
  rw [hl]
  exact mapM_idx_rename ρ d.cols (removedNames d.body) h

/-- the processed frame, the removed positions and the keep mask do not depend on the names; the displayed names are
the images of the displayed names -/
theorem C02encnames_prepare (ρ : Str → Str) (d : Doc) (p p' : Prep)
    (h : InjOn ρ (d.cols ++ removedNames d.body))
    (hp : prepare d = .ok p) (hp' : prepare (renameDoc ρ d) = .ok p') :
    p'.removed = p.removed ∧ p'.keep = p.keep ∧ p'.dispRows = p.dispRows ∧ p'.dispCols = p.dispCols.map ρ := by
  obtain ⟨r, _, ⟨hr, h2, h4⟩, _, _, _, h5, h1, _⟩ := Proofs.Encode.prepare_facts hp
  obtain ⟨r', _, ⟨hr', h2', h4'⟩, _, _, _, h5', h1', _⟩ := Proofs.Encode.prepare_facts hp'
  rw [C02encnames_removedIdx ρ d h, hr] at hr'
  cases hr'
  refine ⟨by rw [h1, h1'], ?_, by rw [h5, h5']; rfl, ?_⟩
  · rw [h2, h2', show (renameDoc ρ d).cols.length = d.cols.length from List.length_map ρ]
  · rw [h4, h4']; exact dropCols_map ρ d.cols r

/-- **(without group_by) the rows the encoder renders do not depend on the column names**: for every injective
renaming, whenever the encoder accepts both documents, the frame the data rows are taken from is the same -/
theorem C02encnames_rows (measure : Measure) (ρ : Str → Str) (d : Doc) (pl pl' : Plan)
    (h : InjOn ρ (d.cols ++ removedNames d.body)) (hgb : d.body.groupByL = [])
    (hp : plan measure d = .ok pl) (hp' : plan measure (renameDoc ρ d) = .ok pl') :
    pl'.rows = pl.rows ∧ pl'.rows.length = d.rows.length := by
  have hgb' : (renameDoc ρ d).body.groupByL = [] := by
    have hmap : (renameDoc ρ d).body.groupByL = d.body.groupByL.map ρ := by
      unfold Body.groupByL renameDoc
      cases d.body.groupBy <;> rfl
    rw [hmap, hgb]
    rfl
  obtain ⟨r, hr, _, _, h3, _⟩ := Props.C02enc.C02enc_rows_no_groupby measure d pl hp hgb
  obtain ⟨r', hr', _, _, h3', _⟩ := Props.C02enc.C02enc_rows_no_groupby measure _ pl' hp' hgb'
  rw [C02encnames_removedIdx ρ d h, hr] at hr'
  cases hr'
  refine ⟨by rw [h3, h3']; rfl, ?_⟩
  rw [h3', List.length_map]
  rfl

/-- (without group_by) row `i` of the frame the encoder renders is frame row `i` with the POSITIONS of the removed
names dropped: once the names have been resolved to positions, no name takes part -/
theorem C02encnames_row_content (measure : Measure) (d : Doc) (pl : Plan) (hp : plan measure d = .ok pl)
    (hgb : d.body.groupByL = []) (i : Nat) (row : List (Option Str)) (hrow : d.rows[i]? = some row) :
    ∃ removed, removedIdx d = .ok removed ∧
      pl.rows[i]? = some ((row.zipIdx.filter fun x => !removed.contains x.2).map (·.1)) := by
  obtain ⟨r, hr, _, _, h3, _⟩ := Props.C02enc.C02enc_rows_no_groupby measure d pl hp hgb
  refine ⟨r, hr, ?_⟩
  rw [h3, List.getElem?_map, hrow]
  rfl

/-! ## non-vacuity: names that polars would read as selectors -/

/-- a frame whose displayed columns are called `^g.*$` (a regular expression matching the consumed column `grp`) and
`*`, with `page_by = ["grp"]` shown as spanning rows -/
def exCols : List Str := ["grp".toList, "^g.*$".toList, "*".toList]

def exBody : Body :=
  { (default : Body) with pageBy := some ["grp".toList], newPage := false, pagebyColumn := true }

def exDoc : Doc :=
  { (default : Doc) with
    cols := exCols,
    rows := [[some "A".toList, some "r1".toList, some "x".toList], [some "A".toList, some "r2".toList, none],
             [some "B".toList, some "r3".toList, some "z".toList]],
    body := exBody }

/-- the renaming that gives the odd names ordinary ones -/
def exRho (s : Str) : Str :=
  if s = "^g.*$".toList then "item".toList else if s = "*".toList then "val".toList else s

/-- exactly position 0 (`grp`) is removed — with the odd names and with ordinary ones —, the displayed columns are
`^g.*$` and `*` in their order, the hypotheses of the theorems above hold for the example -/
example :
    removedIdx exDoc = .ok [0] ∧ removedIdx (renameDoc exRho exDoc) = .ok [0] ∧
    dropCols exDoc.cols [0] = ["^g.*$".toList, "*".toList] ∧
    exDoc.rows.map (fun r => dropCols r [0]) =
      [[some "r1".toList, some "x".toList], [some "r2".toList, none], [some "r3".toList, some "z".toList]] ∧
    (renameDoc exRho exDoc).cols = ["grp".toList, "item".toList, "val".toList] ∧
    InjOn exRho (exDoc.cols ++ removedNames exDoc.body) ∧ exDoc.body.groupByL = [] := by
  refine ⟨by decide, by decide, by decide, by decide, by decide, ?_, rfl⟩
  intro a ha b hb
  have hl : exDoc.cols ++ removedNames exDoc.body =
      ["grp".toList, "^g.*$".toList, "*".toList, "grp".toList] := by decide
  rw [hl] at ha hb
  simp only [List.mem_cons, List.not_mem_nil, or_false] at ha hb
  rcases ha with rfl | rfl | rfl | rfl <;> rcases hb with rfl | rfl | rfl | rfl <;> decide

end Props.C02encnames
