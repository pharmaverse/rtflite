import Model.Encode
import Proofs.EncodeLift
import Proofs.EncodePages
import Proofs.EncodeOwnWidth
import Props.C04enc
/-!
# C04, null cells: a null is a displayed column of its row like any other cell

`calculate_row_metadata` measures `str(value)` of every displayed cell, so a null cell is measured as the text `"None"`
(it is rendered as an empty cell).  `Props/C04enc.lean: C04enc_own_width` holds for every cell, `none` included: the cell at
displayed position `j` is measured against `cum[j] − cum[j−1]` whatever stands left of it.  This file adds what the null
class of the documents of `harness/props/c04.py` relies on:

* `linesOf_one`            a text narrower than its column (`0 ≤ w / cw < 1`) counts one line;
* `C04null_as_text`        a null cell counts exactly the lines the text `"None"` counts in its place;
* `C04null_cell_one_line`  a cell whose `str()` is narrower than its own column at every font and size counts one line
                           (the harness holds nulls only where `"None"` is ≤ 0.8 of the cell's column);
* `C04null_row`            in an accepted document, if the cell at displayed position `j0` of frame row `i` is such a cell
                           (a null for instance), the data lines of the row are 1 or exactly the line count of ANOTHER
                           displayed cell `j ≠ j0`, measured at ITS OWN width `cum[j] − cum[j−1]`, font and size: the null
                           neither adds lines nor moves the cells right of it to another column.
-/
namespace Props.C04null
open Model.Encode Model.Broadcast Model.Layout Model.Paginate
open Proofs.EncodeLift
open Proofs.EncodePages (rowIns)
open Proofs.EncodeOwnWidth (CellLines ownWidth)

/-- a text narrower than its column needs one line: `max(1, int(w / cw) + 1) = 1` for `0 ≤ w / cw < 1` -/
theorem linesOf_one (w cw : Rat) (h0 : 0 ≤ w / cw) (h1 : w / cw < 1) : (linesOf w cw).1 = 1 := by
  have hf : (w / cw).floor = 0 :=
    Int.le_antisymm (Int.lt_add_one_iff.mp (Rat.floor_lt_iff.mpr h1)) (Rat.le_floor_iff.mpr h0)
  simp only [linesOf, pyInt, if_pos h0, hf]
  rfl

/-- **a null cell is measured as the text "None"**: it counts the lines that text counts at the same place -/
theorem C04null_as_text (measure : Measure) (A : TblAttrsOf MatV) (r k : Nat) (cw : Rat) (l : Nat) :
    CellLines measure A r k none cw l ↔ CellLines measure A r k (some "None".toList) cw l := Iff.rfl

/-- a cell whose `str()` is narrower than its own column, at whatever font and size it is measured, counts one line -/
theorem C04null_cell_one_line (measure : Measure) (A : TblAttrsOf MatV) (r k : Nat) (cell : Option Str) (cw : Rat)
    (l : Nat) (hfit : ∀ font size w, measure (strOfCell cell) font size = some w → 0 ≤ w / cw ∧ w / cw < 1)
    (h : CellLines measure A r k cell cw l) : l = 1 := by
  obtain ⟨_, _, size, font, w, _, _, _, _, _, _, hm, _, hl⟩ := h
  obtain ⟨h0, h1⟩ := hfit font size w hm
  rw [hl]; exact linesOf_one w cw h0 h1

/-- **a fitting null neither adds lines to its row nor moves its neighbours**: the data lines of frame row `i` are 1 or
the line count of a displayed cell OTHER than the fitting one, in that cell's own column -/
theorem C04null_row (measure : Measure) (d : Doc) (pl : Plan) (hp : plan measure d = .ok pl) (i : Nat)
    (ri : RowIn (List String)) (hri : (rowIns pl.ld)[i]? = some ri) (j0 : Nat)
    (hfit : ∀ cells cell c, pl.p.dispRows[i]? = some cells → cells[j0]? = some cell → pl.p.cum[j0]? = some c →
      ∀ font size w, measure (strOfCell cell) font size = some w →
        0 ≤ w / ownWidth pl.p.cum 0 j0 c ∧ w / ownWidth pl.p.cum 0 j0 c < 1) :
    ri.dataRows = 1 ∨ ∃ cells, pl.p.dispRows[i]? = some cells ∧
      ∃ (j : Nat) (cell : Option Str) (c : Rat), j ≠ j0 ∧ cells[j]? = some cell ∧ pl.p.cum[j]? = some c ∧
        CellLines measure pl.p.attrs i j cell (ownWidth pl.p.cum 0 j c) ri.dataRows := by
  obtain ⟨cells, hc, _, hatt⟩ := Props.C04enc.C04enc_own_width measure d pl hp i ri hri
  rcases hatt with h1 | ⟨j, cell, c, hj, hw, hcl⟩
  · exact Or.inl h1
  · by_cases hjj : j = j0
    · subst hjj
      exact Or.inl (C04null_cell_one_line measure _ i j cell _ _ (hfit cells cell c hc hj hw) hcl)
    · exact Or.inr ⟨cells, hc, j, cell, c, hjj, hj, hw, hcl⟩

/-- the hypotheses are satisfiable: "None" 0.3 in wide in a 1 in column counts one line -/
example : (linesOf (3 / 10) 1).1 = 1 := linesOf_one _ _ (by decide +kernel) (by decide +kernel)

end Props.C04null
