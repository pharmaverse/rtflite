import Model.StrWidth
import Proofs.StrWidth
/-!
# C20 — string width measurement is consistent

Statement (properties.jsonl): *get_string_width returns 0 for the empty string and a non-negative value
otherwise; results in 'in', 'mm' and 'px' are exact unit conversions of one another, a font given by
number or by name gives identical results, appending characters never decreases the width, width scales
with font size to within one percent, and for the monospaced font it equals character count times the
single-character advance. Unsupported fonts or units raise ValueError.*

Model: `Model.StrWidth.getStringWidth` with the Pillow call as parameter `measure`, refined in two layers
(see the model file): **L1** additive advances + pair adjustments inside script runs (all fonts; the tables
are parameters), **L2** the tables themselves computed from the font file with FreeType/HarfBuzz
fixed-point rounding (the three Liberation faces = 7 of the 10 RTF fonts).

What is proved here, for **all** strings (induction), all sizes, all dpi > 0:

* under L1, for all tables: empty ↦ 0; non-negativity and append-monotonicity from the two table
  hypotheses `TableOK` — also in the relativised form `C20_nonneg_append_on`: hypotheses checked on a finite
  alphabet (what the harness does exhaustively on the implementation, with the Lean-defined
  `tableViolations`) carry to all strings over that alphabet; exact unit conversions; number ≡ name;
  monospace = count × advance; error cases;
* under L2: `TableOK` holds for **every** size, derived from font-unit facts that are discharged by
  `decide +kernel` on the tables regenerated from the TTF files on every run; the size-scaling error bound
  `|px64 − n·units/upem| ≤ 1.05·|t|` (in 1/64 px) and from it the 1 % relation under an explicit lower bound
  on the mean advance (3.3125 px).

What is **not** a theorem (level "proof, partial"): that Pillow/libraqm/HarfBuzz/FreeType *are* L1/L2 — this
is the correspondence check of `harness/props/c20.py` (sampled, every run); for Carlito / Gelasio / Caladea
only L1 is claimed, and only for strings over the characters that no default-on substitution / contextual
lookup of the font touches (`FontData.ctx`, derived from the font file by the translator).

Two clauses of the statement are false of the unchanged code as literally written; both are font-data /
fixed-point effects, not repairable by a small patch, so they appear as `_partial` + witness:

* monospace: Liberation Mono gives U+0374, U+0375, U+037A (printable Greek) advance 0
  (`C20_mono_partial`, `C20_mono_witness`);
* scaling: 26.6 rounding makes narrow glyphs deviate by more than 1 % at small sizes
  (`C20_scaling_partial`, `C20_scaling_witness`: `'|'` in Arial at sizes 4 and 7).
-/
namespace Props.C20
open Model.StrWidth Proofs.StrWidth Generated

/-- L1 measure: per-(file, size) tables `tab` and a layout environment `e` -/
def measureOf (tab : String → Rat → Metrics) (e : Env) : String → Rat → List Char → Rat :=
  fun p s t => measureL1 (tab p s) e t

/-- the model of `get_string_width` under L1 -/
def W (tab : String → Rat → Metrics) (e : Env) (text : List Char) (font : FontArg) (size : Rat)
    (unit : String) (dpi : Rat) : Except Err Rat :=
  getStringWidth (measureOf tab e) text font size unit dpi

def ValidUnit (u : String) : Prop := u = "px" ∨ u = "in" ∨ u = "mm"

/-! ## (1) the empty string has width 0 -/

theorem C20_empty (tab : String → Rat → Metrics) (e : Env) (font : FontArg) (p : String) (size dpi : Rat)
    (unit : String) (hp : fontPath font = .ok p) (hs : 0 < size) (hu : ValidUnit unit) (hd : dpi ≠ 0) :
    W tab e [] font size unit dpi = .ok 0 := by
  unfold W
  rw [gsw_of_path hp hs]
  have : measureOf tab e p size [] = 0 := by
    simp [measureOf, measureL1, px64_nil, Rat.div_def, Rat.zero_mul]
  rw [this]
  exact convert_zero hd hu

/-! ## (2) non-negative, (3) appending never decreases — from the two table hypotheses -/

theorem C20_nonneg (tab : String → Rat → Metrics) (e : Env) (htab : ∀ p s, TableOK (tab p s))
    (t : List Char) (font : FontArg) (size dpi w : Rat) (unit : String) (hd : 0 < dpi)
    (h : W tab e t font size unit dpi = .ok w) : 0 ≤ w :=
  (gsw_nonneg_le hd h h fun p => ⟨(measureL1_mono (htab p size) e t []).1, Rat.le_refl⟩).1

theorem C20_append (tab : String → Rat → Metrics) (e : Env) (htab : ∀ p s, TableOK (tab p s))
    (t u : List Char) (font : FontArg) (size dpi w w' : Rat) (unit : String) (hd : 0 < dpi)
    (h : W tab e t font size unit dpi = .ok w) (h' : W tab e (t ++ u) font size unit dpi = .ok w') :
    w ≤ w' :=
  (gsw_nonneg_le hd h h' fun p => measureL1_mono (htab p size) e t u).2

/-- the same two clauses from hypotheses on a **finite alphabet** only: if the Lean-defined check
`tableViolations` (evaluated by the driver on the tables measured from the implementation, exhaustively
over the alphabet) finds nothing for the tables of every (file, size) in use, then for every string over
that alphabet the width is non-negative and never decreases when characters of the alphabet are appended -/
theorem C20_nonneg_append_on (tab : String → Rat → Metrics) (e : Env) (alpha : List Char)
    (hchk : ∀ p s, tableViolations (tab p s) alpha = [])
    (t u : List Char) (htu : ∀ c ∈ t ++ u, c ∈ alpha)
    (font : FontArg) (size dpi w w' : Rat) (unit : String) (hd : 0 < dpi)
    (h : W tab e t font size unit dpi = .ok w) (h' : W tab e (t ++ u) font size unit dpi = .ok w') :
    0 ≤ w ∧ w ≤ w' :=
  gsw_nonneg_le hd h h' fun p =>
    measureL1_mono_on (tableOKOn_of_no_violations (tab p size) alpha (hchk p size)) e t u
      (fun c hc => by simpa using htu c hc)

/-- whether a call fails, and how, does not depend on the text -/
theorem C20_error_text_independent (measure : String → Rat → List Char → Rat) (t u : List Char)
    (font : FontArg) (size dpi : Rat) (unit : String) (er : Err)
    (h : getStringWidth measure t font size unit dpi = .error er) :
    getStringWidth measure u font size unit dpi = .error er := by
  unfold getStringWidth at *
  cases hp : fontPath font with
  | error e => simpa [hp, bind, Except.bind] using h
  | ok p =>
    simp only [hp, bind, Except.bind] at h ⊢
    split
    · rename_i hs
      simpa [hs] using h
    · rename_i hs
      simp only [hs, if_false] at h
      unfold convert at *
      repeat' split at h
      all_goals simp_all

/-! ## (4) exact unit conversions (any measure) -/

theorem C20_units (measure : String → Rat → List Char → Rat) (t : List Char) (font : FontArg)
    (size dpi win : Rat) (h : getStringWidth measure t font size "in" dpi = .ok win) :
    getStringWidth measure t font size "mm" dpi = .ok (127 / 5 * win) ∧
    getStringWidth measure t font size "px" dpi = .ok (dpi * win) := by
  obtain ⟨p, hp, hs, hc⟩ := gsw_ok h
  rw [gsw_of_path hp hs, gsw_of_path hp hs]
  unfold convert at *
  by_cases hd : dpi = 0
  · simp [hd] at hc
  · simp [hd] at hc ⊢
    subst hc
    constructor
    · exact Rat.mul_comm _ _
    · grind

/-- the spec predicate the oracle evaluates holds with tolerance 0 -/
theorem C20_units_pred (measure : String → Rat → List Char → Rat) (t : List Char) (font : FontArg)
    (size dpi win wmm wpx : Rat)
    (h1 : getStringWidth measure t font size "in" dpi = .ok win)
    (h2 : getStringWidth measure t font size "mm" dpi = .ok wmm)
    (h3 : getStringWidth measure t font size "px" dpi = .ok wpx) :
    unitsOK 0 dpi wpx win wmm = true := by
  have := C20_units measure t font size dpi win h1
  rw [h2, h3] at this
  obtain ⟨a, b⟩ := this
  injection a with a
  injection b with b
  subst a
  subst b
  simp [unitsOK, relClose, Rat.sub_self, rabs, Rat.zero_mul]

/-! ## (5) a font given by number or by name gives identical results -/

/-- table lemma: the number → name map is the (number, name) projection of the RTF font table, the
name → number map is its inverse, every name has a font file and every file has generated tables -/
theorem font_tables_consistent :
    fontTable.map (fun r => (r.1, r.2.1)) = fontNumberToName ∧
    fontNameToNumber.map (fun r => (r.2, r.1)) = fontNumberToName ∧
    (fontNumberToName.all fun r => (fontPaths.lookup r.2).isSome) = true ∧
    (fontPaths.all fun r => (fontByFile r.2).isSome) = true := by
  decide +kernel

theorem C20_number_name (measure : String → Rat → List Char → Rat) (t : List Char)
    (n : Nat) (name style code charset : String) (size dpi : Rat) (unit : String)
    (hrow : (n, name, style, code, charset) ∈ fontTable) :
    getStringWidth measure t (.num n) size unit dpi = getStringWidth measure t (.name name) size unit dpi ∧
    ∃ p, fontPath (.num n) = .ok p := by
  have hl : fontNumberToName.lookup n = some name ∧ (fontPaths.lookup name).isSome = true :=
    (by decide +kernel : ∀ r ∈ fontTable, fontNumberToName.lookup r.1 = some r.2.1 ∧
      (fontPaths.lookup r.2.1).isSome = true) _ hrow
  obtain ⟨p, hp⟩ := Option.isSome_iff_exists.mp hl.2
  have hn : fontName (.num (n : Int)) = .ok name := by simp [fontName, hl.1]
  have h1 : fontPath (.num (n : Int)) = .ok p := by simp [fontPath, hn, hp, bind, Except.bind]
  have h2 : fontPath (.name name) = .ok p := by simp [fontPath, fontName, hp, bind, Except.bind]
  exact ⟨by unfold getStringWidth; rw [h1, h2], p, h1⟩

/-! ## (7) monospace -/

theorem C20_monospace (m : Metrics) (e : Env) (a : Int) (hk : ∀ x y, m.kern x y = 0) (t : List Char)
    (ha : ∀ c ∈ t, m.adv c = a) : measureL1 m e t = ((t.length : Int) : Rat) * ((a : Rat) / 64) := by
  unfold measureL1
  rw [px64_mono m e a hk t ha]
  simp [Rat.div_def, Rat.mul_assoc, Rat.intCast_mul]

/-- the monospaced face: Liberation Mono. Table facts by kernel evaluation. -/
theorem mono_table_facts :
    font_LiberationMono_Regular.kern = [] ∧ font_LiberationMono_Regular.notdef = 1229 ∧
    (font_LiberationMono_Regular.glyphs.all fun g =>
      g.2.2 == 1229 || g.1 == 0x374 || g.1 == 0x375 || g.1 == 0x37A) = true ∧
    fontPaths.lookup "Courier New" = some font_LiberationMono_Regular.file := by
  decide +kernel

def monoExcluded (c : Char) : Bool := c.toNat == 0x374 || c.toNat == 0x375 || c.toNat == 0x37A

private theorem mono_unitsAdv (c : Char) (hc : monoExcluded c = false) :
    unitsAdv font_LiberationMono_Regular c = 1229 := by
  rcases unitsAdv_cases font_LiberationMono_Regular c with h | ⟨g, hm⟩
  · exact h.trans mono_table_facts.2.1
  · have := List.all_eq_true.mp mono_table_facts.2.2.1 _ hm
    simp only [monoExcluded, Bool.or_eq_false_iff, beq_eq_false_iff_ne] at hc
    simp only [Bool.or_eq_true, beq_iff_eq] at this
    rcases this with ((h1 | h2) | h3) | h4
    · exact h1
    · exact absurd h2 hc.1.1
    · exact absurd h3 hc.1.2
    · exact absurd h4 hc.2

/-- what the statement says for the monospaced font, literally -/
def C20_mono_full : Prop :=
  ∀ (n : Nat) (t : List Char) (c : Char), c ∈ t → (∀ x ∈ t, (alphabet.lookup x.toNat).isSome) →
    px64 (libMetrics font_LiberationMono_Regular n) raqmEnv t =
      t.length * px64 (libMetrics font_LiberationMono_Regular n) raqmEnv [c]

/-- … holds for every size and every string that avoids the three zero-advance characters
(also for characters outside the alphabet or the cmap: `.notdef` has the common advance) -/
theorem C20_mono_partial (n : Nat) (t : List Char) (ht : ∀ c ∈ t, monoExcluded c = false) :
    px64 (libMetrics font_LiberationMono_Regular n) raqmEnv t =
      t.length * hbAdvance 1229 (xScale n 2048) := by
  apply px64_mono
  · intro x y
    simp only [libMetrics, hbEmMult]
    have : unitsKern font_LiberationMono_Regular x y = 0 := by
      unfold unitsKern
      split
      · simp [kernLookup, mono_table_facts.1]
      · rfl
    rw [this]
    simp [asr]
  · intro c hc
    simp only [libMetrics]
    rw [mono_unitsAdv c (ht c hc)]
    rfl

theorem C20_mono_witness : ¬ C20_mono_full := by
  intro h
  have := h 768 ['a', 'ͺ'] 'a' (by simp) (by decide +kernel)
  revert this
  decide +kernel

/-! ## (8) unsupported fonts or units are a `ValueError`

Here for the typed model (`FontArg` = an int or a string, `unit : String`).  The same clause for **every Python value
class** of every argument (`None`, bool, float, bytes, tuple, numpy scalars, … — the refused value need not be a
string) is stated and proved over `Model.StrWidth.Val` in `Props/C20val.lean` (`C20_val_expected`,
`C20_val_unsupported_font`, `C20_val_unsupported_unit`; `C20_val_refines` ties that model to this one). -/

theorem C20_unknown_font_number (measure : String → Rat → List Char → Rat) (t : List Char) (n : Int)
    (size dpi : Rat) (unit : String) (hn : n < 1 ∨ 10 < n) :
    getStringWidth measure t (.num n) size unit dpi = .error .valueError := by
  simp [getStringWidth, fontPath, fontName_unsupported hn, bind, Except.bind]

theorem C20_unknown_font_name (measure : String → Rat → List Char → Rat) (t : List Char) (name : String)
    (size dpi : Rat) (unit : String) (hn : fontPaths.lookup name = none) :
    getStringWidth measure t (.name name) size unit dpi = .error .valueError := by
  simp [getStringWidth, fontPath, fontName, hn, bind, Except.bind]

/-- an unsupported unit is a `ValueError` whatever the other arguments are (every earlier failure is a
`ValueError` too, and the division by `dpi` is never reached) -/
theorem C20_unknown_unit (measure : String → Rat → List Char → Rat) (t : List Char) (font : FontArg)
    (size dpi : Rat) (unit : String) (hu : ¬ ValidUnit unit) :
    getStringWidth measure t font size unit dpi = .error .valueError := by
  unfold getStringWidth
  cases hp : fontPath font with
  | error e =>
    rw [fontPath_error hp]
    rfl
  | ok p =>
    simp only [bind, Except.bind]
    split
    · rfl
    · exact convert_bad_unit _ _ hu

/-! ## L2: the table hypotheses hold at every size; (6) size scaling -/

/-- font-unit facts of every generated font table (kernel evaluation; re-checked whenever a TTF changes):
`0 ≤ hmtx b + kern a b` for every legacy kern pair, `64 ≤ upem < 65536`, advances ≤ 4096, |kern| ≤ 1024 -/
theorem font_unit_facts : (fonts.all fun f => kernFact f && unitBounds f) = true := by
  decide +kernel

private theorem font_facts (f : FontData) (hf : f ∈ fonts) :
    kernFact f = true ∧ unitBounds f = true ∧ 64 ≤ f.upem ∧ f.upem < 65536 := by
  have := List.all_eq_true.mp font_unit_facts f hf
  simp only [Bool.and_eq_true] at this
  exact ⟨this.1, this.2, ((unitBounds_iff f).mp this.2).1⟩

/-- both table hypotheses, for every generated font and **every** 26.6 size -/
theorem C20_L2_tables (f : FontData) (hf : f ∈ fonts) (n : Nat) : TableOK (libMetrics f n) := by
  obtain ⟨h1, _, h3, h4⟩ := font_facts f hf
  exact lib_tableOK f h1 (by omega) h4 n

/-- hence: with this installation's model measure, `get_string_width` is non-negative and monotone under
appending for all ten fonts (the three non-L2 files measure 0 in `measureModel`), all sizes, units, dpi -/
theorem C20_L2_nonneg_append (t u : List Char) (font : FontArg) (size dpi w w' : Rat) (unit : String)
    (hd : 0 < dpi)
    (h : getStringWidth measureModel t font size unit dpi = .ok w)
    (h' : getStringWidth measureModel (t ++ u) font size unit dpi = .ok w') :
    0 ≤ w ∧ w ≤ w' := by
  refine gsw_nonneg_le hd h h' fun p => ?_
  unfold measureModel
  cases hf : fontByFile p with
  | none => simp
  | some f =>
    simp only
    split
    · exact measureL1_mono (C20_L2_tables f (List.mem_of_find?_eq_some hf) (size26_6 size)) _ t u
    · simp

/-- what the statement says about scaling, literally (sizes 4..48 are 26.6 values 256..3072) -/
def C20_scaling_full : Prop :=
  ∀ (f : FontData), f ∈ fonts → isL2 f = true → ∀ (t : List Char) (n1 n2 : Nat), t ≠ [] →
    256 ≤ n1 → n1 ≤ 3072 → 256 ≤ n2 → n2 ≤ 3072 →
    scaleOK64 n1 (px64 (libMetrics f n1) raqmEnv t) n2 (px64 (libMetrics f n2) raqmEnv t) = true

/-- … holds whenever the mean advance is at least 212/64 = 3.3125 px at both sizes
(`212·upem·|t| ≤ n·units`): all strings, all sizes, every generated font -/
theorem C20_scaling_partial (f : FontData) (hf : f ∈ fonts) (e : Env) (t : List Char) (n1 n2 : Nat)
    (h1 : 212 * (f.upem : Int) * t.length ≤ n1 * unitsRun f e t)
    (h2 : 212 * (f.upem : Int) * t.length ≤ n2 * unitsRun f e t) :
    scaleOK64 n1 (px64 (libMetrics f n1) e t) n2 (px64 (libMetrics f n2) e t) = true := by
  obtain ⟨_, hb, hU, _⟩ := font_facts f hf
  exact one_percent f.upem t.length n1 n2 _ _ (unitsRun f e t) (by omega)
    (lib_scaling_bound f hb e n1 t) (lib_scaling_bound f hb e n2 t) h1 h2

/-- `'|'` in Liberation Sans (Arial) at sizes 4 and 7: 67/64 px and 116/64 px — 0.2617 vs 0.2589 px per
point, 1.07 % apart -/
theorem C20_scaling_witness : ¬ C20_scaling_full := by
  intro h
  have := h font_LiberationSans_Regular (by simp [fonts]) (by decide +kernel) ['|'] 256 448
    (by simp) (by omega) (by omega) (by omega) (by omega)
  revert this
  decide +kernel

/-! ## non-vacuity -/

/-- the hypotheses of the scaling theorem are satisfiable: "Mean" in Liberation Serif at 12 and 9.5 pt -/
example :
    let f := font_LiberationSerif_Regular
    let t := "Mean".toList
    (212 * (f.upem : Int) * t.length ≤ 768 * unitsRun f raqmEnv t ∧
     212 * (f.upem : Int) * t.length ≤ 608 * unitsRun f raqmEnv t) ∧
    px64 (libMetrics f 768) raqmEnv t = 1749 ∧ px64 (libMetrics f 608) raqmEnv t = 1385 := by
  decide +kernel

/-- kerning and script runs at work: "AV" is kerned, and the space in "ϻ A" belongs to the Greek run,
so the pair (space, A) is *not* kerned although it is when measured alone -/
example :
    let m := libMetrics font_LiberationSerif_Regular 768
    px64 m raqmEnv "AV".toList = 1011 ∧ m.adv 'A' + m.adv 'V' = 1110 ∧
    px64 m raqmEnv " A".toList = m.adv ' ' + m.adv 'A' + m.kern ' ' 'A' ∧ m.kern ' ' 'A' < 0 ∧
    px64 m raqmEnv "ϻ A".toList = m.adv 'ϻ' + m.adv ' ' + m.adv 'A' := by
  decide +kernel

/-- observation of a result: `some w` for a width, `none` for an error -/
def okVal : Except Err Rat → Option Rat
  | .ok w => some w
  | .error _ => none

example : okVal (getStringWidth measureModel "Hello, World".toList (.num 4) 12 "mm" 72) = some (529463 / 23040) ∧
    okVal (getStringWidth measureModel "x".toList (.num 11) 12 "in" 72) = none ∧
    okVal (getStringWidth measureModel "x".toList (.name "Arial") 12 "cm" 72) = none := by
  decide +kernel

end Props.C20
