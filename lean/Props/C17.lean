import Model.Assemble
import Proofs.Assemble
/-!
# C17 — `assemble_rtf` yields one well-formed document with every input in order

Model: `Model.Assemble` (= `rtflite.assemble.assemble_rtf` with the repair of D24, commit 3d63c11 of /repo,
on lists of lines as `readlines()` returns them).

An input "written by rtflite" is a `Shaped` record `s` (the file is `s.file = s.pre ++ s.font ++
s.close :: s.mid ++ [s.last]`) with `s.ok`: no `fcharset` before the font table, the font table a
non-empty run of lines containing `fcharset`, the next line (which closes the table) without it, the
last line `}`.  NOTHING is assumed about `s.mid`: user text may contain the word `fcharset` (D24).
`Model.Assemble.decompose` computes this cut for any file (theorems `C17_cut_*`), so the hypothesis
is decidable and is evaluated on every real input by the harness.

Statement clauses and where they are:
* one well-formed file                                   → `C17_wellformed`, `C17_wellformed_meaning`
* every input in argument order, each after a `\page`    → `C17_lines`, `C17_block`, `C17_first_kept`
* each later input keeps everything after its font table
  (page header/footer, `\paperw…`, margins, all content) → `C17_lines` (`Shaped.body`), `C17_keeps`
* single input unchanged, empty list writes nothing,
  missing input ⇒ FileNotFoundError, output untouched    → `C17_single`, `C17_empty`, `C17_missing`,
                                                           `C17_written_only_on_success`; the whole call: `C17_call`
* exactly the listed names are read, whatever else the
  directory holds; only the output path is written       → `C17_reads_only_listed`, `C17_contents_only`, `C17_decoys`,
                                                           `C17_others_untouched`, `C17_output_holds`, `C17_nothing_written`
* the result can be assembled again                      → `C17_closed`, `C17_nested`
* the output path may be one of the inputs (reads first)  → `C17_reads_before_write`, `C17_alias_output_is_input`,
                                                           `C17_grow_in_place` (`C17_dir_key`)
* what the unrepaired helper did                         → `D24_*` (about `assembleLinesOld`)
-/
namespace Props.C17
open Model.Assemble Proofs.Assemble

/-- all inputs have the rtflite shape -/
def AllOk (ss : List Shaped) : Prop := ∀ t ∈ ss, t.ok = true

/-- the inputs of a first call, and its result together with further inputs, have the rtflite shape when all
inputs have it -/
theorem allOk_assembled {s : Shaped} {rest more : List Shaped} (h : AllOk (s :: (rest ++ more))) :
    AllOk (s :: rest) ∧ AllOk (assembled s rest :: more) := by
  have h1 : AllOk (s :: rest) := fun t ht => h t (by
    rcases List.mem_cons.mp ht with rfl | ht
    · simp
    · simp [ht])
  refine ⟨h1, fun t ht => ?_⟩
  rcases List.mem_cons.mp ht with rfl | ht
  · exact (ok_iff _).mpr (assembled_ok s rest (allOk_iff.mp h1))
  · exact h t (by simp [ht])

/-! ## (1) the assembled line list, in closed form -/

/-- For inputs of the rtflite shape the loop produces exactly: the first file without its last
line, then for every further file `\page` followed by everything after its font table (without its
last line), then the last line of the last file. -/
theorem C17_lines (s : Shaped) (rest : List Shaped) (h : AllOk (s :: rest)) :
    assembleLines ((s :: rest).map Shaped.file) = .ok (expected (s :: rest)) :=
  assembleAux_shaped true s rest (allOk_iff.mp h)

/-- the whole call: all inputs exist ⇒ normal return and exactly these lines are written -/
theorem C17_call {α : Type} (fs : α → Option File) (inputs : List α) (s : Shaped) (rest : List Shaped)
    (hfs : inputs.map fs = (s :: rest).map (fun t => some t.file)) (h : AllOk (s :: rest)) :
    assembleRtf fs inputs = ⟨.returned, some (expected (s :: rest))⟩ := by
  have hfs' : inputs.map fs = ((s :: rest).map Shaped.file).map some := by
    rw [hfs, List.map_map]
    rfl
  obtain ⟨h1, h2⟩ := filter_none_nil fs inputs _ hfs'
  have hne : inputs.isEmpty = false := by rw [← List.isEmpty_map (f := fs), hfs]; rfl
  simp only [assembleRtf, hne, h1, h2, C17_lines s rest h]
  simp

/-! ## (2) the result is one balanced top-level group -/

/-- If every input is one balanced group closing in its last line, and the skipped head of every
later input (signature, font table up to its closing brace) is balanced at depth 1, the output is
one balanced group closing in its last line. -/
theorem C17_wellformed (s : Shaped) (rest : List Shaped) (h : AllOk (s :: rest))
    (hw : ∀ t ∈ s :: rest, wellFormedDoc t.file = true)
    (hb : ∀ t ∈ rest, t.headBalanced = true) :
    ∃ out, assembleLines ((s :: rest).map Shaped.file) = .ok out ∧ wellFormedDoc out = true :=
  ⟨_, C17_lines s rest h,
    expected_wellFormed s rest (allOk_iff.mp h) (hw s (by simp))
      (fun t ht => ⟨hb t ht, hw t (List.mem_cons_of_mem _ ht)⟩)⟩

/-- what `wellFormedDoc` gives: the text starts with `{` and the scan over all characters
(escaped braces ignored) ends at depth 0; by definition the depth stays ≥ 1 before the last line -/
theorem C17_wellformed_meaning (f : File) (h : wellFormedDoc f = true) :
    runB s0 f.flatten = s0 ∧ f.flatten.head? = some '{' := by
  cases hl : f.getLast? with
  | none => simp [wellFormedDoc, hl] at h
  | some last =>
    obtain ⟨init, hf⟩ := List.getLast?_eq_some_iff.mp hl
    rw [hf, wellFormed_snoc] at h
    obtain ⟨hlast, hin, hrun⟩ := h
    obtain ⟨a, b, rfl, ha, hb⟩ := strips_form last hlast
    constructor
    · rw [hf, List.flatten_append, runB_append, hrun]
      simp only [List.flatten_cons, List.flatten_nil, List.append_nil]
      rw [runB_append, runB_blank s1 a rfl ha]
      show runB (bstep s1 '}') b = s0
      exact runB_blank _ b rfl hb
    · cases hi : init.flatten with
      | nil =>
        rw [hi] at hrun
        exact absurd hrun (by decide)
      | cons c cs =>
        rw [hi] at hin
        simp only [inside, Bool.and_eq_true, decide_eq_true_eq] at hin
        have hc : c = '{' := by
          have h1 := hin.1
          simp only [bstep, s0] at h1
          by_cases c1 : c = '\\'
          · simp [c1] at h1
          · by_cases c2 : c = '{'
            · exact c2
            · by_cases c3 : c = '}'
              · simp [c3] at h1
              · simp [c1, c2, c3] at h1
        rw [hf, List.flatten_append, hi, hc]
        rfl

/-- the brace scan is compositional -/
theorem C17_depth_append (s : BState) (a b : List Char) :
    runB s (a ++ b) = runB (runB s a) b ∧ inside s (a ++ b) = (inside s a && inside (runB s a) b) :=
  ⟨runB_append s a b, inside_append s a b⟩

/-! ## (3) every input is there, whole, in argument order, each later one right after `\page` -/

/-- the first input is reproduced up to its last line -/
theorem C17_first_kept (s : Shaped) (rest : List Shaped) :
    s.init <+: expected (s :: rest) :=
  ⟨tailLines rest ++ [(lastOf s rest).last], by simp [expected, List.append_assoc]⟩

/-- input `t` (anywhere after the first) appears as the block `\page :: t.body`, preceded by the
blocks of the inputs before it and followed by those after it -/
theorem C17_block (s : Shaped) (r1 : List Shaped) (t : Shaped) (r2 : List Shaped) :
    expected (s :: (r1 ++ t :: r2)) =
      (s.init ++ tailLines r1) ++ (pageCmd :: t.body) ++ (tailLines r2 ++ [(lastOf t r2).last]) :=
  expected_split s r1 t r2

/-- nothing after the font table of a later input is lost: every line of `t.mid` (page
header/footer, `\paperw…`, margins, all pages) is in the output -/
theorem C17_keeps (s : Shaped) (r1 : List Shaped) (t : Shaped) (r2 : List Shaped) (l : Line)
    (hl : l ∈ t.mid) : l ∈ expected (s :: (r1 ++ t :: r2)) := by
  rw [expected_split]
  simp [Shaped.body, hl]

/-- the body of a later input: what follows the font table's closing brace on its line (if not
blank) and all lines after it -/
theorem C17_body (t : Shaped) :
    t.body = (if strip (afterFirstBrace t.close) != [] then [afterFirstBrace t.close] else []) ++ t.mid :=
  rfl

/-! ## (4) single input, empty list, missing input -/

/-- a single existing input (of any content) is written back unchanged -/
theorem C17_single {α : Type} (fs : α → Option File) (p : α) (f : File) (hp : fs p = some f) :
    assembleRtf fs [p] = ⟨.returned, some f⟩ := by
  simp [assembleRtf, hp, assembleLines, assembleAux, part_first_last]

/-- an empty list returns without opening the output -/
theorem C17_empty {α : Type} (fs : α → Option File) :
    assembleRtf fs ([] : List α) = ⟨.returned, none⟩ := rfl

/-- a missing input raises FileNotFoundError naming all missing inputs, and the output path is
never opened (whatever it held before is untouched) -/
theorem C17_missing {α : Type} (fs : α → Option File) (inputs : List α) (p : α) (hp : p ∈ inputs)
    (hmiss : fs p = none) :
    assembleRtf fs inputs =
      ⟨.fileNotFound (inputs.filter (fun q => (fs q).isNone)), none⟩ := by
  have hne : inputs.isEmpty = false := List.isEmpty_eq_false_iff.mpr (List.ne_nil_of_mem hp)
  have hm : (inputs.filter (fun q => (fs q).isNone)).isEmpty = false :=
    List.isEmpty_eq_false_iff.mpr (List.ne_nil_of_mem (List.mem_filter.mpr ⟨hp, by simp [hmiss]⟩))
  simp [assembleRtf, hne, hm]

/-- the output path is opened only on the success path -/
theorem C17_written_only_on_success {α : Type} (fs : α → Option File) (inputs : List α) (ls : File)
    (h : (assembleRtf fs inputs).written = some ls) : (assembleRtf fs inputs).result = .returned := by
  unfold assembleRtf at h ⊢
  by_cases h1 : inputs.isEmpty = true
  · simp [h1]
  · by_cases h2 : (!(inputs.filter (fun p => (fs p).isNone)).isEmpty) = true
    · simp [h1, h2] at h
    · by_cases h3 : (inputs.filterMap fs).isEmpty = true
      · simp [h1, h2, h3]
      · cases h4 : assembleLines (inputs.filterMap fs) with
        | error e => simp [h1, h2, h3, h4] at h
        | ok out => simp [h1, h2, h3, h4]

/-! ## (5) names: exactly the listed names are read, whatever else the directory holds -/

/-- The outcome depends only on what the file system holds under the LISTED names: two file systems that
agree on them (and differ arbitrarily elsewhere — neighbours whose names a listed name would match as a
pattern, backup copies, same stems with other suffixes, the previous content of the output path) give the
same outcome. -/
theorem C17_reads_only_listed {α : Type} (fs fs' : α → Option File) (inputs : List α)
    (h : ∀ p ∈ inputs, fs p = fs' p) : assembleRtf fs inputs = assembleRtf fs' inputs := by
  have h1 : inputs.filter (fun p => (fs p).isNone) = inputs.filter (fun p => (fs' p).isNone) :=
    List.filter_congr (fun p hp => by rw [h p hp])
  have h2 : inputs.filterMap fs = inputs.filterMap fs' := by
    rw [filterMap_eq_map, filterMap_eq_map fs', List.map_congr_left h]
  unfold assembleRtf
  rw [h1, h2]

/-- Names do not matter at all, only the contents found under them, in argument order: the lines written
(and whether the call returns normally or fails) are a function of `inputs.map fs`. -/
theorem C17_contents_only {α β : Type} (fs : α → Option File) (fs' : β → Option File)
    (inputs : List α) (inputs' : List β) (h : inputs.map fs = inputs'.map fs') :
    (assembleRtf fs inputs).written = (assembleRtf fs' inputs').written ∧
    ((assembleRtf fs inputs).result = .returned ↔ (assembleRtf fs' inputs').result = .returned) ∧
    ((assembleRtf fs inputs).result = .indexError ↔ (assembleRtf fs' inputs').result = .indexError) := by
  have hk := assembleRtf_kind fs inputs
  have hk' := assembleRtf_kind fs' inputs'
  rw [h, ← hk'] at hk
  have h1 := congrArg Prod.fst hk
  have h2 := congrArg Prod.snd hk
  simp only at h1 h2
  refine ⟨h2, ?_, ?_⟩
  · rw [kind_returned, kind_returned, h1]
  · rw [kind_indexError, kind_indexError, h1]

/-- Decoys: files added to the directory under names that are not listed change nothing. -/
theorem C17_decoys {α : Type} [DecidableEq α] (d decoys : Fs α) (inputs : List α) (out : α)
    (h : ∀ p ∈ inputs, ∀ e ∈ decoys, e.1 ≠ p) :
    (assembleIn (decoys ++ d) inputs out).1 = (assembleIn d inputs out).1 := by
  simp only [assembleIn]
  exact C17_reads_only_listed _ _ inputs (fun p hp => read_append_of_not_key decoys d p (h p hp))

/-- The only name whose content can change is the output path: every other file of the directory (the
inputs, their neighbours) reads the same afterwards. -/
theorem C17_others_untouched {α : Type} [DecidableEq α] (d : Fs α) (inputs : List α) (out q : α)
    (hq : out ≠ q) : (assembleIn d inputs out).2.read q = d.read q := by
  simp only [assembleIn]
  cases (assembleRtf d.read inputs).written with
  | none => rfl
  | some ls => simp [Fs.write, Fs.read, hq]

/-- on success the output path holds exactly the lines of the outcome … -/
theorem C17_output_holds {α : Type} [DecidableEq α] (d : Fs α) (inputs : List α) (out : α) (ls : File)
    (h : (assembleIn d inputs out).1.written = some ls) : (assembleIn d inputs out).2.read out = some ls := by
  simp only [assembleIn] at h ⊢
  rw [h]
  simp [Fs.write, Fs.read]

/-- … and when nothing is written (empty list, missing input, IndexError) the directory is unchanged,
the previous content of the output path included -/
theorem C17_nothing_written {α : Type} [DecidableEq α] (d : Fs α) (inputs : List α) (out : α)
    (h : (assembleIn d inputs out).1.result ≠ .returned ∨ inputs = []) : (assembleIn d inputs out).2 = d := by
  have hw : (assembleRtf d.read inputs).written = none := by
    rcases h with h | h
    · cases hw : (assembleRtf d.read inputs).written with
      | none => rfl
      | some ls => exact absurd (C17_written_only_on_success _ _ ls hw) h
    · subst h
      rfl
  simp only [assembleIn, hw]

/-! ## (6) the output path may denote the file of one of the inputs

`Dir`: names resolve to files (`key`), several names may denote one file (other spellings of a path, symbolic
links, hard links).  All inputs are read before the output is opened. -/

/-- the call does not change which file a name denotes -/
theorem C17_dir_key {α κ : Type} [DecidableEq κ] (d : Dir α κ) (inputs : List α) (out : α) :
    (assembleInDir d inputs out).2.key = d.key := by
  simp only [assembleInDir]
  cases (assembleRtf d.read inputs).written with
  | none => rfl
  | some ls => rfl

/-- Reads come first: the outcome is that of the contents found under the listed names WHEN THE CALL STARTS,
whatever file the output path denotes — a new one, an old unrelated one, or the file of one of the inputs; afterwards
every name of the output's file reads the lines written, every other name reads what it read before; when nothing is
written (empty list, missing input, IndexError) every name reads what it read before, the output's included. -/
theorem C17_reads_before_write {α κ : Type} [DecidableEq κ] (d : Dir α κ) (inputs : List α) (out : α) :
    (assembleInDir d inputs out).1 = assembleRtf d.read inputs ∧
    ∀ q, (assembleInDir d inputs out).2.read q =
      match (assembleRtf d.read inputs).written with
      | some ls => if d.key q = d.key out then some ls else d.read q
      | none => d.read q := by
  refine ⟨rfl, fun q => ?_⟩
  simp only [assembleInDir]
  cases (assembleRtf d.read inputs).written with
  | none => rfl
  | some ls =>
    simp only [Dir.write, Dir.read, Fs.write, Fs.read]
    by_cases hk : d.key q = d.key out
    · simp [hk]
    · have hk' : ¬ d.key out = d.key q := fun e => hk e.symm
      simp [hk, hk']

/-- Aliasing is safe: if every listed name holds a file of the rtflite shape when the call starts, the call returns
normally and the output's file holds the closed form of THOSE contents afterwards — no hypothesis relates `out` to the
inputs, so `out` may be one of them (any position, listed under the same name or under another name of the same file). -/
theorem C17_alias_output_is_input {α κ : Type} [DecidableEq κ] (d : Dir α κ) (inputs : List α) (out : α)
    (s : Shaped) (rest : List Shaped)
    (hfs : inputs.map d.read = (s :: rest).map (fun t => some t.file)) (h : AllOk (s :: rest)) :
    (assembleInDir d inputs out).1 = ⟨.returned, some (expected (s :: rest))⟩ ∧
    ∀ q, (assembleInDir d inputs out).2.read q =
      if d.key q = d.key out then some (expected (s :: rest)) else d.read q := by
  have hc := C17_call d.read inputs s rest hfs h
  obtain ⟨h1, h2⟩ := C17_reads_before_write d inputs out
  refine ⟨h1.trans hc, fun q => ?_⟩
  rw [h2 q, hc]

/-- Growing a deliverable in place: `assemble_rtf(ins1, out)` and then `assemble_rtf([c] ++ ins2, out)` where `c` is
any name of the output's file (the same spelling, another one, a link) leaves in that file what assembling
`ins1 ++ ins2` at once yields. -/
theorem C17_grow_in_place {α κ : Type} [DecidableEq κ] (d : Dir α κ) (ins1 ins2 : List α) (out c : α)
    (s : Shaped) (rest more : List Shaped) (h : AllOk (s :: (rest ++ more)))
    (h1 : ins1.map d.read = (s :: rest).map (fun t => some t.file))
    (h2 : ins2.map d.read = more.map (fun t => some t.file))
    (hc : d.key c = d.key out) (hout : ∀ p ∈ ins2, d.key p ≠ d.key out) :
    ∀ q, d.key q = d.key out →
      (assembleInDir (assembleInDir d ins1 out).2 (c :: ins2) out).2.read q =
        some (expected (s :: (rest ++ more))) := by
  obtain ⟨hA1, hA2⟩ := allOk_assembled h
  obtain ⟨_, hr1⟩ := C17_alias_output_is_input d ins1 out s rest h1 hA1
  have hk := C17_dir_key d ins1 out
  generalize (assembleInDir d ins1 out).2 = d1 at hr1 hk
  have hmap : (c :: ins2).map d1.read = (assembled s rest :: more).map (fun t => some t.file) := by
    simp only [List.map_cons]
    rw [hr1 c, if_pos hc, assembled_file, ← h2]
    congr 1
    exact List.map_congr_left (fun p hp => by rw [hr1 p, if_neg (hout p hp)])
  obtain ⟨_, hr2⟩ := C17_alias_output_is_input d1 (c :: ins2) out (assembled s rest) more hmap hA2
  intro q hq
  rw [hr2 q, hk, if_pos hq, expected_nested]

/-! ## the decidable cut -/

theorem C17_cut_sound (f : File) (s : Shaped) (h : decompose f = some s) : s.file = f ∧ s.ok = true := by
  unfold decompose at h
  simp only at h
  split at h
  · cases h
  · rename_i close r2 hdw
    split at h
    · cases h
    · rename_i last hl
      split at h
      · rename_i hok
        cases h
        obtain ⟨m, rfl⟩ := List.getLast?_eq_some_iff.mp hl
        refine ⟨?_, hok⟩
        -- the two `takeWhile`s, then what the second `dropWhile` left
        simp only [Shaped.file, List.dropLast_concat, List.append_assoc, List.cons_append]
        rw [← hdw, List.takeWhile_append_dropWhile, List.takeWhile_append_dropWhile]
      · cases h

theorem C17_cut_complete (s : Shaped) (h : s.ok = true) : decompose s.file = some s :=
  decompose_file s ((ok_iff s).mp h)

/-! ## closure -/

/-- the output has the rtflite shape again (same head as the first input) … -/
theorem C17_closed (s : Shaped) (rest : List Shaped) (h : AllOk (s :: rest)) :
    (assembled s rest).file = expected (s :: rest) ∧ (assembled s rest).ok = true ∧
      (assembled s rest).headChars = s.headChars :=
  ⟨assembled_file s rest, (ok_iff _).mpr (assembled_ok s rest (allOk_iff.mp h)), rfl⟩

/-- … so assembling an assembled file with further inputs equals assembling all of them at once -/
theorem C17_nested (s : Shaped) (rest more : List Shaped) (h : AllOk (s :: (rest ++ more))) :
    assembleLines ((assembled s rest :: more).map Shaped.file) =
      assembleLines ((s :: (rest ++ more)).map Shaped.file) := by
  rw [C17_lines _ _ (allOk_assembled h).2, C17_lines _ _ h, expected_nested]

/-! ## non-vacuity: a portrait table, then a document whose text contains `fcharset`, then a
figure-style document whose colour table starts on the font table's closing line -/

def exA : Shaped :=
  ⟨["{\\rtf1\\ansi\n".toList, "\\deff0\n".toList], ["{\\fonttbl{\\f0\\fcharset1 T;}\n".toList],
   "}\n".toList, ["\\paperw12240\n".toList, "{\\f0 a}\\par\n".toList], "}".toList⟩
def exB : Shaped :=
  ⟨["{\\rtf1\\ansi\n".toList, "\\deff0\n".toList], ["{\\fonttbl{\\f0\\fcharset1 T;}\n".toList],
   "}\n".toList, ["\\paperw15840\n".toList, "{\\f0 second fcharset doc}\\par\n".toList], "}".toList⟩
def exC : Shaped :=
  ⟨["{\\rtf1\\ansi\n".toList], ["\\deff0{\\fonttbl{\\f0\\fcharset1 T;}\n".toList],
   "}{\\colortbl;\n".toList, ["\\red255;\n".toList, "}\n".toList, "\\paperw9\n".toList], "}".toList⟩

example : AllOk [exA, exB, exC] ∧ (∀ t ∈ [exA, exB, exC], wellFormedDoc t.file = true) ∧
    (∀ t ∈ [exB, exC], t.headBalanced = true) ∧
    assembleLines ([exA, exB, exC].map Shaped.file) = .ok
      ["{\\rtf1\\ansi\n".toList, "\\deff0\n".toList, "{\\fonttbl{\\f0\\fcharset1 T;}\n".toList,
       "}\n".toList, "\\paperw12240\n".toList, "{\\f0 a}\\par\n".toList,
       "\\page\n".toList, "\\paperw15840\n".toList, "{\\f0 second fcharset doc}\\par\n".toList,
       "\\page\n".toList, "{\\colortbl;\n".toList, "\\red255;\n".toList, "}\n".toList,
       "\\paperw9\n".toList, "}".toList] := by
  unfold AllOk
  decide +kernel

/-- a listed name that contains pattern characters is still one name: with `t14[1].rtf` and its neighbour
`t141.rtf` in the directory, listing the former yields the former's lines -/
example : (assembleIn [("t141.rtf", exB.file), ("t14[1].rtf", exA.file), ("out.rtf", [])]
    ["t14[1].rtf"] "out.rtf").2.read "out.rtf" = some exA.file := by decide +kernel

/-- a directory in which `./out` is another spelling of `out` -/
def exDir : Dir String String :=
  ⟨fun p => if p = "./out" then "out" else p, [("a", exA.file), ("b", exB.file), ("c", exC.file)]⟩

/-- growing in place: `assemble([a, b], out)`, then `assemble(["./out", c], out)` — the second call lists the output's
file under another spelling — holds what assembling a, b, c at once yields … -/
example : (assembleInDir (assembleInDir exDir ["a", "b"] "out").2 ["./out", "c"] "out").2.read "out" =
    some (expected [exA, exB, exC]) := by decide +kernel

/-- … and listing the combined file LAST reads it before it is overwritten just the same -/
example : (assembleInDir (assembleInDir exDir ["b", "c"] "out").2 ["a", "./out"] "out").2.read "out" =
    some (expected [exA, exB, exC]) := by decide +kernel

/-! ## what the unrepaired helper did (kept as a record of D24; not part of the property) -/

/-- D24: with the old `find_start_index` (last `fcharset` line of the whole file) a later input whose
text contains the word loses everything up to and including that line — here the whole input,
page size and closing brace included -/
theorem D24_unrepaired_loses_body :
    assembleLinesOld ([exA, exB].map Shaped.file) = .ok
      ["{\\rtf1\\ansi\n".toList, "\\deff0\n".toList, "{\\fonttbl{\\f0\\fcharset1 T;}\n".toList,
       "}\n".toList, "\\paperw12240\n".toList, "{\\f0 a}\\par\n".toList,
       "\\page\n".toList] := by decide +kernel

/-- second defect of the old helper: the colour table of a figure-style input starts on the font
table's closing line, the line is skipped whole and the output is not a well-formed document -/
theorem D24_unrepaired_unbalanced :
    ∃ out, assembleLinesOld ([exA, exC].map Shaped.file) = .ok out ∧ wellFormedDoc out = false := by
  have h : (match assembleLinesOld ([exA, exC].map Shaped.file) with
      | .ok out => !wellFormedDoc out
      | .error _ => false) = true := by decide +kernel
  split at h
  · exact ⟨_, ‹_›, by simpa using h⟩
  · cases h

end Props.C17
