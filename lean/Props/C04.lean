import Model.Paginate
import Model.PaginateSpec
import Proofs.Paginate
import Proofs.PaginateGroups
/-!
# C04 — page breaks occur only when required, and always when required

Model: `Model.Paginate.assignPages` (= `PageBreakCalculator._assign_pages`) fed by `mkMeta`
(= the group-change part of `calculate_row_metadata`).

The statements are index-free: a position in the paginated table is a split
`done ++ (r, q) :: rest` of the list of (row, page number) pairs.
-/
namespace Props.C04
open Model.Paginate Proofs.Paginate

/-- rows paired with their assigned page number -/
def paged (nrow additional : Nat) (np : Bool) (rs : List RowMeta) : List (RowMeta × Nat) :=
  rs.zip (assignPages nrow additional np rs)

/-! ## (a) pages are non-empty, contiguous, in order: numbers start at 1, never decrease,
never skip -/

theorem C04_a_length (nrow additional np rs) :
    (assignPages nrow additional np rs).length = rs.length :=
  assignAux_length _ _ _ _ _ _

theorem C04_a_first (nrow additional np r rs) :
    (assignPages nrow additional np (r :: rs)).head? = some 1 := by
  rw [assignPages_cons]
  rfl

theorem C04_a_steps (nrow additional np rs) :
    Steps 1 (assignPages nrow additional np rs) :=
  assignAux_steps _ _ _ _ _ _

/-! ## the invariant behind (b) and (c) -/

/-- the three clauses for a row `r` placed on page `q` when the current page `p` carries `load` rows -/
def Clauses (avail : Nat) (np : Bool) (p load : Nat) (r : RowMeta) (q : Nat) : Prop :=
  let over := decide (load + r.total > avail)
  -- only when required
  (q ≠ p → (demands np r = true ∨ over = true)) ∧
  -- always when required (as soon as the current page holds something)
  ((demands np r = true ∨ over = true) → load > 0 → q = p + 1) ∧
  -- a break is a step to the next page number, otherwise the number is kept
  (q = p ∨ q = p + 1)

/-- one turn of the loop -/
theorem clauses_step (avail : Nat) (np : Bool) (page cur : Nat) (r : RowMeta) :
    Clauses avail np page cur r (if breaksBefore avail np cur true r then page + 1 else page) := by
  have hb := breaksBefore_iff avail np cur r
  simp only [Clauses, decide_eq_true_eq]
  split
  · rename_i h
    exact ⟨fun _ => (hb.mp h).1, fun _ _ => rfl, Or.inr rfl⟩
  · rename_i h
    exact ⟨fun hne => absurd rfl hne, fun hreq hpos => absurd (hb.mpr ⟨hreq, hpos⟩) h, Or.inl rfl⟩

/-- What holds at every position of `zs` lying after the prefix `done₀`. -/
def BreakSpec (avail : Nat) (np : Bool) (done₀ zs : List (RowMeta × Nat)) : Prop :=
  ∀ ext r q rest, zs = ext ++ (r, q) :: rest →
    Clauses avail np (lastPage (done₀ ++ ext)) (loadOn (lastPage (done₀ ++ ext)) (done₀ ++ ext)) r q

theorem lastPage_snoc (done : List (RowMeta × Nat)) (x : RowMeta × Nat) :
    lastPage (done ++ [x]) = x.2 := by
  simp [lastPage]

/-- The accumulators are what the specification reads off the rows placed so far: `page` is the last
page used, `cur` its load; and no earlier row lies on a later page. -/
theorem breakSpec_aux (avail : Nat) (np : Bool) (rs : List RowMeta) :
    ∀ (page cur : Nat) (done₀ : List (RowMeta × Nat)),
      lastPage done₀ = page → (∀ x ∈ done₀, x.2 ≤ page) → loadOn page done₀ = cur →
      BreakSpec avail np done₀ (rs.zip (assignAux avail np page cur true rs)) := by
  induction rs with
  | nil =>
    intro page cur done₀ _ _ _ ext r q rest h
    simp [assignAux] at h
  | cons r0 rs ih =>
    intro page cur done₀ hlast hle hload ext r q rest h
    simp only [assignAux, List.zip_cons_cons] at h
    cases ext with
    | nil =>
      simp only [List.nil_append, List.cons.injEq, Prod.mk.injEq] at h
      obtain ⟨⟨rfl, rfl⟩, _⟩ := h
      rw [List.append_nil, hlast, hload]
      exact clauses_step avail np page cur r0
    | cons e ext =>
      simp only [List.cons_append, List.cons.injEq] at h
      obtain ⟨rfl, h⟩ := h
      -- the row `r0` joins the prefix; the new accumulators describe the longer prefix
      generalize hb : breaksBefore avail np cur true r0 = b at h
      have key := ih (if b then page + 1 else page) ((if b then 0 else cur) + r0.total)
        (done₀ ++ [(r0, if b then page + 1 else page)]) (lastPage_snoc _ _)
        (fun x hx => by
          rcases List.mem_append.mp hx with hx | hx
          · have := hle x hx; split <;> omega
          · rw [List.mem_singleton.mp hx]; exact Nat.le_refl _)
        (by
          rw [loadOn_append, loadOn_cons, if_pos rfl, show loadOn _ [] = 0 from rfl]
          cases b with
          | true =>
            simp only [↓reduceIte, Nat.add_zero]
            rw [loadOn_eq_zero fun x hx => by have := hle x hx; omega]
          | false => simp only [Bool.false_eq_true, ↓reduceIte, hload, Nat.add_zero])
        ext r q rest h
      rwa [List.append_assoc] at key

/-! ## (b) a break only when the next row does not fit or a grouping rule demands it;
## (c) always a break in those cases -/

/-- Full statement for every position after the first row. `avail = max 1 (nrow - additional)`
is "nrow after reserving the repeating components". -/
theorem C04_bc (nrow additional : Nat) (np : Bool) (rs : List RowMeta)
    (done : List (RowMeta × Nat)) (r : RowMeta) (q : Nat) (rest : List (RowMeta × Nat))
    (hsplit : paged nrow additional np rs = done ++ (r, q) :: rest) (hne : done ≠ []) :
    let p := lastPage done
    let over := decide (loadOn p done + r.total > availRows nrow additional)
    (q ≠ p → (demands np r = true ∨ over = true)) ∧
    ((demands np r = true ∨ over = true) → loadOn p done > 0 → q = p + 1) ∧
    (q = p ∨ q = p + 1) := by
  cases rs with
  | nil => simp [paged, assignPages, assignAux] at hsplit
  | cons r0 rs =>
    cases done with
    | nil => exact absurd rfl hne
    | cons d done' =>
      rw [paged, assignPages_cons, List.zip_cons_cons, List.cons_append] at hsplit
      obtain ⟨rfl, hrest⟩ := List.cons.inj hsplit
      exact breakSpec_aux (availRows nrow additional) np rs 1 r0.total [(r0, 1)]
        rfl (by simp) (by simp [loadOn]) done' r q rest hrest

/-- with every row at least one line high the page of the last placed row carries something -/
theorem loadOn_pos_of_last (done : List (RowMeta × Nat)) (hne : done ≠ [])
    (hpos : ∀ x ∈ done, 1 ≤ x.1.total) : loadOn (lastPage done) done > 0 := by
  obtain ⟨pre, x, rfl⟩ := List.eq_nil_or_concat done |>.resolve_left hne
  rw [List.concat_eq_append] at *
  rw [lastPage_snoc, loadOn_append]
  have := hpos x (by simp)
  simp [loadOn]; omega

/-- With every row at least one line high (which `calculate_row_metadata` guarantees through
`max(1, …)`) the current page is never empty after the first row, so (c) needs no side
condition: a demanded break always happens. -/
theorem C04_c_always (nrow additional : Nat) (np : Bool) (rs : List RowMeta)
    (hpos : ∀ r ∈ rs, 1 ≤ r.total)
    (done : List (RowMeta × Nat)) (r : RowMeta) (q : Nat) (rest : List (RowMeta × Nat))
    (hsplit : paged nrow additional np rs = done ++ (r, q) :: rest) (hne : done ≠ [])
    (hreq : demands np r = true ∨
        loadOn (lastPage done) done + r.total > availRows nrow additional) :
    q = lastPage done + 1 := by
  have h := (C04_bc nrow additional np rs done r q rest hsplit hne).2.1
  apply h
  · rcases hreq with h | h
    · exact Or.inl h
    · exact Or.inr (by simpa using h)
  · apply loadOn_pos_of_last done hne
    intro x hx
    have hmem : x ∈ paged nrow additional np rs := by rw [hsplit]; simp [hx]
    have := List.of_mem_zip hmem
    exact hpos _ this.1

/-! ## (e) appending rows never changes how the earlier rows were paginated -/

theorem C04_e_prefix (nrow additional : Nat) (np : Bool) (rs ext : List RowMeta) :
    (assignPages nrow additional np (rs ++ ext)).take rs.length =
      assignPages nrow additional np rs := by
  rw [← assignPages_take, List.take_left]

/-- the metadata of the first rows does not depend on later rows either -/
theorem C04_e_changes {α} [DecidableEq α] (ks ext : List α) :
    (changes (ks ++ ext)).take ks.length = changes ks := by
  rw [← changes_take, List.take_left]

/-! ## (d) no page mixes rows of two subline_by groups, nor of two page_by groups when new_page is set -/

open Proofs.PaginateGroups in
/-- Two adjacent rows on one page belong to the same groups: the second one did not break although the page was not
empty, so no grouping rule demanded a break. -/
theorem adjacent_keys {κ : Type} [DecidableEq κ] (nrow additional : Nat) (hasPageBy hasSubline np : Bool)
    (rows : List (RowIn κ)) (hpos : ∀ r ∈ rows, 1 ≤ r.dataRows) (k : Nat) (a b : RowIn κ) (p : Nat)
    (ha : rows[k]? = some a) (hb : rows[k + 1]? = some b)
    (hpa : (assignPages nrow additional np (mkMeta hasPageBy hasSubline rows))[k]? = some p)
    (hpb : (assignPages nrow additional np (mkMeta hasPageBy hasSubline rows))[k + 1]? = some p) :
    (hasSubline = true → a.skey = b.skey) ∧ (hasPageBy = true → np = true → a.pkey = b.pkey) := by
  apply keys_of_not_demands hasPageBy hasSubline np a b
  have hm := mkMeta_getElem? hasPageBy hasSubline rows (k + 1) b _ _ hb
    (changes_getElem?_succ _ k a.pkey b.pkey (by rw [List.getElem?_map, ha]; rfl) (by rw [List.getElem?_map, hb]; rfl))
    (changes_getElem?_succ _ k a.skey b.skey (by rw [List.getElem?_map, ha]; rfl) (by rw [List.getElem?_map, hb]; rfl))
  generalize mkRow hasPageBy hasSubline b _ _ = m at hm ⊢
  generalize hZ : paged nrow additional np (mkMeta hasPageBy hasSubline rows) = Z
  have hz : Z[k + 1]? = some (m, p) := hZ ▸ List.getElem?_zip_eq_some.mpr ⟨hm, hpb⟩
  obtain ⟨hlt, hget⟩ := List.getElem?_eq_some_iff.mp hz
  have hzk : Z[k]? = some Z[k] := List.getElem?_eq_getElem (Nat.lt_of_succ_lt hlt)
  have hpk : Z[k].2 = p := by
    subst hZ
    exact Option.some.inj ((List.getElem?_zip_eq_some.mp hzk).2.symm.trans hpa)
  have hsplit : Z = Z.take (k + 1) ++ (m, p) :: Z.drop (k + 2) := by
    rw [← hget, ← List.drop_eq_getElem_cons hlt, List.take_append_drop]
  have hlast : lastPage (Z.take (k + 1)) = p := by
    rw [lastPage, List.getLast?_eq_getElem?, List.length_take, Nat.min_eq_left (Nat.le_of_lt hlt),
      Nat.add_sub_cancel, List.getElem?_take, if_pos (Nat.lt_succ_self k), hzk]
    exact hpk
  cases hd : demands np m with
  | false => rfl
  | true =>
    have := C04_c_always nrow additional np _ (mkMeta_total_pos hasPageBy hasSubline rows hpos) _ m p _
      (hZ.trans hsplit) (List.ne_nil_of_length_pos (by rw [List.length_take]; omega)) (Or.inl hd)
    omega

/-- Rows `i < j` that were put on the same page carry the same subline_by key, and the same page_by key when
`new_page` forces breaks — for the metadata `mkMeta` derives from the keys (group change = key differs from the
previous row's), provided every row is at least one line high (`max(1, …)` in `calculate_row_metadata`). -/
theorem C04_d_no_mixing {κ : Type} [DecidableEq κ] (nrow additional : Nat) (hasPageBy hasSubline np : Bool)
    (rows : List (RowIn κ)) (hpos : ∀ r ∈ rows, 1 ≤ r.dataRows)
    (i j : Nat) (hij : i < j) (ri rj : RowIn κ) (p : Nat)
    (hri : rows[i]? = some ri) (hrj : rows[j]? = some rj)
    (hpi : (assignPages nrow additional np (mkMeta hasPageBy hasSubline rows))[i]? = some p)
    (hpj : (assignPages nrow additional np (mkMeta hasPageBy hasSubline rows))[j]? = some p) :
    (hasSubline = true → ri.skey = rj.skey) ∧
    (hasPageBy = true → np = true → ri.pkey = rj.pkey) := by
  obtain ⟨n, rfl⟩ : ∃ n, j = i + n + 1 := ⟨j - i - 1, by omega⟩
  clear hij
  induction n generalizing i ri with
  | zero => exact adjacent_keys nrow additional hasPageBy hasSubline np rows hpos i ri rj p hri hrj hpi hpj
  | succ n ih =>
    -- page numbers never decrease, so row `i + 1` lies on page `p` too
    have hmono := List.pairwise_iff_getElem.mp
      (steps_pairwise (C04_a_steps nrow additional np (mkMeta hasPageBy hasSubline rows)))
    obtain ⟨hi, ei⟩ := List.getElem?_eq_some_iff.mp hpi
    obtain ⟨hj, ej⟩ := List.getElem?_eq_some_iff.mp hpj
    have l1 := hmono i (i + 1) hi (by omega) (Nat.lt_succ_self i)
    have l2 := hmono (i + 1) (i + (n + 1) + 1) (by omega) hj (by omega)
    have hpa : (assignPages nrow additional np (mkMeta hasPageBy hasSubline rows))[i + 1]? = some p := by
      rw [List.getElem?_eq_getElem (by omega)]
      congr 1
      omega
    obtain ⟨a, ha⟩ : ∃ a, rows[i + 1]? = some a :=
      ⟨_, List.getElem?_eq_getElem (by have := (List.getElem?_eq_some_iff.mp hrj).1; omega)⟩
    have h1 := adjacent_keys nrow additional hasPageBy hasSubline np rows hpos i ri a p hri ha hpi hpa
    have e : i + (n + 1) + 1 = i + 1 + n + 1 := by omega
    have h2 := ih (i + 1) a ha hpa (e ▸ hrj) (e ▸ hpj)
    exact ⟨fun hS => (h1.1 hS).trans (h2.1 hS), fun hP hN => (h1.2 hP hN).trans (h2.2 hP hN)⟩

/-- non-vacuity: keys a a b b with nrow large: the change of key forces the break -/
example :
    assignPages 40 0 true (mkMeta true false
      [⟨1, 1, 1, "a", ""⟩, ⟨1, 1, 1, "a", ""⟩, ⟨1, 1, 1, "b", ""⟩, ⟨1, 1, 1, "b", ""⟩]) = [1, 1, 2, 2] := by decide

/-! ## non-vacuity: a concrete table that breaks for both reasons -/

example :
    assignPages 5 2 true
      [⟨1, true, false⟩, ⟨2, false, false⟩, ⟨1, false, false⟩, ⟨1, true, false⟩, ⟨3, false, false⟩]
      = [1, 1, 2, 3, 4] := by decide

end Props.C04
