import Model.Encode
import Model.Widths
import Proofs.EncodeAttrs
import Props.C08
import Props.C09enc
/-!
# C08 for the whole-encoder model: all rows of a table share one right edge and proportional columns

`Props/C08.lean` proves the property for `Model.Widths` (`colWidths`, `twip`, `bodyCum`, `dataRow`, `headerRow`,
`spanRow`, `footRow`).  Here it is stated for the `\cellx` values `Model.Encode.encode` EMITS.

`elemCellx e` reads the `\cellx` vectors off the OUTPUT GRAMMAR (`BlockG.row _ cells _ ↦ cells.map (·.cellx)`), i.e.
off what is printed — not off an intermediate value of the encoder.

* data rows: `elemCellx e = [(p.cum.take cells.length).map twip]` for every row `encodeRow` emits (no hypothesis), and
  `= [p.cum.map twip] = Widths.dataRow …` for every data row of an accepted run on a rectangular frame with a
  well-shaped width vector (`WidthsOk`); `p.cum = colWidths (dispWidths …) col_width`, where `dispWidths` is the user's
  `col_rel_width` restricted to the displayed columns (`slice`) or `[1, …, 1]`; hence (C08) one right edge
  `twip col_width`, non-decreasing boundaries, proportional to within half a twip;
* spanning heading rows (`spanningRow`), table-rendered footnote / source rows (`renderFoot`), column header rows
  (`renderHeader`): their `\cellx` vectors are `Widths.spanRow`, `Widths.footRow`, `Widths.headerRow` of the document's
  values, with the C08 consequences (`C08_spanning_row`, `C08_footnote_row`, `headerRowQ_inherited`);
* former finding, repaired in rtflite: a footnote rendered as table with a `col_rel_width` of two entries stopped at
  half the table width (first boundary); the cell now ends at the last boundary (`C08_footnote_row_any`).
-/
namespace Props.C08enc
open Model.Encode Model.Broadcast Model.Layout Model.Emit Model.Widths Proofs.EncodeAttrs Proofs.Encode Proofs.Widths

/-! ## the data rows -/

/-- every row `_encode` emits: one `\cellx` per frame cell, the first `cells.length` cumulative widths in twips
(`IndexError` otherwise) -/
theorem C08enc_row_cellx {k : ColorCtx} {A : TblAttrsOf MatV} {cum : List Rat} {r : Nat}
    {cells : List (Option Str)} {e : Elem} (h : encodeRow k A cum r cells = .ok e) :
    cells.length ≤ cum.length ∧ elemCellx e = [(cum.take cells.length).map Model.Encode.twip] :=
  encodeRow_cellx h

/-- the relative widths of the displayed columns as `_encode_body_section` chooses them -/
def dispWidths (d : Doc) (keep : List Bool) : List Rat :=
  if (bodyProcessed (d.body.colRelWidth.getD []) keep).isEmpty then List.replicate (nDisplayed keep) 1
  else bodyProcessed (d.body.colRelWidth.getD []) keep

/-- the body's cumulative widths (`col_widths`) are `_col_widths` of `dispWidths` over the page's `col_width` -/
theorem C08enc_cum {measure : Measure} {k : ColorCtx} {d : Doc} (R : Run measure k d) :
    R.p.keep = keepMask d.cols.length R.removed ∧
    R.p.ncolsDisp = nDisplayed R.p.keep ∧
    R.p.cum = colWidths (dispWidths d R.p.keep) d.page.colWidth := by
  rw [R.p_eq]
  refine ⟨rfl, rfl, ?_⟩
  simp only [bodyCum, dispWidths]
  split <;> rfl

theorem slice_keep_all (l : List Rat) (keep : List Bool) (h : anyRemoved keep = false)
    (hl : l.length = keep.length) : slice l keep = l := by
  induction l generalizing keep with
  | nil => cases keep <;> rfl
  | cons x xs ih =>
    cases keep with
    | nil => simp at hl
    | cons b ks =>
      simp only [anyRemoved, List.any_cons, Bool.or_eq_false_iff, Bool.not_eq_false'] at h
      obtain ⟨hb, hks⟩ := h
      subst hb
      simp only [slice, if_true]
      rw [ih ks (by simpa [anyRemoved] using hks) (by simpa using hl)]

/-- with one relative width per column (what `RTFDocument.__init__` leaves in the body) `dispWidths` is the user's
vector restricted to the displayed columns; with none it is `[1, …, 1]` -/
theorem C08enc_dispWidths (d : Doc) (keep : List Bool) (hd : 0 < nDisplayed keep) :
    ((d.body.colRelWidth.getD []).length = keep.length →
      dispWidths d keep = slice (d.body.colRelWidth.getD []) keep) ∧
    (d.body.colRelWidth.getD [] = [] → dispWidths d keep = List.replicate (nDisplayed keep) 1) := by
  refine ⟨?_, ?_⟩
  · intro hl
    have hlen : (slice (d.body.colRelWidth.getD []) keep).length = nDisplayed keep := slice_length _ _ hl
    have hpw : bodyProcessed (d.body.colRelWidth.getD []) keep = slice (d.body.colRelWidth.getD []) keep := by
      unfold bodyProcessed
      by_cases hr : anyRemoved keep = true
      · simp [hr, hl]
      · have hr' : anyRemoved keep = false := by simpa using hr
        simp only [hr', Bool.false_and, Bool.false_eq_true, if_false]
        exact (slice_keep_all _ _ hr' hl).symm
    unfold dispWidths
    rw [hpw, if_neg]
    intro h0
    rw [List.isEmpty_iff.mp h0] at hlen
    exact absurd hlen.symm (Nat.ne_of_gt hd)
  · intro h0
    unfold dispWidths bodyProcessed
    rw [h0]
    have : slice [] keep = [] := by cases keep <;> rfl
    split <;> simp [this]

/-- a well-shaped width configuration: positive relative widths (validated by the constructors), none / one per
column / one per displayed column, and a column is displayed -/
structure WidthsOk (d : Doc) (keep : List Bool) : Prop where
  pos : AllPos (d.body.colRelWidth.getD [])
  len : d.body.colRelWidth.getD [] = [] ∨ (d.body.colRelWidth.getD []).length = keep.length ∨
    (d.body.colRelWidth.getD []).length = nDisplayed keep
  disp : 0 < nDisplayed keep

theorem dispWidths_wf {d : Doc} {keep : List Bool} (h : WidthsOk d keep) :
    AllPos (dispWidths d keep) ∧ (dispWidths d keep).length = nDisplayed keep ∧ dispWidths d keep ≠ [] := by
  have key : AllPos (dispWidths d keep) ∧ (dispWidths d keep).length = nDisplayed keep := by
    rcases h.len with h0 | hl
    · rw [(C08enc_dispWidths d keep h.disp).2 h0]
      exact ⟨allPos_replicate _ _ (by decide), by simp⟩
    · obtain ⟨hp, hlen⟩ := bodyProcessed_wf _ keep ⟨h.pos, hl⟩
      unfold dispWidths
      rw [if_neg]
      · exact ⟨hp, hlen⟩
      · intro h0
        rw [List.isEmpty_iff.mp h0] at hlen
        exact absurd hlen.symm (Nat.ne_of_gt h.disp)
  exact ⟨key.1, key.2, List.ne_nil_of_length_pos (key.2 ▸ h.disp)⟩

/-- **every data row the encoder emits.**  In an accepted run on a rectangular frame with a well-shaped width vector,
every data row of every page is emitted with the SAME `\cellx` vector `p.cum.map twip` (one boundary per displayed
column), which is `Widths.dataRow` of the document's values -/
theorem C08enc_data_rows {measure : Measure} {k : ColorCtx} {d : Doc} (R : Run measure k d)
    (hrect : frameRect d = true) (hw : WidthsOk d R.p.keep)
    {pg : PageCtx} {blocks : List Block} (hr : R.Renders pg blocks) {i : Nat} (hb : Block.data i ∈ blocks) :
    ∃ cells e, R.rows[i]? = some cells ∧ e ∈ R.ess.flatten ∧
      encodeRow k (pageAttrs d R.A R.p pg).attrs R.p.cum (i - pg.start) cells = .ok e ∧
      elemCellx e = [R.p.cum.map Model.Encode.twip] ∧ R.p.cum.length = R.p.ncolsDisp ∧
      dataRow (d.body.colRelWidth.getD []) R.p.keep d.page.colWidth = .ok (R.p.cum.map Model.Encode.twip) := by
  obtain ⟨cells, e, hc, he, hmem⟩ := R.data_rendered hr hb
  obtain ⟨hk, hn, hcum⟩ := C08enc_cum R
  obtain ⟨_, hlen, _⟩ := dispWidths_wf hw
  have hcl : R.p.cum.length = R.p.ncolsDisp := by rw [hcum, colWidths_length, hlen, hn]
  have hcells := R.rows_width hrect cells (List.mem_of_getElem? hc)
  obtain ⟨_, hx⟩ := encodeRow_cellx he
  rw [hcells, ← hcl, List.take_length] at hx
  refine ⟨cells, e, hc, hmem, he, hx, hcl, ?_⟩
  have hb' : bodyCum (d.body.colRelWidth.getD []) R.p.keep d.page.colWidth = R.p.cum := by
    rw [R.p_eq]
  unfold dataRow dataRowQ
  rw [hb', rowQ_full _ _ (by rw [hcl, hn])]
  rfl

/-- **one right edge.**  The last `\cellx` of every data row is `twip col_width` -/
theorem C08enc_right_edge {measure : Measure} {k : ColorCtx} {d : Doc} (R : Run measure k d)
    (hw : WidthsOk d R.p.keep) : (R.p.cum.map Model.Encode.twip).getLast? = some (Model.Encode.twip d.page.colWidth) := by
  obtain ⟨hp, _, hne⟩ := dispWidths_wf hw
  rw [(C08enc_cum R).2.2]
  exact Props.C08.C08_right_edge _ _ hne hp

/-- boundaries in inches are strictly positive and strictly increasing; the `\cellx` values are never negative and
never decrease -/
theorem C08enc_monotone {measure : Measure} {k : ColorCtx} {d : Doc} (R : Run measure k d)
    (hw : WidthsOk d R.p.keep) (hW : 0 < d.page.colWidth) :
    (∀ c ∈ R.p.cum, 0 < c) ∧ List.Pairwise (· < ·) R.p.cum ∧
    (∀ t ∈ R.p.cum.map Model.Encode.twip, 0 ≤ t) ∧ List.Pairwise (· ≤ ·) (R.p.cum.map Model.Encode.twip) := by
  rw [(C08enc_cum R).2.2]
  exact Props.C08.C08_monotone _ _ hW (dispWidths_wf hw).1

/-- **proportional columns.**  Boundary `j` of every data row sits exactly at `W · (Σ_{i ≤ j} w_i) / Σ w` inches for
`w = dispWidths` (the user's relative widths of the displayed columns), and its `\cellx` is at most half a twip away
from `1440` times that -/
theorem C08enc_proportional {measure : Measure} {k : ColorCtx} {d : Doc} (R : Run measure k d) (j : Nat) (c : Rat)
    (h : R.p.cum[j]? = some c) :
    c = sumQ ((dispWidths d R.p.keep).take (j + 1)) * d.page.colWidth / sumQ (dispWidths d R.p.keep) ∧
    ((Model.Encode.twip c : Int) : Rat) -
      1440 * d.page.colWidth * sumQ ((dispWidths d R.p.keep).take (j + 1)) / sumQ (dispWidths d R.p.keep) ≤ 1 / 2 ∧
    1440 * d.page.colWidth * sumQ ((dispWidths d R.p.keep).take (j + 1)) / sumQ (dispWidths d R.p.keep) -
      ((Model.Encode.twip c : Int) : Rat) ≤ 1 / 2 := by
  rw [(C08enc_cum R).2.2] at h
  exact Props.C08.C08_boundary_proportional _ _ j c h

/-! ## spanning heading rows -/

/-- every spanning heading row the encoder emits is one cell whose `\cellx` is `Widths.spanRow col_width`, i.e. the
right edge `twip col_width` of the data rows for every positive `col_width` -/
theorem C08enc_spanning_row {k : ColorCtx} {d : Doc} {bodyA : TblAttrsOf MatV} {level : Nat} {text : String}
    {e : Elem} (h : spanningRow k d bodyA level text = .ok e) :
    elemCellx e = [spanRow d.page.colWidth] ∧
    (0 < d.page.colWidth → elemCellx e = [[Model.Encode.twip d.page.colWidth]]) := by
  have h1 := spanningRow_cellx h
  refine ⟨h1, fun hW => ?_⟩
  rw [h1, Props.C08.C08_spanning_row _ hW]
  rfl

/-- the heading blocks of a rendered page are emitted by `spanningRow` -/
theorem C08enc_heading_rendered {measure : Measure} {k : ColorCtx} {d : Doc} (R : Run measure k d)
    {pg : PageCtx} {blocks : List Block} (hr : R.Renders pg blocks) {lvl : Nat} {t : String}
    (hb : Block.heading lvl t ∈ blocks) :
    ∃ e, spanningRow k d R.A lvl t = .ok e ∧ e ∈ R.ess.flatten := by
  obtain ⟨es, hes, hmem⟩ := R.block_rendered hr hb
  simp only [renderBlock] at hes
  peel hes as e he
  cases pure_ok hes
  exact ⟨e, he, hmem e (by simp)⟩

/-! ## footnote / source rendered as table -/

/-- a table-rendered footnote / source is one row of one cell whose `\cellx` vector is `Widths.footRow` of its own
width vector; with ANY non-empty vector of positive widths it is the right edge `twip col_width` (the cell ends at the
LAST boundary of the vector — repo fix; it used to end at the first one, so `col_rel_width = [1, 1]` gave a footnote
row ending at half the table width) -/
theorem C08enc_foot_row {k : ColorCtx} {d : Doc} {f : Foot} {o : Option String} {es : List Elem}
    (h : renderFoot k d f o = .ok es) (ht : f.asTable = true) :
    ∃ w e cx, f.colRelWidth = some w ∧ es = [e] ∧ footRow w d.page.colWidth = .ok cx ∧ elemCellx e = [cx] ∧
      (w ≠ [] → AllPos w → cx = [Model.Encode.twip d.page.colWidth]) := by
  obtain ⟨w, e, hw, rfl, hx, hlen⟩ := renderFoot_cellx h ht
  have hf : footRow w d.page.colWidth =
      .ok ((colWidths w d.page.colWidth).getLast?.toList.map Model.Encode.twip) := by
    unfold footRow footRowQ rowQ
    cases hl : (colWidths w d.page.colWidth).getLast? with
    | none =>
      have : colWidths w d.page.colWidth = [] := by simpa using hl
      rw [this] at hlen; simp at hlen
    | some c => simp [toTwips, Model.Encode.twip]
  refine ⟨w, e, _, hw, rfl, hf, hx, ?_⟩
  intro hne hpos
  have := Props.C08.C08_footnote_row_any w d.page.colWidth hne hpos
  rw [hf] at this
  exact Except.ok.inj this

/-- the former finding, repaired: a footnote rendered as table with `col_rel_width = [1, 1]` now ends at the table's
right edge `\cellx9000` like the data rows (it ended at `\cellx4500`) -/
example :
    let d : Doc := { Props.C01enc.exDoc [1, 2] with
      footnote := some { text := some "note".toList, asTable := true, colRelWidth := some [1, 1],
                         attrs := Props.C01enc.exTbl } }
    Model.EncodeDomain.inDomain d = true ∧
    (match encode Props.C01enc.exMeasure d with
     | .ok g => g.blocks.filterMap blockCellx
     | .error _ => []) = [[4500, 9000], [3000, 9000], [3000, 9000], [9000]] := by
  decide +kernel

/-! ## column header rows -/

/-- the width vector `encode_column_header` uses is the one of `Widths.headerRow` -/
theorem headerV_eq (hw : Option (List Rat)) (keep : List Bool) (n : Nat) :
    headerV (hw.map fun w => headerDisplayed w keep n) n =
      if (headerDisplayed (hw.getD []) keep n).isEmpty then List.replicate n 1
      else headerDisplayed (hw.getD []) keep n := by
  cases hw with
  | none =>
    have : headerDisplayed [] keep n = [] := by
      unfold headerDisplayed
      split
      · cases keep <;> rfl
      · rfl
    simp [headerV, this]
  | some w =>
    simp only [Option.map_some, Option.getD_some]
    cases headerDisplayed w keep n <;> simp [headerV]

/-- every rendered column header row: its `\cellx` vector is `Widths.headerRow` of the header's own relative widths,
the removal mask, its number of text cells and `col_width` -/
theorem C08enc_header_row {k : ColorCtx} {d : Doc} {p : Prep} {isFirst : Bool} {idx : Nat} {h : Model.Encode.Header}
    {es : List Elem} (hr : renderHeader k d p isFirst idx h = .ok es) (text : List Str)
    (ht : headerText d p h = some text) :
    ∃ e cx, es = [e] ∧ headerRow (h.colRelWidth.getD []) p.keep text.length d.page.colWidth = .ok cx ∧
      elemCellx e = [cx] ∧ 0 < text.length := by
  rcases renderHeader_text hr with ⟨h0, _⟩ | ⟨text', ht', hr⟩
  · rw [ht] at h0; cases h0
  rw [ht] at ht'
  cases ht'
  obtain ⟨e, rfl, hn, hlen, hx⟩ := headerInner_cellx hr
  rw [headerV_eq] at hlen hx
  refine ⟨e, _, rfl, ?_, hx, hn⟩
  unfold headerRow headerRowQ headerRowQWith rowQ
  simp only
  rw [if_pos hlen]
  rfl

/-- a header that carries the body's relative widths (what `_inherit_header_widths` gives a header without own widths)
and one text cell per displayed column lines up with the data rows: same `\cellx` vector, for every body vector,
every removal mask, every width (`headerRowQ_inherited`, the lemma behind `C08_header_inherited_aligns`) -/
theorem C08enc_header_aligns {measure : Measure} {k : ColorCtx} {d : Doc} (R : Run measure k d)
    (hrect : frameRect d = true) (hw : WidthsOk d R.p.keep) {isFirst : Bool} {idx : Nat} {h : Model.Encode.Header}
    {es : List Elem} (hr : renderHeader k d R.p isFirst idx h = .ok es) (text : List Str)
    (ht : headerText d R.p h = some text)
    (hinh : h.colRelWidth.getD [] = d.body.colRelWidth.getD []) (hn : text.length = R.p.ncolsDisp)
    {pg : PageCtx} {blocks : List Block} (hp : R.Renders pg blocks) {i : Nat} (hb : Block.data i ∈ blocks) :
    ∃ e e', es = [e] ∧ e' ∈ R.ess.flatten ∧ elemCellx e = elemCellx e' ∧
      elemCellx e = [R.p.cum.map Model.Encode.twip] := by
  obtain ⟨e, cx, rfl, hcx, hx, _⟩ := C08enc_header_row hr text ht
  obtain ⟨cells, e', _, hmem, _, hx', _, hdr⟩ := C08enc_data_rows R hrect hw hp hb
  have key : headerRow (h.colRelWidth.getD []) R.p.keep text.length d.page.colWidth =
      dataRow (d.body.colRelWidth.getD []) R.p.keep d.page.colWidth := by
    rw [hinh, hn, (C08enc_cum R).2.1]
    unfold headerRow dataRow
    rw [← headerRowQ_inherited]
    rfl
  rw [key, hdr] at hcx
  cases hcx
  exact ⟨e, e', rfl, hmem, by rw [hx, hx'], hx⟩

/-- a header with its OWN relative widths, one per text cell, all positive: the row ends at the same right edge -/
theorem C08enc_header_own {k : ColorCtx} {d : Doc} {p : Prep} {isFirst : Bool} {idx : Nat} {h : Model.Encode.Header}
    {es : List Elem} (hr : renderHeader k d p isFirst idx h = .ok es) (text : List Str)
    (ht : headerText d p h = some text)
    (w : List Rat) (hw : h.colRelWidth = some w) (hl : w.length = text.length) (hpos : AllPos w) :
    ∃ e, es = [e] ∧ elemCellx e = [(colWidths w d.page.colWidth).map Model.Encode.twip] ∧
      ((colWidths w d.page.colWidth).map Model.Encode.twip).getLast? = some (Model.Encode.twip d.page.colWidth) := by
  obtain ⟨e, cx, rfl, hcx, hx, hn⟩ := C08enc_header_row hr text ht
  have hne : w ≠ [] := by intro e0; rw [e0] at hl; simp at hl; omega
  rw [hw] at hcx
  unfold headerRow at hcx
  simp only [Option.getD_some] at hcx
  rw [headerRowQ_own w p.keep text.length d.page.colWidth hl hn] at hcx
  cases hcx
  exact ⟨e, rfl, hx, Props.C08.C08_right_edge w d.page.colWidth hne hpos⟩

/-- the column-header blocks of a rendered page are emitted by `renderHeader` -/
theorem C08enc_header_rendered {measure : Measure} {k : ColorCtx} {d : Doc} (R : Run measure k d)
    {pg : PageCtx} {blocks : List Block} (hr : R.Renders pg blocks) {idx : Nat} {h : Model.Encode.Header}
    (hb : Block.colHeader idx ∈ blocks) (hh : d.headers[idx]? = some (some h)) :
    ∃ es, renderHeader k d R.p (pg.number == 1) idx h = .ok es ∧ ∀ e ∈ es, e ∈ R.ess.flatten := by
  obtain ⟨es, hes, hmem⟩ := R.block_rendered hr hb
  simp only [renderBlock, hh, Option.join] at hes
  exact ⟨es, hes, hmem⟩


/-! ## non-vacuity (`Props.C09enc.exPB`: `col_rel_width = [1, 2, 3]`, the first column removed by page_by, two pages,
spanning rows, column header, footnote as table) -/

open Props.C09enc Props.C01enc

/-- the hypotheses of the run-level theorems hold for every run of the example (it has one: `Props/C09enc.lean`), and
the displayed relative widths are the user's `[2, 3]` -/
example (R : Run exMeasure (mkColorCtx exPB) exPB) :
    frameRect exPB = true ∧ WidthsOk exPB R.p.keep ∧ dispWidths exPB R.p.keep = [2, 3] ∧
    0 < exPB.page.colWidth ∧
    (∀ h, some h ∈ exPB.headers → h.colRelWidth.getD [] = exPB.body.colRelWidth.getD []) := by
  have hk : R.p.keep = [false, true, true] := by
    rw [(C08enc_cum R).1, exPB_removed R]; decide +kernel
  rw [hk]
  refine ⟨by decide +kernel, ⟨allPos_of_posW (by decide +kernel), Or.inr (Or.inl (by decide +kernel)),
    by decide +kernel⟩, by decide +kernel, by decide +kernel, ?_⟩
  intro h hh
  have : exPB.headers = [some { text := none, colRelWidth := some [1, 2, 3], attrs := exTbl }] := rfl
  rw [this] at hh
  simp only [List.mem_cons, List.not_mem_nil, or_false, Option.some.injEq] at hh
  subst hh
  rfl

/-- direct evaluation, independently of the theorems: the `\cellx` vectors of all rows of the printed document, in
order — header, spanning row, two data rows on page 1; header, spanning row, two data rows, footnote row on page 2 —
every one ends at `twip 6.25 = 9000`; data rows and the header (inherited widths, sliced like the body's) have their
inner boundary at `9000 · 2/5 = 3600` -/
example : (match encode exMeasure exPB with
    | .ok g => g.blocks.filterMap blockCellx
    | .error _ => []) =
    [[3600, 9000], [9000], [3600, 9000], [3600, 9000], [3600, 9000], [9000], [3600, 9000], [3600, 9000], [9000]] ∧
    Model.Encode.twip exPB.page.colWidth = 9000 := by
  decide +kernel

end Props.C08enc
