import Model.Encode
import Model.CellAttr
import Proofs.EncodeAttrs
import Props.C09
import Props.C01enc
/-!
# C09 for the whole-encoder model: cell formatting follows the data cell

`Props/C09.lean` proves the binding for the partial model `cellAttr` (column removal → page rows → page-relative
`iloc`).  Here the same is stated for what `Model.Encode.encode` really does for a data row:

  `prepare` (`processedAttrs`: expand + drop removed columns) → `pageAttrs` (the page's rows of every matrix) →
  `renderBlock (.data i)` → `encodeRow … (i - pg.start)` → `encodeCell … j` → `ilocV <matrix> (i - pg.start) j`.

Vocabulary (all from `Proofs/EncodeAttrs.lean`):
* `Field` — the 31 attribute matrices of `TblAttrsOf`; `f.get A` the projection; `f.isEdge` ⇔ `f` is `bTop`/`bBottom`
  (those two are rewritten by `_apply_pagination_borders`; `Props/C07enc.lean` says what they hold);
* `Run measure k d` — the intermediate values of an ACCEPTED run of `encodePages` (`encodePages_run`, `encode_run`:
  every accepted document has one): `R.A` the user's body attributes after `_to_nested_list`, `R.removed` the removed
  column indices, `R.p = prepare d`, `R.ld` the role-level document, `R.rows` the final frame, `R.ess` the elements;
  `R.Renders pg blocks` — `pg` is a page of the run and `blocks` its block list;
* `readAt A r j` — the record of all values `_encode` can read at position `(r, j)`; `cellOf k R …` — `encodeCell`
  as a function of the values read; `shapeOk a` — the user attribute is absent, a scalar, a non-empty list / tuple or a
  non-empty rectangular nested list with ≥ 1 column (on these `BroadcastValue.iloc` is total; C09's `Rect` hypothesis).
-/
namespace Props.C09enc
open Model.Encode Model.Broadcast Model.Layout Model.Emit Proofs.EncodeAttrs

/-! ## every accepted document has a run; what is rendered for a data row -/

/-- an accepted document has a run, and the run's elements are the document's blocks -/
theorem C09enc_run (measure : Measure) (d : Doc) (g : Model.Rtf.DocG) (h : encode measure d = .ok g) :
    ∃ R : Run measure (mkColorCtx d) d,
      g.blocks = joinElems R.ess.flatten ++ [Model.Rtf.BlockG.plain [.nl, .nl, .nl, .nl]] :=
  encode_run h

/-- the data rows of a rendered page are exactly the frame rows `pg.start ≤ i < pg.start + pg.height` (inside the
frame), and each is emitted by `encodeRow` on the page's attributes at the PAGE-RELATIVE row `i - pg.start`, cell `j`
by `encodeCell … (i - pg.start) j` with the `j`-th cumulative width; the emitted element is part of the output -/
theorem C09enc_data_rows {measure : Measure} {k : ColorCtx} {d : Doc} (R : Run measure k d)
    {pg : PageCtx} {blocks : List Block} (hr : R.Renders pg blocks) :
    pg.start + pg.height ≤ d.rows.length ∧
    (∀ i, Block.data i ∈ blocks ↔ (pg.start ≤ i ∧ i < pg.start + pg.height)) ∧
    ∀ i, Block.data i ∈ blocks → ∃ cells e cs jv just hv hh,
      R.rows[i]? = some cells ∧ e ∈ R.ess.flatten ∧
      e = rowElem { gaph := gaphOf hh, just := just, cells := cs } ∧ cs.length = cells.length ∧
      (∀ j cell, cells[j]? = some cell → ∃ c, cs[j]? = some c ∧
        encodeCell k (pageAttrs d R.A R.p pg).attrs (i - pg.start) j (j + 1 == cells.length) (cell.getD [])
          R.p.cum[j]? = .ok c) ∧
      ilocV (pageAttrs d R.A R.p pg).attrs.cellJust (i - pg.start) 0 = .ok jv ∧ resolveRowJust jv = .ok just ∧
      ilocV (pageAttrs d R.A R.p pg).attrs.cellHeight (i - pg.start) 0 = .ok hv ∧ hv.toRat = .ok hh := by
  obtain ⟨_, hb, hiff⟩ := R.page_geometry hr
  refine ⟨hb, hiff, ?_⟩
  intro i hi
  obtain ⟨cells, e, hc, he, hmem⟩ := R.data_rendered hr hi
  obtain ⟨_, cs, jv, just, hv, hh, hlen, hcell, h1, h2, h3, h4, rfl⟩ := Proofs.Encode.encodeRow_inv he
  exact ⟨cells, _, cs, jv, just, hv, hh, hc, hmem, rfl, hlen, hcell, h1, h2, h3, h4⟩

/-- the cell the encoder emits is a function of the values read at its position `(r, j)` and of nothing else in the
attribute matrices -/
theorem C09enc_cell_reads (k : ColorCtx) (A : TblAttrsOf MatV) (r j : Nat) (isLast : Bool) (text : Str)
    (width : Option Rat) :
    encodeCell k A r j isLast text width = cellOf k (readAt A r j) isLast text width ∧
    ∀ f : Field, f.get (readAt A r j) = ilocV (f.get A) r j :=
  ⟨encodeCell_eq_cellOf k A r j isLast text width, readAt_get A r j⟩

/-! ## the binding -/

/-- **C09 for the encoder, one field, any page geometry.**  `A` is the user's attribute record after
`_to_nested_list`, `p.attrs` its processed form (`prepare`).  For EVERY page context inside the frame, page-relative
row `i`, displayed column `j` with original column `c = keptIdx[j]`, the value `_encode` reads for field `f` on the
page attributes is the value the user's matrix holds at (table row `pg.start + i`, original column `c`) under
rtflite's broadcasting rule (`ilocV` = `BroadcastValue.iloc`: index modulo the matrix's own shape) — page slicing and
column removal never re-bind a value to another cell. -/
theorem C09enc_binding_page {d : Doc} {bodyA A : TblAttrsOf MatV} {p : Prep} {removed : List Nat}
    (hattrs : p.attrs = processedAttrs A d.rows.length d.cols.length removed)
    (f : Field) (hf : f.isEdge = false) (hg : GoodV (f.get A)) (pg : PageCtx)
    (hpage : pg.start + pg.height ≤ d.rows.length) {i j c : Nat} (hi : i < pg.height)
    (hj : (keptIdx d.cols.length removed)[j]? = some c) :
    ilocV (f.get (pageAttrs d bodyA p pg).attrs) i j = ilocV (f.get A) (pg.start + i) c :=
  read_binding hattrs f hf hg pg hpage hi hj

/-- the same through the partial model of `Props/C09.lean`: on a present matrix the value read is `cellAttr`, which
`C09_binding` equates with `specAttr` -/
theorem C09enc_binding_cellAttr {d : Doc} {bodyA A : TblAttrsOf MatV} {p : Prep} {removed : List Nat}
    (hattrs : p.attrs = processedAttrs A d.rows.length d.cols.length removed)
    (f : Field) (hf : f.isEdge = false) (m : Mat Val) (hm : f.get A = some m) (hg : Proofs.Broadcast.Good m)
    (pg : PageCtx) (hpage : pg.start + pg.height ≤ d.rows.length) {i j : Nat} (hi : i < pg.height)
    (hj : j < (keptIdx d.cols.length removed).length) :
    ∃ v, Model.CellAttr.cellAttr m d.rows.length d.cols.length removed pg.start pg.height i j = some v ∧
      Model.CellAttr.specAttr m d.cols.length removed pg.start i j = some v ∧
      ilocV (f.get (pageAttrs d bodyA p pg).attrs) i j = .ok v := by
  have hspec := Props.C09.C09_binding m d.rows.length d.cols.length removed pg.start pg.height i j hg.ne hg.rect
    hg.cols hpage hi hj
  have hjc : (keptIdx d.cols.length removed)[j]? = some (keptIdx d.cols.length removed)[j] :=
    List.getElem?_eq_getElem hj
  have hb := read_binding (bodyA := bodyA) hattrs f hf (by intro m' hm'; rw [hm] at hm'; cases hm'; exact hg) pg hpage
    hi hjc
  have hs : Model.CellAttr.specAttr m d.cols.length removed pg.start i j =
      m.iloc (pg.start + i) (keptIdx d.cols.length removed)[j] := by
    unfold Model.CellAttr.specAttr
    rw [hjc]
  obtain ⟨v, hv⟩ := Option.isSome_iff_exists.mp (hg.iloc_isSome (pg.start + i) (keptIdx d.cols.length removed)[j])
  rw [hm, ilocV_good hg, hv] at hb
  exact ⟨v, by rw [hspec, hs, hv], by rw [hs, hv], hb⟩

/-- **C09 for the encoder, one field, a rendered data row.**  For the data row with frame index `i` on the page the
encoder renders it on, and displayed column `j` (original column `c`): what `encodeCell` reads for field `f` is the
user's value at `(i, c)`; the right-hand matrix is the user's attribute `_to_nested_list`-normalised. -/
theorem C09enc_binding {measure : Measure} {k : ColorCtx} {d : Doc} (R : Run measure k d)
    (f : Field) (hf : f.isEdge = false) (hs : shapeOk (f.get d.body.attrs) = true)
    {pg : PageCtx} {blocks : List Block} (hr : R.Renders pg blocks) {i : Nat} (hb : Block.data i ∈ blocks)
    {j c : Nat} (hj : (keptIdx d.cols.length R.removed)[j]? = some c) :
    (f.get d.body.attrs).toNested = .ok (f.get R.A) ∧
    ilocV (f.get (pageAttrs d R.A R.p pg).attrs) (i - pg.start) j = ilocV (f.get R.A) i c := by
  have hn := get_mapM R.hA f
  obtain ⟨_, hbound, hiff⟩ := R.page_geometry hr
  obtain ⟨h1, h2⟩ := (hiff i).mp hb
  refine ⟨hn, ?_⟩
  have := read_binding (bodyA := R.A) (p := R.p) (A := R.A) (removed := R.removed) (by rw [R.p_eq]) f hf
    (toNested_goodV hn hs) pg hbound (show i - pg.start < pg.height by omega) hj
  rw [this]
  congr 1
  omega

/-- **the whole record.**  Everything `encodeCell` reads for the cell of frame row `i`, displayed column `j` is the
record of the user's ORIGINAL values at `(i, c)`, except the two edge styles `bTop` / `bBottom` (C07); hence the cell
the encoder emits is the cell `_encode` would build from the original matrices at the original position, with the
page's edge styles. -/
theorem C09enc_cell {measure : Measure} {k : ColorCtx} {d : Doc} (R : Run measure k d) (hs : bodyShapesOk d = true)
    {pg : PageCtx} {blocks : List Block} (hr : R.Renders pg blocks) {i : Nat} (hb : Block.data i ∈ blocks)
    {j c : Nat} (hj : (keptIdx d.cols.length R.removed)[j]? = some c) :
    readAt (pageAttrs d R.A R.p pg).attrs (i - pg.start) j =
      withEdges (readAt R.A i c) (ilocV (pageAttrs d R.A R.p pg).attrs.bTop (i - pg.start) j)
        (ilocV (pageAttrs d R.A R.p pg).attrs.bBottom (i - pg.start) j) ∧
    ∀ (isLast : Bool) (text : Str) (width : Option Rat),
      encodeCell k (pageAttrs d R.A R.p pg).attrs (i - pg.start) j isLast text width =
        cellOf k (withEdges (readAt R.A i c) (ilocV (pageAttrs d R.A R.p pg).attrs.bTop (i - pg.start) j)
          (ilocV (pageAttrs d R.A R.p pg).attrs.bBottom (i - pg.start) j)) isLast text width := by
  have e : readAt (pageAttrs d R.A R.p pg).attrs (i - pg.start) j =
      withEdges (readAt R.A i c) (ilocV (pageAttrs d R.A R.p pg).attrs.bTop (i - pg.start) j)
        (ilocV (pageAttrs d R.A R.p pg).attrs.bBottom (i - pg.start) j) := by
    apply ext_get
    intro f
    cases hf : f.isEdge with
    | true => cases f <;> first | rfl | cases hf
    | false =>
      rw [get_withEdges _ _ _ f hf, readAt_get, readAt_get]
      exact (C09enc_binding R f hf (bodyShapesOk_field hs f hf) hr hb hj).2
  exact ⟨e, fun l t w => by rw [encodeCell_eq_cellOf, e]⟩

/-- the two row-level attributes (`cell_justification`, `cell_height`: read at column 0 of the page row) are the
user's values at the row's original index and the first DISPLAYED column's original index -/
theorem C09enc_row_attrs {measure : Measure} {k : ColorCtx} {d : Doc} (R : Run measure k d)
    (hs : bodyShapesOk d = true) {pg : PageCtx} {blocks : List Block} (hr : R.Renders pg blocks) {i : Nat}
    (hb : Block.data i ∈ blocks) {c0 : Nat} (hj : (keptIdx d.cols.length R.removed)[0]? = some c0) :
    ilocV (pageAttrs d R.A R.p pg).attrs.cellJust (i - pg.start) 0 = ilocV R.A.cellJust i c0 ∧
    ilocV (pageAttrs d R.A R.p pg).attrs.cellHeight (i - pg.start) 0 = ilocV R.A.cellHeight i c0 :=
  ⟨(C09enc_binding R .cellJust rfl (bodyShapesOk_field hs .cellJust rfl) hr hb hj).2,
   (C09enc_binding R .cellHeight rfl (bodyShapesOk_field hs .cellHeight rfl) hr hb hj).2⟩

/-- the binding does not depend on where page breaks fall: two page contexts (of any two paginations) that contain
the same table row read the same value for it -/
theorem C09enc_page_independent {d : Doc} {bodyA bodyA' A : TblAttrsOf MatV} {p : Prep} {removed : List Nat}
    (hattrs : p.attrs = processedAttrs A d.rows.length d.cols.length removed)
    (f : Field) (hf : f.isEdge = false) (hg : GoodV (f.get A)) (pg pg' : PageCtx)
    (hpage : pg.start + pg.height ≤ d.rows.length) (hpage' : pg'.start + pg'.height ≤ d.rows.length)
    {i i' j c : Nat} (hi : i < pg.height) (hi' : i' < pg'.height) (hsame : pg.start + i = pg'.start + i')
    (hj : (keptIdx d.cols.length removed)[j]? = some c) :
    ilocV (f.get (pageAttrs d bodyA p pg).attrs) i j = ilocV (f.get (pageAttrs d bodyA' p pg').attrs) i' j := by
  rw [read_binding hattrs f hf hg pg hpage hi hj, read_binding hattrs f hf hg pg' hpage' hi' hj, hsame]

/-! ## the cell the value is bound to is the cell whose text is shown -/

/-- displayed columns: `keptIdx` lists, in order, the original indices of the displayed columns (`C09_kept_idx`); there
are `ncolsDisp` of them; the `j`-th displayed column name and the `j`-th cell of every processed frame row are the
original ones at `c = keptIdx[j]`; without group_by the final frame is the processed frame -/
theorem C09enc_text_cell {measure : Measure} {k : ColorCtx} {d : Doc} (R : Run measure k d) :
    ((keptIdx d.cols.length R.removed).Pairwise (· < ·) ∧
      ∀ c, c ∈ keptIdx d.cols.length R.removed ↔ (c < d.cols.length ∧ c ∉ R.removed)) ∧
    R.p.ncolsDisp = (keptIdx d.cols.length R.removed).length ∧
    (∀ j c : Nat, (keptIdx d.cols.length R.removed)[j]? = some c → R.p.dispCols[j]? = d.cols[c]?) ∧
    (∀ (i : Nat) (row : List (Option Str)), d.rows[i]? = some row → row.length = d.cols.length →
      ∃ prow, R.p.dispRows[i]? = some prow ∧
      ∀ j c : Nat, (keptIdx d.cols.length R.removed)[j]? = some c → prow[j]? = row[c]?) ∧
    (d.body.groupByL = [] → R.rows = R.p.dispRows) := by
  refine ⟨Props.C09.C09_kept_idx _ _, ?_, ?_, ?_, ?_⟩
  · rw [R.p_eq]; exact nDisplayed_keepMask _ _
  · intro j c hj
    rw [R.p_eq]
    exact Proofs.BroadcastAttr.dropCols_getElem? d.cols R.removed j c hj
  · intro i row hrow hlen
    refine ⟨dropCols row R.removed, ?_, ?_⟩
    · rw [R.p_eq]; simp [List.getElem?_map, hrow]
    · intro j c hj
      exact Proofs.BroadcastAttr.dropCols_getElem? row R.removed j c (by rw [hlen]; exact hj)
  · intro hg
    have := R.hrows
    unfold finalRows at this
    simp only [hg, List.isEmpty_nil, if_true] at this
    exact (Except.ok.inj this).symm

/-- a user attribute of an admissible shape is a matrix on which `iloc` never fails -/
theorem C09enc_shape (a : Attr) (M : MatV) (h : a.toNested = .ok M) (hs : shapeOk a = true) : GoodV M :=
  toNested_goodV h hs

/-! ## every form in which a component holds an attribute value

The constructors accept one value in many spellings; after construction a table component (`TableAttributes`) holds
  * a nested list for a Python scalar / list / tuple / nested list, a 2-D array and a data frame (`Attr.nested`), and
  * a FLAT list for a 1-D array-like — numpy 1-D array, polars / pandas Series, numpy 0-d array, numpy integer / bool
    scalar (`_to_nested_list` converts array-likes with `.tolist()` after its list / tuple branch) — `Attr.list`;
a text component additionally holds tuples (`Attr.tuple`) and bare scalars (`Attr.scalar`).  `C09enc_binding` reads
every attribute through `Attr.toNested` (the `BroadcastValue` validator, run on every use); the theorem below says what
that reading is for each held form, at every row and column: a flat list is ONE ROW — a per-column vector, never
indexed by the row —, a tuple one value per row, a scalar every cell, a nested list `Mat.iloc` cell by cell. -/
theorem C09enc_held_forms :
    (∀ (xs : List Val), xs.any Val.isScalar = true →
      (Attr.list xs).toNested = .ok (some [xs]) ∧
      ∀ (r c : Nat) (h : c < xs.length), ilocV (some [xs]) r c = .ok xs[c]) ∧
    (∀ (xs : List Val),
      (Attr.tuple xs).toNested = .ok (some (xs.map fun x => [x])) ∧
      ∀ (r c : Nat) (h : r < xs.length), ilocV (some (xs.map fun x => [x])) r c = .ok xs[r]) ∧
    (∀ (v : Val), v.isScalar = true →
      (Attr.scalar v).toNested = .ok (some [[v]]) ∧ ∀ r c : Nat, ilocV (some [[v]]) r c = .ok v) ∧
    (∀ (m : Mat Val), (Attr.nested m).toNested = .ok (some m)) := by
  refine ⟨?_, ?_, ?_, ?_⟩
  · intro xs hs
    refine ⟨by simp [Attr.toNested, hs], ?_⟩
    intro r c h
    have h0 : xs.length ≠ 0 := by omega
    simp [ilocV, Mat.iloc, Mat.ncols, h0, Nat.mod_one, Nat.mod_eq_of_lt h, List.getElem?_eq_getElem h]
  · intro xs
    refine ⟨rfl, ?_⟩
    intro r c h
    have h0 : xs.length ≠ 0 := by omega
    have hn : Mat.ncols (xs.map fun x => [x]) = 1 := by
      cases xs with
      | nil => simp at h
      | cons x t => simp [Mat.ncols]
    simp [ilocV, Mat.iloc, hn, h0, Nat.mod_one, Nat.mod_eq_of_lt h, List.getElem?_map, List.getElem?_eq_getElem h]
  · intro v hv
    refine ⟨by simp [Attr.toNested, hv], ?_⟩
    intro r c
    simp [ilocV, Mat.iloc, Mat.ncols, Nat.mod_one]
  · intro m
    rfl

/-- non-vacuity of `C09enc_held_forms`: `text_justification = numpy.array(["l", "c", "r"])` is held as the flat list
`["l", "c", "r"]`; row 1, column 2 reads `"r"` (its column's entry), not `"c"` (the entry with the row's index) -/
example : (Attr.list [.str "l", .str "c", .str "r"]).toNested = .ok (some [[.str "l", .str "c", .str "r"]]) ∧
    ilocV (some [[.str "l", .str "c", .str "r"]]) 1 2 = .ok (.str "r") := by decide

/-! ## non-vacuity -/

open Props.C01enc in
/-- three columns `g, a, b`, four rows; `page_by = ["g"]` with `new_page` (column `g` is removed and shown as a spanning
row, one page per group: rows 0–1 on page 1, rows 2–3 on page 2); `col_rel_width = [1, 2, 3]`; a 4 × 3 `text_format`
matrix; column header from the column names with the inherited widths `[1, 2, 3]` (as `_inherit_header_widths` leaves
them), title, footnote as table, source paragraph -/
def exPB : Doc :=
  { exDoc [1, 2, 3] with
    cols := ["g".toList, "a".toList, "b".toList],
    rows := [[some "G1".toList, some "x".toList, some "1".toList], [some "G1".toList, some "y".toList, some "2".toList],
             [some "G2".toList, some "z".toList, some "3".toList], [some "G2".toList, some "w".toList, some "4".toList]],
    headers := [some { text := none, colRelWidth := some [1, 2, 3], attrs := exTbl }],
    body :=
      { attrs := { exTbl with format := .nested [[.str "", .str "b", .str "i"], [.str "", .str "", .str "b"],
                                                [.str "", .str "i", .str ""], [.str "", .str "bi", .str ""]] },
        colRelWidth := some [1, 2, 3], asColheader := true, groupBy := none, pageBy := some ["g".toList],
        sublineBy := none, newPage := true, pagebyHeader := true, pagebyColumn := false } }

theorem exPB_accepted : (match encode Props.C01enc.exMeasure exPB with
     | .ok _ => true
     | .error _ => false) = true := by decide +kernel

theorem exPB_removed {measure : Measure} {k : ColorCtx} (R : Run measure k exPB) : R.removed = [0] := by
  have h : removedIdx exPB = .ok [0] := by decide +kernel
  exact Except.ok.inj (R.hrem.symm.trans h)

/-- the hypotheses are satisfiable: the example has admissible shapes, lies in C01's domain and is accepted … -/
example : bodyShapesOk exPB = true ∧ Model.EncodeDomain.InDomain exPB ∧
    (match encode Props.C01enc.exMeasure exPB with
     | .ok _ => true
     | .error _ => false) = true := ⟨by decide +kernel, by decide +kernel, exPB_accepted⟩

/-- … so it has a run to which the theorems apply -/
example : ∃ _ : Run Props.C01enc.exMeasure (mkColorCtx exPB) exPB, True := by
  cases h : encode Props.C01enc.exMeasure exPB with
  | ok g => obtain ⟨R, _⟩ := C09enc_run _ _ g h; exact ⟨R, trivial⟩
  | error e =>
    have := exPB_accepted
    rw [h] at this
    cases this

/-- direct evaluation, independently of the theorems: on page 2 (`start = 2`, two rows) the second page row, first
displayed column (original column 1 = `a`, since `g` is removed) reads `"bi"` — the user's value at (3, 1) — and the
second displayed column reads `""` — the user's value at (3, 2); the pages are the ones the layout computes -/
example : (match prepare exPB, exPB.body.attrs.mapM Attr.toNested with
    | .ok p, .ok A =>
      decide (keptIdx exPB.cols.length p.removed = [1, 2]) &&
      decide (ilocV (pageAttrs exPB A p ⟨2, 2, 2, 2, 2⟩).attrs.format 1 0 = .ok (.str "bi")) &&
      decide (ilocV A.format 3 1 = .ok (.str "bi")) &&
      decide (ilocV (pageAttrs exPB A p ⟨2, 2, 2, 2, 2⟩).attrs.format 1 1 = ilocV A.format 3 2) &&
      (match mkLDoc Props.C01enc.exMeasure exPB p with
       | .ok (ld, _) => decide (ld.pages.map (fun pg => (pg.number, pg.total, pg.start, pg.height, pg.dataStart)) =
           [(1, 2, 0, 2, 0), (2, 2, 2, 2, 2)])
       | .error _ => false)
    | _, _ => false) = true := by decide +kernel

end Props.C09enc
