import Generated.PyAdditionalRowsFlat
import Model.Layout
import Model.Encode
/-!
# C03 / C04 — translator tie for the rows reserved on every page

`Generated.Py.AdditionalRowsFlat.run` and `Generated.Py.AdditionalRowsNested.run` are regenerated on every run from the
source of `RTFDocumentService.calculate_additional_rows_per_page` (harness/pytranslate.py), once for a document whose
`rtf_column_header` is a flat list `[header | None, …]` and once for a nested list `[[header | None, …], …]` (the
function tells the two apart with `isinstance(document.rtf_column_header[0], list)`).  The typed inputs are the four
document facts the function reads; Python truthiness is spelled out by type (`None` / empty sequence → false, a component
object → true).

This file (flat list) and `Props/C03pyn.lean` (nested list) prove that both compute, for every input, the reservation
`Model.Layout.LDoc.additional` that `LDoc.pageNums = assignPages nrow additional …` (and with it every C03 / C04 theorem, and the whole-encoder model
through `Model.Encode.mkLDoc`) uses — for every role-level document `d` whose four fields say what the Python values
say.  A change of the count (a component counted twice, a forgotten `text is not None`, a reservation for the title, …)
breaks `C03py_additional_flat` / `C03pyn_additional_nested`.
-/
namespace Props.C03py
open Model.Layout (LDoc)

/-- `bool(t)` for `t : Sequence[str] | None` -/
def seqTruthy (t : Option (List (List Nat))) : Bool :=
  match t with
  | some l => !l.isEmpty
  | none => false

/-! ## flat header list -/
open Generated.Py.AdditionalRowsFlat

/-- `bool(c and c.text)` for a footnote / source component -/
def compTruthy (c : Option Comp) : Bool :=
  match c with
  | some c => seqTruthy c.text
  | none => false

/-- what `LDoc.headers` records of one entry of `rtf_column_header`: an object whose `text is not None` -/
def headerFlag (h : Option Comp) : Bool :=
  match h with
  | some c => c.text.isSome
  | none => false

/-! `s.v0` is the function's first (and only) local variable, the running count; the translator names locals by order of
first binding, so renaming it in the Python source changes nothing. -/

theorem loop1_step (sb hs fn src) (s : St) (h : Option Comp) :
    (loop1 sb hs fn src s h).v0 = s.v0 + (if headerFlag h then 1 else 0) := by
  cases h with
  | none => simp [loop1, headerFlag]
  | some c => cases ht : c.text <;> simp [loop1, headerFlag, ht]

theorem loop1_all (sb hs fn src) (l : List (Option Comp)) (s : St) :
    (l.foldl (loop1 sb hs fn src) s).v0 =
      s.v0 + Int.ofNat ((l.map headerFlag).filter id).length := by
  induction l generalizing s with
  | nil => simp
  | cons h t ih =>
    rw [List.foldl_cons, ih, loop1_step]
    cases hf : headerFlag h <;> simp [hf] <;> omega

/-- **the translated `calculate_additional_rows_per_page` is the model's reservation** (flat header list), for every
role-level document whose `hasSubline`, `headers`, `footnote`, `source` record the truthiness of the Python values -/
theorem C03py_additional_flat (d : LDoc) (sb : Option (List (List Nat))) (hs : List (Option Comp))
    (fn src : Option Comp)
    (h1 : d.hasSubline = seqTruthy sb) (h2 : d.headers = hs.map headerFlag)
    (h3 : (d.footnote != .absent) = compTruthy fn) (h4 : (d.source != .absent) = compTruthy src) :
    run sb hs fn src = Int.ofNat d.additional := by
  unfold LDoc.additional
  rw [h1, h2, h3, h4]
  -- every truthiness case of the three optional values and of the header list; `loop1_all` counts the headers,
  -- the rest is the sum of the `if`s
  rcases sb with _ | _ | ⟨_, _⟩ <;>
    rcases fn with _ | ⟨_ | _ | ⟨_, _⟩⟩ <;>
    rcases src with _ | ⟨_ | _ | ⟨_, _⟩⟩ <;>
    rcases hs with _ | ⟨a, t⟩ <;>
    simp [-List.foldl_cons, run, seqTruthy, compTruthy, loop1_all] <;>
    omega

/-- every role-level document is reached: the hypotheses of the tie are satisfiable for each `d` -/
theorem C03py_onto (d : LDoc) : ∃ (sb : Option (List (List Nat))) (hs : List (Option Comp)) (fn src : Option Comp),
    d.hasSubline = seqTruthy sb ∧ d.headers = hs.map headerFlag ∧
    (d.footnote != .absent) = compTruthy fn ∧ (d.source != .absent) = compTruthy src := by
  refine ⟨if d.hasSubline then some [[]] else none,
          d.headers.map (fun b => if b then some ⟨some []⟩ else none),
          if d.footnote != .absent then some ⟨some [[]]⟩ else none,
          if d.source != .absent then some ⟨some [[]]⟩ else none, ?_, ?_, ?_, ?_⟩
  · cases d.hasSubline <;> simp [seqTruthy]
  · rw [List.map_map]
    conv => lhs; rw [← List.map_id d.headers]
    apply List.map_congr_left
    intro b _; cases b <;> simp [headerFlag]
  · cases (d.footnote != .absent) <;> simp [compTruthy, seqTruthy]
  · cases (d.source != .absent) <;> simp [compTruthy, seqTruthy]

/-! ### the whole-encoder model: what `Model.Encode.mkLDoc` hands to the pagination is what the code computes -/

/-- a model string as the translator's `str`: the list of its code points -/
def codes (s : List Char) : List Nat := s.map Char.toNat

/-- `document.rtf_body.subline_by` of an encoder-model document -/
def pySubline (d : Model.Encode.Doc) : Option (List (List Nat)) := d.body.sublineBy.map (·.map codes)

/-- `document.rtf_column_header` (flat) -/
def pyHeaders (d : Model.Encode.Doc) : List (Option Comp) :=
  d.headers.map (Option.map fun h => ⟨h.text.map (·.map codes)⟩)

/-- a footnote / source: its text is one `str` after construction, i.e. the sequence of its characters -/
def pyFoot (f : Option Model.Encode.Foot) : Option Comp :=
  f.map fun f => ⟨f.text.map (·.map fun c => [c.toNat])⟩

/-- a footnote / source is counted by the code exactly when the model shows it -/
theorem footComp_truthy (f : Option Model.Encode.Foot) :
    (Model.Encode.footComp f != .absent) = compTruthy (pyFoot f) := by
  simp only [pyFoot, Model.Encode.footComp]
  cases f with
  | none => simp [compTruthy]
  | some f =>
    cases ht : f.text with
    | none => simp [compTruthy, seqTruthy, Model.Encode.placementOf, ht]
    | some t => cases t <;> cases ha : f.asTable <;> simp [compTruthy, seqTruthy, Model.Encode.placementOf, ht, ha]

theorem C03py_additional_encoder (measure : Model.Encode.Measure) (d : Model.Encode.Doc) (p : Model.Encode.Prep)
    (ld : LDoc) (near : Nat) (h : Model.Encode.mkLDoc measure d p = .ok (ld, near)) :
    run (pySubline d) (pyHeaders d) (pyFoot d.footnote) (pyFoot d.source) = Int.ofNat ld.additional := by
  unfold Model.Encode.mkLDoc at h
  simp only [bind, Except.bind, pure, Except.pure] at h
  split at h
  · exact absurd h (by simp)
  · rename_i rows _
    simp only [Except.ok.injEq, Prod.mk.injEq] at h
    obtain ⟨rfl, _⟩ := h
    apply C03py_additional_flat
    · simp only [pySubline, Model.Encode.Body.sublineByL]
      cases d.body.sublineBy with
      | none => simp [seqTruthy]
      | some l => cases l <;> simp [seqTruthy]
    · simp only [pyHeaders, List.map_map]
      apply List.map_congr_left
      intro a _
      cases a with
      | none => simp [headerFlag]
      | some hd => cases ht : hd.text <;> simp [headerFlag, ht]
    · exact footComp_truthy d.footnote
    · exact footComp_truthy d.source

example : run (some [[97]]) [some ⟨some []⟩, none, some ⟨none⟩, some ⟨some [[98]]⟩] (some ⟨some [[99]]⟩) (some ⟨some []⟩) = 4 := by
  decide

end Props.C03py
