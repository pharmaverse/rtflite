import Model.EncodeMulti
import Proofs.EncodeLift
import Proofs.EncodeAttrs
import Proofs.EncodeMultiLift
import Props.C02enc
import Props.C07enc
import Props.C08enc
import Props.C01encmore
/-!
# C02 for the multi-section encoder: every section's rows are rendered once, in order

`Model.EncodeMulti.encodeWithM` (byte-exact against `rtf_encode()` of a document with a list of frames) encodes every
section with `Model.Encode.encodePages` on its `sectionDoc`, with the colour context of the WHOLE document.  Here:

* `C02encm_structure`     for every accepted document there is, per section in order, a plan and a rendering trace of the
                          section document (`Proofs.EncodeLift`); the output blocks are the elements of all traces, in
                          order, joined by newlines;
* `C02encm_sectionDoc`    what the section document of section `i` carries: the section's frame and body, the document's
                          page settings with `border_first = ""` after the first section and `border_last = ""` before
                          the last;
* `C02encm_rows_once_in_order`   the `.data` blocks rendered for section `i`, over its pages in order, are
                          `0 … nrows_i − 1`: every frame row of every section exactly once, sections in order, rows in
                          order within the section;
* `C02encm_data_row`      every `.data i` block of a section is ONE table row, `encodeRow` of row `i` of the section's
                          final frame (`Props.C02enc.C02enc_data_row` per section);
* `C02encm`               all of it from `encodeWithM measure d = .ok x`;
* `C02encm_runs`          the same structure with a `Run` per section, so that every `C07enc` / `C08enc` / `C09enc` theorem
                          applies to every section;
* first / last page-border rule: `C02encm_first_row_border` (the first table row of the document carries
  `rtf_page.border_first`), `C02encm_later_first_row` (the first row of a later section does not: it keeps the user's
  `border_top`), `C02encm_last_row_border` (the last table row of the document carries `rtf_page.border_last`),
  `C02encm_earlier_last_page` (the last page of an earlier section is not closed by it: no closing style, every bottom
  border stays the user's, no override for footnote / source), `C02encm_page_border_inputs` (the border input of
  every page of such a section has the empty page border);
* `C02encm_right_edge`    every section's data rows end at `twip d.page.colWidth`.
-/
namespace Props.C02encm
open Model.Rtf Model.Emit Model.Encode Model.EncodeMulti Model.Broadcast Model.Layout Model.Borders
open Proofs.EncodeLift Proofs.EncodeMultiLift Generated
open Proofs.EncodeAttrs (Run borderIn edgeStr frameRect)
open Props.C02 (dataIdx)

/-! ## structure -/

/-- **every section is encoded on its own, in order**: for every accepted multi-section document there is a list `T`
with one entry per section document — the section document, its plan and its rendering trace (for the document-wide
colour context) — and the output blocks are the elements of all traces, in order, joined by newlines -/
theorem C02encm_structure (measure : Measure) (d : MDoc) (x : DocG × Nat) (h : encodeWithM measure d = .ok x) :
    ∃ T : List (Doc × (Plan × Trace)), T.map Prod.fst = sectionDocs d ∧
      (∀ t ∈ T, plan measure t.1 = .ok t.2.1 ∧ Renders (ctxM d) t.1 t.2.1 t.2.2) ∧
      x.1.blocks = joinElems (T.flatMap fun t => t.2.2.elems) ++
        [BlockG.plain [Node.nl, Node.nl, Node.nl, Node.nl]] :=
  encodeWithM_traces h

/-- one section document per section, in order -/
theorem C02encm_sectionDocs (d : MDoc) (i : Nat) :
    (sectionDocs d)[i]? = d.sections[i]?.map fun s => sectionDoc d d.sections.length i s :=
  sectionDocs_getElem? d i

/-- the section document of section `i` of `n`: the section's frame and body; the document's page with
`border_first = ""` for every section after the first and `border_last = ""` for every section before the last -/
theorem C02encm_sectionDoc (d : MDoc) (n i : Nat) (s : Section) :
    (sectionDoc d n i s).cols = s.cols ∧ (sectionDoc d n i s).rows = s.rows ∧ (sectionDoc d n i s).body = s.body ∧
    (sectionDoc d n i s).page.borderFirst = (if 0 < i then "" else d.page.borderFirst) ∧
    (sectionDoc d n i s).page.borderLast = (if i + 1 < n then "" else d.page.borderLast) ∧
    (sectionDoc d n i s).page.colWidth = d.page.colWidth ∧ (sectionDoc d n i s).page.nrow = d.page.nrow := by
  refine ⟨rfl, rfl, rfl, ?_, ?_, rfl, rfl⟩
  · simp only [sectionDoc]
    by_cases h : 0 < i <;> simp [h]
  · simp only [sectionDoc]
    by_cases h : i + 1 < n <;> simp [h]

/-! ## every row of every section once, in order -/

/-- **the data blocks of section `i`**, over its pages in rendering order, are `0 … nrows_i − 1`: every frame row of
every section is rendered exactly once, sections in order, rows in order within a section -/
theorem C02encm_rows_once_in_order (measure : Measure) (d : MDoc) (T : List (Doc × (Plan × Trace)))
    (hT : T.map Prod.fst = sectionDocs d)
    (hR : ∀ t ∈ T, plan measure t.1 = .ok t.2.1 ∧ Renders (ctxM d) t.1 t.2.1 t.2.2) :
    T.map (fun t => t.2.2.flatMap fun x => dataIdx (x.2.map Prod.fst)) =
      d.sections.map fun s => List.range s.rows.length := by
  have h1 : ∀ t ∈ T, (t.2.2.flatMap fun x => dataIdx (x.2.map Prod.fst)) =
      ((fun sd : Doc => List.range sd.rows.length) ∘ Prod.fst) t := fun t ht =>
    Props.C02enc.C02enc_trace_rows_once measure (ctxM d) t.1 t.2.1 t.2.2 (hR t ht).1 (hR t ht).2
  rw [List.map_congr_left h1, ← List.map_map, hT]
  apply List.ext_getElem?
  intro i
  rw [List.getElem?_map, sectionDocs_getElem?, List.getElem?_map]
  cases d.sections[i]? <;> rfl

/-- every `.data i` block of every section's trace was rendered as exactly one table row: `encodeRow` with the page's
attributes of the SECTION document, the section's cumulative widths, the row's position on the page, and row `i` of the
section's final frame; one cell per value (`Props.C02enc.C02enc_data_row` for the section) -/
theorem C02encm_data_row (measure : Measure) (d : MDoc) (T : List (Doc × (Plan × Trace)))
    (hR : ∀ t ∈ T, plan measure t.1 = .ok t.2.1 ∧ Renders (ctxM d) t.1 t.2.1 t.2.2)
    (t : Doc × (Plan × Trace)) (ht : t ∈ T) (x : PageCtx × List (Block × List Elem)) (hx : x ∈ t.2.2)
    (y : Block × List Elem) (hy : y ∈ x.2) (i : Nat) (hb : y.1 = Block.data i) :
    ∃ cells fmt, t.2.1.rows[i]? = some cells ∧
      encodeRow (ctxM d) (pageAttrs t.1 t.2.1.bodyA t.2.1.p x.1).attrs t.2.1.p.cum (i - x.1.dataStart) cells
        = .ok (rowElem fmt) ∧
      y.2 = [rowElem fmt] ∧ cells ≠ [] ∧ fmt.cells.length = cells.length := by
  obtain ⟨cells, fmt, h1, h2, h3, h4, h5, _⟩ :=
    Props.C02enc.C02enc_data_row (ctxM d) t.1 t.2.1 t.2.2 (hR t ht).2 x hx y hy i hb
  exact ⟨cells, fmt, h1, h2, h3, h4, h5⟩

/-- **C02 for the multi-section encoder.**  For every accepted document: one plan and one trace per section, in order;
the output is the traces' elements joined by newlines; the data blocks of section `i` are `0 … nrows_i − 1` in order;
every data block is one table row of the section's final frame, and without group_by the final frame of a section is
its frame with the removed columns' positions dropped -/
theorem C02encm (measure : Measure) (d : MDoc) (x : DocG × Nat) (h : encodeWithM measure d = .ok x) :
    ∃ T : List (Doc × (Plan × Trace)), T.map Prod.fst = sectionDocs d ∧
      (∀ t ∈ T, plan measure t.1 = .ok t.2.1 ∧ Renders (ctxM d) t.1 t.2.1 t.2.2) ∧
      x.1.blocks = joinElems (T.flatMap fun t => t.2.2.elems) ++
        [BlockG.plain [Node.nl, Node.nl, Node.nl, Node.nl]] ∧
      (T.map (fun t => t.2.2.flatMap fun x => dataIdx (x.2.map Prod.fst)) =
        d.sections.map fun s => List.range s.rows.length) ∧
      (∀ t ∈ T, ∀ x ∈ t.2.2, ∀ y ∈ x.2, ∀ i, y.1 = Block.data i →
        ∃ cells fmt, t.2.1.rows[i]? = some cells ∧
          encodeRow (ctxM d) (pageAttrs t.1 t.2.1.bodyA t.2.1.p x.1).attrs t.2.1.p.cum (i - x.1.dataStart) cells
            = .ok (rowElem fmt) ∧
          y.2 = [rowElem fmt] ∧ cells ≠ [] ∧ fmt.cells.length = cells.length) ∧
      (∀ t ∈ T, t.1.body.groupByL = [] → ∃ removed, removedIdx t.1 = .ok removed ∧
        t.2.1.rows = t.1.rows.map (fun r => dropCols r removed)) := by
  obtain ⟨T, h1, h2, h3⟩ := C02encm_structure measure d x h
  refine ⟨T, h1, h2, h3, C02encm_rows_once_in_order measure d T h1 h2, ?_, ?_⟩
  · intro t ht x hx y hy i hb
    exact C02encm_data_row measure d T h2 t ht x hx y hy i hb
  · intro t ht hgb
    obtain ⟨removed, a1, _, _, a4, _⟩ := Props.C02enc.C02enc_rows_no_groupby measure t.1 t.2.1 (h2 t ht).1 hgb
    exact ⟨removed, a1, a4⟩

/-! ## a `Run` per section -/

/-- the same structure with all intermediate values of `encodePages` per section (`Proofs.EncodeAttrs.Run`): every
theorem of `Props/C07enc.lean`, `Props/C08enc.lean`, `Props/C09enc.lean` applies to every section document -/
theorem C02encm_runs (measure : Measure) (d : MDoc) (x : DocG × Nat) (h : encodeWithM measure d = .ok x) :
    ∃ Rs : List (Sigma fun sd : Doc => Run measure (ctxM d) sd), Rs.map (·.1) = sectionDocs d ∧
      x.1.blocks = joinElems (Rs.flatMap fun r => r.2.ess.flatten) ++
        [BlockG.plain [Node.nl, Node.nl, Node.nl, Node.nl]] :=
  encodeWithM_runs h

/-! ## the first / last page-border rule -/

/-- the border input `_apply_pagination_borders` gets for a page of section `i` of `n`: the page border_first is the
document's for section 0 and empty for every later section; the page border_last is the document's for the last section
and empty for every earlier one -/
theorem C02encm_page_border_inputs (d : MDoc) (n i : Nat) (s : Section) (A : TblAttrsOf MatV) (p : Prep)
    (pg : PageCtx) :
    (borderIn (sectionDoc d n i s) A p pg).pageFirst = (if 0 < i then "" else d.page.borderFirst) ∧
    (borderIn (sectionDoc d n i s) A p pg).pageLast = (if i + 1 < n then "" else d.page.borderLast) := by
  obtain ⟨_, _, _, h4, h5, _⟩ := C02encm_sectionDoc d n i s
  exact ⟨h4, h5⟩

/-- **the first table row of the document carries `rtf_page.border_first`**: on page 1 of section 0, when no header row
is rendered, every cell of the first data row is emitted with the control word of `d.page.borderFirst` as its top
border (`Props.C07enc.C07enc_first_row_emitted` for the first section document) -/
theorem C02encm_first_row_border (measure : Measure) (d : MDoc) (n : Nat) (s : Section)
    (R : Run measure (ctxM d) (sectionDoc d n 0 s))
    (hrect : frameRect (sectionDoc d n 0 s) = true) (hcols : 0 < R.p.ncolsDisp)
    (ht : Props.C07enc.edgeShapeOk s.body.attrs.bTop = true) (hb : Props.C07enc.edgeShapeOk s.body.attrs.bBottom = true)
    {pg : PageCtx} {blocks : List Block} (hr : R.Renders pg blocks) (hh : 0 < pg.height) (h1 : pg.number = 1)
    (h2 : hasHeaderRow (sectionDoc d n 0 s) = false) (h3 : d.page.borderFirst ≠ "") :
    ∃ code cells e cs gaph just, borderCodes.lookup d.page.borderFirst = some code ∧
      R.rows[pg.start]? = some cells ∧ e ∈ R.ess.flatten ∧
      e = rowElem { gaph := gaph, just := just, cells := cs } ∧ cs.length = cells.length ∧
      ∀ c ∈ cs, ∃ b, c.top = some b ∧ b.style = codeWord code :=
  Props.C07enc.C07enc_first_row_emitted R hrect hcols ht hb hr hh h1 h2 h3

/-- **… and the first row of a later section does not**: on page 1 of a section after the first, when no header row is
rendered, every cell of the first data row reads the user's own `border_top` at its original (row, column) — the page
border is not applied -/
theorem C02encm_later_first_row (measure : Measure) (d : MDoc) (n i : Nat) (hi : 0 < i) (s : Section)
    (R : Run measure (ctxM d) (sectionDoc d n i s)) (hcols : 0 < R.p.ncolsDisp)
    (ht : Props.C07enc.edgeShapeOk s.body.attrs.bTop = true) (hb : Props.C07enc.edgeShapeOk s.body.attrs.bBottom = true)
    {pg : PageCtx} {blocks : List Block} (hr : R.Renders pg blocks) {r : Nat} (hdata : Block.data r ∈ blocks)
    (h1 : pg.number = 1) (h2 : hasHeaderRow (sectionDoc d n i s) = false) :
    ∀ j c, (keptIdx s.cols.length R.removed)[j]? = some c →
      ∃ st, edgeStr R.A.bTop pg.start c = some st ∧
        ilocV (pageAttrs (sectionDoc d n i s) R.A R.p pg).attrs.bTop 0 j = .ok (.str st) := by
  have hok := Props.C07enc.C07enc_pageOK_of_run R hcols ht hb hr hdata
  have h3 : (sectionDoc d n i s).page.borderFirst = "" := by
    rw [(C02encm_sectionDoc d n i s).2.2.2.1, if_pos hi]
  exact Props.C07enc.C07enc_top_untouched hok R.A h1 h2 h3

/-- **the last table row of the document carries `rtf_page.border_last`**: on the last page of the last section, when no
table-rendered footnote / source is shown there, every cell of the last data row is emitted with the control word of
`d.page.borderLast` as its bottom border -/
theorem C02encm_last_row_border (measure : Measure) (d : MDoc) (n i : Nat) (hi : ¬ i + 1 < n) (s : Section)
    (R : Run measure (ctxM d) (sectionDoc d n i s))
    (hrect : frameRect (sectionDoc d n i s) = true) (hcols : 0 < R.p.ncolsDisp)
    (ht : Props.C07enc.edgeShapeOk s.body.attrs.bTop = true) (hb : Props.C07enc.edgeShapeOk s.body.attrs.bBottom = true)
    {pg : PageCtx} {blocks : List Block} (hr : R.Renders pg blocks) (hh : 0 < pg.height)
    (hlast : pg.number = pg.total) (h3 : d.page.borderLast ≠ "")
    (hf : footTableHere (sectionDoc d n i s).footnote d.page.pageFootnote (pg.number == 1) (pg.number == pg.total)
      = false)
    (hsrc : footTableHere (sectionDoc d n i s).source d.page.pageSource (pg.number == 1) (pg.number == pg.total)
      = false) :
    ∃ code cells e cs gaph just, borderCodes.lookup d.page.borderLast = some code ∧
      R.rows[pg.start + pg.height - 1]? = some cells ∧ e ∈ R.ess.flatten ∧
      e = rowElem { gaph := gaph, just := just, cells := cs } ∧ cs.length = cells.length ∧
      ∀ c ∈ cs, ∃ b, c.bottom = some b ∧ b.style = codeWord code := by
  have hbl : (sectionDoc d n i s).page.borderLast = d.page.borderLast := by
    rw [(C02encm_sectionDoc d n i s).2.2.2.2.1, if_neg hi]
  have hs := (Props.C07enc.C07enc_closing_style (sectionDoc d n i s) R.A R.p pg).2.1 hlast (by rw [hbl]; exact h3)
  rw [hbl] at hs
  exact Props.C07enc.C07enc_last_row_emitted R hrect hcols ht hb hr hh d.page.borderLast hs hf hsrc

/-- **… and the last page of an earlier section is not closed by it**: on the last page of a section before the last
there is no closing style; every data cell of the page reads the user's own `border_bottom` at its original
(row, column), and footnote / source get no override -/
theorem C02encm_earlier_last_page (measure : Measure) (d : MDoc) (n i : Nat) (hi : i + 1 < n) (s : Section)
    (R : Run measure (ctxM d) (sectionDoc d n i s)) (hcols : 0 < R.p.ncolsDisp)
    (ht : Props.C07enc.edgeShapeOk s.body.attrs.bTop = true) (hb : Props.C07enc.edgeShapeOk s.body.attrs.bBottom = true)
    {pg : PageCtx} {blocks : List Block} (hr : R.Renders pg blocks) {r : Nat} (hdata : Block.data r ∈ blocks)
    (hlast : pg.number = pg.total) :
    closingStyle (borderIn (sectionDoc d n i s) R.A R.p pg) = none ∧
    (pageAttrs (sectionDoc d n i s) R.A R.p pg).fnOverride = none ∧
    (pageAttrs (sectionDoc d n i s) R.A R.p pg).srcOverride = none ∧
    ∀ i' j c, i' < pg.height → (keptIdx s.cols.length R.removed)[j]? = some c →
      ∃ st, edgeStr R.A.bBottom (pg.start + i') c = some st ∧
        ilocV (pageAttrs (sectionDoc d n i s) R.A R.p pg).attrs.bBottom i' j = .ok (.str st) := by
  have hok := Props.C07enc.C07enc_pageOK_of_run R hcols ht hb hr hdata
  have hbl : (sectionDoc d n i s).page.borderLast = "" := by
    rw [(C02encm_sectionDoc d n i s).2.2.2.2.1, if_pos hi]
  have hs := (Props.C07enc.C07enc_closing_style (sectionDoc d n i s) R.A R.p pg).2.2.1 hlast hbl
  have hwf := Props.C07enc.C07enc_wf hok R.A
  obtain ⟨c1, c2, c3⟩ := bottom_untouched _ hwf.hne hwf.botGood hs
  obtain ⟨_, _, e3, e4⟩ := Proofs.EncodeAttrs.pageAttrs_edges (sectionDoc d n i s) R.A R.p pg
    (by have := hok.hpos; omega)
  refine ⟨hs, by rw [e3, c2], by rw [e4, c3], ?_⟩
  intro i' j c hi' hj
  have hjw : j < R.p.ncolsDisp := by rw [hok.ncols]; exact (List.getElem?_eq_some_iff.mp hj).1
  have h3 := c1 i' j hi'
  have hu := Props.C07enc.userEdge hok .bBottom hok.bottom hi' hj
  have hsome := hwf.botGood.iloc_isSome (pg.start + i') j
  cases hv : (borderIn (sectionDoc d n i s) R.A R.p pg).bottom.iloc (pg.start + i') j with
  | none => rw [hv] at hsome; cases hsome
  | some s' =>
    refine ⟨s', ?_, Props.C07enc.bottomRead hok R.A (by rw [h3]; exact hv)⟩
    exact hu.symm.trans hv

/-! ## one right edge, in every section -/

/-- the last `\cellx` of every data row of every section is `twip d.page.colWidth`: all sections share the table's right
edge -/
theorem C02encm_right_edge (measure : Measure) (d : MDoc) (n i : Nat) (s : Section)
    (R : Run measure (ctxM d) (sectionDoc d n i s)) (hw : Props.C08enc.WidthsOk (sectionDoc d n i s) R.p.keep) :
    (R.p.cum.map Model.Encode.twip).getLast? = some (Model.Encode.twip d.page.colWidth) :=
  Props.C08enc.C08enc_right_edge R hw

/-- … and every data row of the section is emitted with that `\cellx` vector -/
theorem C02encm_data_rows_cellx (measure : Measure) (d : MDoc) (n i : Nat) (s : Section)
    (R : Run measure (ctxM d) (sectionDoc d n i s)) (hrect : frameRect (sectionDoc d n i s) = true)
    (hw : Props.C08enc.WidthsOk (sectionDoc d n i s) R.p.keep)
    {pg : PageCtx} {blocks : List Block} (hr : R.Renders pg blocks) {r : Nat} (hb : Block.data r ∈ blocks) :
    ∃ cells e, R.rows[r]? = some cells ∧ e ∈ R.ess.flatten ∧
      Proofs.EncodeAttrs.elemCellx e = [R.p.cum.map Model.Encode.twip] ∧
      (R.p.cum.map Model.Encode.twip).getLast? = some (Model.Encode.twip d.page.colWidth) := by
  obtain ⟨cells, e, h1, h2, _, h4, _⟩ := Props.C08enc.C08enc_data_rows R hrect hw hr hb
  exact ⟨cells, e, h1, h2, h4, C02encm_right_edge measure d n i s R hw⟩

/-! ## non-vacuity -/

open Props.C01enc Props.C01encmore in
/-- three sections (2, 3 and 1 rows) under a flat header list, `nrow = 2`: section 1 needs two pages -/
def exMulti3 : MDoc :=
  { exMulti with
    sections := [{ cols := ["a".toList, "b".toList],
                   rows := [[some "x".toList, some "1".toList], [some "y".toList, some "2".toList]],
                   body := exBody, headers := [] },
                 { cols := ["a".toList, "b".toList],
                   rows := [[some "n>=3".toList, some "é".toList], [some "p".toList, none],
                            [some "q".toList, some "5".toList]],
                   body := exBody, headers := [] },
                 { cols := ["a".toList, "b".toList], rows := [[some "z".toList, some "9".toList]],
                   body := exBody, headers := [] }],
    page := { exPage with nrow := 2 } }

set_option maxRecDepth 100000

open Props.C01enc in
/-- the encoder accepts the example; the data blocks of the three sections are `0,1 | 0,1 / 2 | 0`, section 1 on two pages;
only the first section document keeps `border_first`, only the last keeps `border_last` -/
example :
    (match encodeWithM exMeasure exMulti3 with | .ok _ => true | .error _ => false) = true ∧
    ((sectionDocs exMulti3).map fun sd =>
      match encoderBlocks exMeasure sd with
      | .ok pbs => pbs.map (fun x => dataIdx x.2)
      | .error _ => []) = [[[0, 1]], [[0, 1], [2]], [[0]]] ∧
    (sectionDocs exMulti3).map (fun sd => (sd.page.borderFirst, sd.page.borderLast)) =
      [("double", ""), ("", ""), ("", "double")] := by
  refine ⟨by decide +kernel, by decide +kernel, by decide +kernel⟩

open Props.C01enc in
/-- the hypotheses of the main theorem are satisfiable: the theorem applied to the example -/
example : ∀ x, encodeWithM exMeasure exMulti3 = .ok x →
    ∃ T : List (Doc × (Plan × Trace)), T.map Prod.fst = sectionDocs exMulti3 ∧
      T.map (fun t => t.2.2.flatMap fun x => dataIdx (x.2.map Prod.fst)) = [[0, 1], [0, 1, 2], [0]] := by
  intro x h
  obtain ⟨T, h1, _, _, h4, _⟩ := C02encm exMeasure exMulti3 x h
  exact ⟨T, h1, h4⟩

end Props.C02encm
