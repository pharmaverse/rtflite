import Model.Rtf
import Model.RtfDoc
import Model.TextNodes
import Model.Encode
import Model.EncodeDomain
import Proofs.LexNodes
import Proofs.LexPrint
import Proofs.ConvNodes
import Proofs.Encode
import Proofs.EncodeTables
import Proofs.EncodeDoc
import Proofs.FontTable
import Props.C01
/-!
# C01 at full strength for the whole-encoder model

`Model.Encode.encode measure d` is the executable model of `RTFDocument.rtf_encode()` for single-section table
documents (`printDoc` of its result is, byte for byte, the string the real encoder returns — checked on generated
documents on every run).  The theorem of this file:

  EVERY document of the domain that the model encoder accepts prints to well-formed RTF,

for every number of pages, rows, columns, every attribute value the constructors accept and every admissible text.
`InDomain d` (`Model/EncodeDomain.lean`) is the decidable domain: admissible texts (no raw `\ { }` CR apart from what
the conversion / rtflite's own fragments account for), positive relative widths, and a first column at least half a
twip wide in every row shape.  The last clause is a FINDING (`C01enc_finding_cellx0`): without it the encoder writes
`\cellx0`.

The proof goes through the grammar (`Props/C01.lean`): `docOk (encode …)` is derived from the structure of `encode`
(`Proofs/Encode*.lean`), text holes through `lexNodes ∘ printNodes = norm` (`Proofs/LexNodes.lean`) and C11.
-/
namespace Props.C01enc
open Model.Rtf Model.Emit Model.Encode Model.EncodeDomain Model.TextNodes

/-! ## the text-hole reader `lexNodes` -/

/-- the reader inverts the printer for EVERY string (the claim of `Model/TextNodes.lean`) -/
theorem C01enc_lex_print (s : List Char) : printNodes (lexNodes s) = s :=
  Proofs.LexPrint.print_lexNodes s

/-- on the printed form of an adjacency-closed node list the reader returns the list itself up to merging adjacent
text runs (`norm`), which keeps the printed string, the tokens, plainness and adjacency -/
theorem C01enc_lex_of_print (ns : List Node) (h : nodesOk ns none = true) :
    lexNodes (printNodes ns) = Proofs.LexNodes.norm ns ∧
    printNodes (Proofs.LexNodes.norm ns) = printNodes ns ∧ toksNodes (Proofs.LexNodes.norm ns) = toksNodes ns ∧
    plainNodes (Proofs.LexNodes.norm ns) = plainNodes ns :=
  ⟨Proofs.LexNodes.lexNodes_printNodes ns h, Proofs.LexNodes.printNodes_norm ns, Proofs.LexNodes.toksNodes_norm ns,
   Proofs.LexNodes.plainNodes_norm ns⟩

/-- every admissible text, converted (or not) and escaped, is a valid text hole of the emitters: plain, adjacency
closed before the closing brace, and neutral for the `\u` discipline — conversion ON and OFF -/
theorem C01enc_text_hole (conv : Bool) (t : List Char) (h : txtOk conv t = true) :
    plainNodes (textNodes (convText conv t)) = true ∧ nodesOk (textNodes (convText conv t)) (some '}') = true ∧
    ∀ (st : List Nat) (ts : List Tok),
      uOk 1 st 0 (toksNodes (textNodes (convText conv t)) ++ ts) = uOk 1 st 0 ts :=
  Proofs.ConvNodes.hole_txtOk conv t h

/-- C01's quantifier is inside the domain: a text without raw `\`, `{`, `}`, CR is admissible whatever the flag is -/
theorem C01enc_plain_text_admissible (conv : Bool) (t : List Char) (h : t.all plainC = true) : txtOk conv t = true :=
  Proofs.ConvNodes.txtOk_of_plain conv t h

/-! ## the whole encoder -/

/-- the grammar's side condition holds for every accepted document of the domain -/
theorem C01enc_docOk (measure : Measure) (d : Doc) (g : DocG) (h : encode measure d = .ok g) (hdom : InDomain d) :
    docOk g = true :=
  Proofs.EncodeDoc.encode_docOk h hdom

theorem C01enc_docOkFast (measure : Measure) (d : Doc) (g : DocG) (h : encode measure d = .ok g) (hdom : InDomain d) :
    docOkFast g = true := by
  rw [Proofs.Rtf.docOkFast_eq]; exact C01enc_docOk measure d g h hdom

/-- **C01 for the model encoder**: every document the encoder accepts prints to well-formed RTF -/
theorem C01_encode_wellformed (measure : Measure) (d : Doc) (g : DocG)
    (h : encode measure d = .ok g) (hdom : InDomain d) : wellFormed (printDoc g) = true :=
  Props.C01.C01_grammar_wellformed g (C01enc_docOk measure d g h hdom)

/-- the same on the string `rtf_encode()` returns -/
theorem C01_encodeText_wellformed (measure : Measure) (d : Doc) (s : List Char)
    (h : encodeText measure d = .ok s) (hdom : InDomain d) : wellFormed s = true := by
  unfold encodeText at h
  obtain ⟨g, hg, rfl⟩ := Proofs.Encode.map_ok h
  exact C01_encode_wellformed measure d g hg hdom

/-! ## non-vacuity and the finding -/

def sc (v : Val) : Attr := .nested [[v]]

def exText : TextAttrsOf Attr :=
  { font := sc (.int 1), format := sc (.str ""), size := sc (.float 9), color := .null, bg := .null,
    just := sc (.str "c"), indFirst := sc (.int 0), indLeft := sc (.int 0), indRight := sc (.int 0),
    space := sc (.float 1), spBefore := sc (.float 15), spAfter := sc (.float 15), hyph := sc (.bool true),
    convert := sc (.bool true) }

def exTbl : TblAttrsOf Attr :=
  { toTextAttrsOf := exText, bLeft := sc (.str "single"), bRight := sc (.str "single"), bTop := sc (.str ""),
    bBottom := sc (.str ""), bFirst := sc (.str "single"), bLast := sc (.str "single"), bcLeft := .null,
    bcRight := .null, bcTop := .null, bcBottom := .null, bcFirst := .null, bcLast := .null, bWidth := sc (.int 15),
    cellHeight := sc (.float (3 / 20)), cellJust := sc (.str "c"), cellVJust := sc (.str "top"),
    cellNrow := sc (.int 1) }

def exPage : Page :=
  { width := 17 / 2, height := 11, margin := [5 / 4, 1, 7 / 4, 5 / 4, 7 / 4, 1], nrow := 40, landscape := false,
    borderFirst := "double", borderLast := "double", colWidth := 25 / 4, pageTitle := .all, pageFootnote := .last,
    pageSource := .last }

/-- two columns, two rows (the second with a converted `>=`, a superscript and a non-ASCII letter), a column header
row from the column names, a title, a two-line footnote as table and a source paragraph -/
def exDoc (w : List Rat) : Doc :=
  { cols := ["a".toList, "b".toList],
    rows := [[some "x".toList, some "1".toList], [some "n>=3 m^2".toList, some "é".toList]],
    page := exPage, pageHeader := none, pageFooter := none,
    title := some { text := some ["Title".toList], attrs := exText }, subline := none,
    headers := [some { text := none, colRelWidth := none, attrs := exTbl }],
    body := { attrs := exTbl, colRelWidth := some w, asColheader := true, groupBy := none, pageBy := none,
              sublineBy := none, newPage := false, pagebyHeader := true, pagebyColumn := true },
    footnote := some { text := some "note 1\\line note 2".toList, asTable := true, colRelWidth := some [1], attrs := exTbl },
    source := some { text := some "src".toList, asTable := false, colRelWidth := some [1], attrs := exTbl } }

def exMeasure : Measure := fun _ _ _ => some 1

/-- the same frame without title, header, footnote, source -/
def exTiny (w : List Rat) : Doc :=
  { exDoc w with rows := [[some "x".toList, some "1".toList]], title := none, footnote := none, source := none,
                 headers := [] }

set_option maxRecDepth 100000

/-- the rich example is in the domain (conversion ON for every text: `>=`, `^`, `é`, the `\line ` of the footnote) -/
example : InDomain (exDoc [1, 2]) := by decide +kernel

/-- … the encoder accepts it, and (by direct evaluation, independently of the theorem) the result satisfies the
side condition and is well-formed -/
example : (match encode exMeasure (exDoc [1, 2]) with
    | .ok g => docOk g && wellFormed (printDoc g)
    | .error _ => false) = true := by
  rw [encode, Proofs.FontTable.encodeWith_eq]
  decide +kernel

/-- the hypotheses of the main theorem are satisfiable: the theorem applied to the example -/
example : ∀ g, encode exMeasure (exDoc [1, 2]) = .ok g → wellFormed (printDoc g) = true :=
  fun g h => C01_encode_wellformed exMeasure (exDoc [1, 2]) g h (by decide +kernel)

/-- FINDING (`\cellx0`).  Positive relative widths are not enough: with `col_rel_width = [1, 100000]` and the default
`col_width = 6.25in` the first boundary is `round(1440 · 6.25 / 100001) = 0` twips; the encoder accepts the document
and writes `\cellx0`, which C01 (boundaries positive) rejects.  The document satisfies every clause of `InDomain`
except `firstOk` of the body row shape (`bodyWidthOk`): that clause cannot be dropped, and the constructors of rtflite
do not enforce it (they check `col_rel_width > 0` only). -/
theorem C01enc_finding_cellx0 :
    posW [1, 100000] = true ∧ cellsOk (exTiny [1, 100000]) = true ∧ bodyWidthOk (exTiny [1, 100000]) = false ∧
    inDomain (exTiny [1, 100000]) = false ∧
    (match encode exMeasure (exTiny [1, 100000]) with
     | .ok g => !docOk g && !wellFormed (printDoc g)
     | .error _ => false) = true := by
  rw [encode, Proofs.FontTable.encodeWith_eq]
  decide +kernel

/-- the default page header text of rtflite (raw RTF, conversion OFF) and a multi-line footnote are admissible -/
example : rawOk "Page \\chpgn of {\\field{\\*\\fldinst NUMPAGES }}".toList = true ∧
    txtOk true "note 1\\line note 2".toList = true ∧ txtOk true "Page \\pagenumber of \\pagefield".toList = true ∧
    txtOk false "a{b".toList = false ∧ txtOk true "\\foo".toList = false := by decide +kernel

end Props.C01enc
