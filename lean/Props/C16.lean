import Model.Figure
import Model.FigureSpec
import Proofs.Figure
/-!
# C16 — figures are embedded byte-exactly, one per page, at the configured size

Model: `Model/Figure.lean` (`hexLines` = `_binary_to_hex`, `pngDims`, `jpegDims`, `getDim` =
`_get_dimension`, `fmtOfSuffix`, `encodeFigure` = `_encode_single_figure`, `figureLoop` = the page
loop of `_encode_figure_only`); reader side `unhex`, `splitPages`; decidable oracle
`Model/FigureSpec.lean` (`docOk`), the same predicate the harness evaluates on the implementation's
read-back output.

Clause ↔ sentence of the statement:
* `C16_hex_*`      "hexadecimal payload decodes to the file's exact bytes"
* `C16_blip_*`     "tagged with the picture type of its format"
* `C16_png_*`, `C16_jpeg_*`, `C16_pixels_*`   "pixel dimensions read from the image"
  (`C16_pixels_read`, `C16_fallback_only_when_unreadable`, `C16_zero_*_stated`: a field read as 0 is a read value; the
  96-dpi estimate is written only when the parser returns nothing)
* `C16_goal_*`     "display size equal to the configured inches x 1440" (⌊·⌋ on the exact value)
* `C16_dim_*`      "sizes taken positionally and the last value reused when the list is shorter"
* `C16_pages`, `C16_page_count`, `C16_breaks`, `C16_one_pict_in_order`   "one per page in the given order"
* `C16_placement_*` "title, footnote and source accompany exactly the pages selected"
* `C16_doc_ok`     all of the above at once, as the oracle `docOk` on the model's own output
* `Props/C16pos.lean`  "in the given order … positionally", position by position: page `j` shows format, bytes, width
  and height of position `j` and depends on nothing else (a file may be listed several times)
-/
namespace Props.C16
open Model.Figure Proofs.Figure

/-! ## payload -/

/-- every byte list survives `_binary_to_hex` followed by an RTF reader's hex decoding (line
breaks ignored) -/
theorem C16_hex_roundtrip (bs : List Nat) (h : ∀ b ∈ bs, b < 256) : unhex (hexLines bs) = some bs :=
  unhex_hexLines bs h

/-- the same over `UInt8`, where "byte" needs no side condition -/
theorem C16_hex_roundtrip_bytes (bs : List UInt8) :
    unhex (hexLines (bs.map UInt8.toNat)) = some (bs.map UInt8.toNat) := by
  apply unhex_hexLines
  intro b hb
  obtain ⟨u, _, rfl⟩ := List.mem_map.mp hb
  exact UInt8.toNat_lt u

/-- the line breaks are the only thing `_binary_to_hex` adds to `bytes.hex()` -/
theorem C16_hex_lines_only_breaks (bs : List Nat) :
    (hexLines bs).filter (fun c => !isSkip c) = hexString bs :=
  filter_hexLines bs

/-! ## PNG header -/

/-- `len > 24 ∧ signature → dims = (be32 bs[16..20], be32 bs[20..24])` -/
theorem C16_png_fields (pre rest : List Nat) (a0 a1 a2 a3 b0 b1 b2 b3 : Nat)
    (hpre : pre.length = 16) (hsig : pre.take 8 = pngSig) (hrest : rest ≠ []) :
    pngDims (pre ++ [a0, a1, a2, a3, b0, b1, b2, b3] ++ rest) =
      some (((a0 * 256 + a1) * 256 + a2) * 256 + a3, ((b0 * 256 + b1) * 256 + b2) * 256 + b3) := by
  have := pngDims_at pre [a0, a1, a2, a3] [b0, b1, b2, b3] rest hpre hsig rfl rfl hrest
  rw [beNat4, beNat4, List.append_assoc pre] at this
  exact this

/-- every valid header (signature, 8 bytes, width, height < 2^32 big-endian, one more byte)
yields exactly its width and height -/
theorem C16_png_valid (bs : List Nat) (w h : Nat) (hv : ValidPng bs w h) : pngDims bs = some (w, h) :=
  pngDims_valid bs w h hv

/-- 24 bytes or fewer, or another signature: no dimensions (the 96-dpi fallback applies) -/
theorem C16_png_none (bs : List Nat) (h : ¬ (24 < bs.length ∧ bs.take 8 = pngSig)) : pngDims bs = none := by
  simp [pngDims, h]

/-! ## JPEG scanner -/

/-- termination / progress: with fuel = data length the loop never runs out of fuel, for any
input whatsoever (every iteration consumes at least one byte) -/
theorem C16_jpeg_terminates (bs : List Nat) (h : 10 ≤ bs.length) :
    jpegScan bs.length (bs.drop 2) ≠ .outOfFuel :=
  jpegScan_fuel _ _ (by simp; omega)

/-- more fuel never changes the answer -/
theorem C16_jpeg_fuel_irrelevant (fuel : Nat) (rest : List Nat) (h : rest.length < fuel) :
    jpegScan (fuel + 1) rest = jpegScan fuel rest :=
  jpegScan_succ fuel rest h

/-- SOI; then any well-formed non-SOF marker segments and stand-alone markers (TEM, RSTn), each
optionally preceded by fill bytes `FF`, and stray non-`FF` bytes; then — again after any number of
fill bytes — a frame header with at least 10 bytes from its marker on: the scanner returns that
header's width and height -/
theorem C16_jpeg_sof (bs : List Nat) (w h : Nat) (hv : ValidJpeg bs w h) : jpegDims bs = some (w, h) :=
  jpegDims_valid bs w h hv

/-- … and nothing when fewer than 10 bytes follow the last well-formed item (no frame header, or
one cut off before its 10th byte — the precondition `i < len - 9` of the code) -/
theorem C16_jpeg_no_sof (items : List JpegItem) (hok : ∀ it ∈ items, it.WellFormed) (tail : List Nat)
    (htail : tail.length ≤ 9) :
    jpegDims ([0xFF, 0xD8] ++ items.flatMap JpegItem.bytes ++ tail) = none :=
  jpegDims_none items hok tail htail

theorem C16_jpeg_short (bs : List Nat) (h : bs.length < 10 ∨ bs.take 2 ≠ [0xFF, 0xD8]) :
    jpegDims bs = none := by
  simp [jpegDims, h]

/-! ## no header window: metadata of any size in front of the frame header, data of any size behind

`jpegDims` / `pngDims` walk the whole byte list — there is no bound on where the dimension-bearing
structure may stand. `C16_jpeg_sof` already quantifies over item lists of any length with payloads
of any length; the theorems below say so explicitly. -/

/-- Whatever well-formed marker segments (APPn / COM / DQT / DHT …, each of any length up to the
65535 the length field can express, and as many as one likes), stand-alone markers and fill bytes
are put between SOI and the rest of the stream, the answer is that of the stream without them: the
same frame header is found, or none in both. -/
theorem C16_jpeg_prefix_irrelevant (items : List JpegItem) (hok : ∀ it ∈ items, it.WellFormed)
    (R : List Nat) :
    jpegDims ([0xFF, 0xD8] ++ items.flatMap JpegItem.bytes ++ R) = jpegDims ([0xFF, 0xD8] ++ R) := by
  rw [List.append_assoc, jpegDims_soi, jpegDims_soi, scanOf_items items hok]

/-- The frame header is found at every offset `2 + 65537·k`: after `k` maximum-length segments
(length field `FF FF`, 65533 payload bytes each — e.g. an ICC profile split over APP2 segments),
for every `k`. No prefix of the file of a fixed size ("header window") contains the frame header
of all files. -/
theorem C16_jpeg_sof_at_any_offset (m : Nat) (hm : m ≠ 0xFF ∧ isStandalone m = false ∧ isSof m = false)
    (payloads : List (List Nat)) (hp : ∀ p ∈ payloads, p.length = 65533)
    (sm l1 l2 pr w h : Nat) (rest : List Nat) (hs : isSof sm = true) (hrest : rest ≠ []) :
    ([0xFF, 0xD8] ++ payloads.flatMap (fun p => 0xFF :: m :: 0xFF :: 0xFF :: p)).length
      = 2 + 65537 * payloads.length ∧
    jpegDims ([0xFF, 0xD8] ++ payloads.flatMap (fun p => 0xFF :: m :: 0xFF :: 0xFF :: p) ++
      [0xFF, sm, l1, l2, pr, h / 256, h % 256, w / 256, w % 256] ++ rest) = some (w, h) := by
  constructor
  · have : (payloads.flatMap (fun p => 0xFF :: m :: 0xFF :: 0xFF :: p)).length = 65537 * payloads.length := by
      induction payloads with
      | nil => rfl
      | cons p ps ih =>
        have h1 := hp p (by simp)
        have h2 := ih (fun q hq => hp q (by simp [hq]))
        simp only [List.flatMap_cons, List.length_append, List.length_cons, h1, h2]
        omega
    simp only [List.length_append, this]
    rfl
  · apply jpegDims_valid
    refine ⟨payloads.map (fun p => JpegItem.seg 0 m 0xFF 0xFF p), 0, sm, l1, l2, pr, rest, ?_, hs, hrest, ?_⟩
    · intro it hit
      obtain ⟨p, hpm, rfl⟩ := List.mem_map.mp hit
      exact ⟨hm.1, hm.2.1, hm.2.2, by rw [hp p hpm]⟩
    · rw [List.flatMap_map, List.replicate_zero, List.append_nil]
      rfl

/-- image data of any size behind the frame header changes nothing: what was found stays found -/
theorem C16_jpeg_tail_irrelevant (bs tail : List Nat) (d : Nat × Nat) (hd : jpegDims bs = some d) :
    jpegDims (bs ++ tail) = some d := by
  have h2 : bs = [0xFF, 0xD8] ++ bs.drop 2 := by
    unfold jpegDims at hd
    split at hd
    · cases hd
    · next hc =>
      have : bs.take 2 = [0xFF, 0xD8] := Classical.byContradiction fun h => hc (Or.inr h)
      rw [← this, List.take_append_drop]
  rw [h2, jpegDims_soi] at hd
  rw [h2, List.append_assoc, jpegDims_soi]
  split at hd
  · next w h hs =>
    rw [scanOf_append _ _ tail w h (Nat.le_refl _) hs]
    exact hd
  · cases hd

/-- PNG: IHDR is the first chunk; ancillary chunks and image data of any size behind the first 25
bytes change nothing -/
theorem C16_png_tail_irrelevant (bs tail : List Nat) (h : 24 < bs.length) :
    pngDims (bs ++ tail) = pngDims bs := by
  have ht : (bs ++ tail).take 8 = bs.take 8 := List.take_append_of_le_length (by omega)
  have hs : ∀ a b, a ≤ bs.length → b ≤ bs.length → slice (bs ++ tail) a b = slice bs a b := by
    intro a b ha hb
    rw [slice, slice, List.drop_append_of_le_length ha,
      List.take_append_of_le_length (by rw [List.length_drop]; omega)]
  have hl : 24 < (bs ++ tail).length := by
    rw [List.length_append]
    omega
  simp only [pngDims, ht, hs 16 20 (by omega) (by omega), hs 20 24 (by omega) (by omega), hl, h]

/-- … whereas cutting a JPEG anywhere before the 10th byte of its frame header (what a header
window shorter than the metadata does) loses the dimensions: the first `n` bytes of
SOI + well-formed items + frame header, `n` ending inside the first 9 bytes of the header or
earlier at an item boundary, yield nothing -/
theorem C16_jpeg_cut_before_header_loses (items : List JpegItem) (hok : ∀ it ∈ items, it.WellFormed)
    (hdr : List Nat) (n : Nat) (hn : n ≤ 9) :
    jpegDims ([0xFF, 0xD8] ++ items.flatMap JpegItem.bytes ++ hdr.take n) = none :=
  jpegDims_none items hok (hdr.take n) (by simp [List.length_take]; omega)

/-! ## picture type -/

theorem C16_blip_of_suffix (sfx : List Char) :
    (sfx.map asciiLower = ['.', 'p', 'n', 'g'] →
      (fmtOfSuffix sfx).map blipWord = some ['p', 'n', 'g', 'b', 'l', 'i', 'p']) ∧
    (sfx.map asciiLower = ['.', 'j', 'p', 'g'] →
      (fmtOfSuffix sfx).map blipWord = some ['j', 'p', 'e', 'g', 'b', 'l', 'i', 'p']) ∧
    (sfx.map asciiLower = ['.', 'j', 'p', 'e', 'g'] →
      (fmtOfSuffix sfx).map blipWord = some ['j', 'p', 'e', 'g', 'b', 'l', 'i', 'p']) ∧
    (sfx.map asciiLower = ['.', 'e', 'm', 'f'] →
      (fmtOfSuffix sfx).map blipWord = some ['e', 'm', 'f', 'b', 'l', 'i', 'p']) := by
  refine ⟨?_, ?_, ?_, ?_⟩ <;> intro h <;> simp [fmtOfSuffix, h, blipWord]

/-! ## pixel size and display size of one picture -/

/-- without readable dimensions the 96-dpi estimate `int(w*96)`, `int(h*96)` is written -/
theorem C16_pixels_fallback (f : Fmt) (bs : List Nat) (w h : Size) (hn : imageDims f bs = none) :
    (encodeFigure f bs w h).picw = truncMul w 96 ∧ (encodeFigure f bs w h).pich = truncMul h 96 :=
  Prod.mk.inj ((encodeFigure_pixels f bs w h).trans (by rw [hn]; rfl))

/-- whatever the parser reads is written — every value of either field, `0` included: a dimension that was
READ as zero is not "could not be read" (`imageDims` answers `some (w, 0)`, not `none`), whatever the display size -/
theorem C16_pixels_read (f : Fmt) (bs : List Nat) (d : Nat × Nat) (w h : Size) (hd : imageDims f bs = some d) :
    (encodeFigure f bs w h).picw = d.1 ∧ (encodeFigure f bs w h).pich = d.2 :=
  Prod.mk.inj ((encodeFigure_pixels f bs w h).trans (by rw [hd]; rfl))

theorem C16_pixels_from_header (sfx : List Char) (f : Fmt) (bs : List Nat) (t : Nat × Nat) (w h : Size)
    (hf : fmtOfSuffix sfx = some f) (hs : HeaderStates sfx bs t) :
    (encodeFigure f bs w h).picw = t.1 ∧ (encodeFigure f bs w h).pich = t.2 :=
  C16_pixels_read f bs t w h (imageDims_of_header sfx f bs t hf hs)

/-- the two cases are exhaustive and exclusive: the pair written is the pair read, or — ONLY when the parser
returns nothing — the 96-dpi estimate -/
theorem C16_pixels_read_or_fallback (f : Fmt) (bs : List Nat) (w h : Size) :
    (∃ d, imageDims f bs = some d ∧ (encodeFigure f bs w h).picw = d.1 ∧ (encodeFigure f bs w h).pich = d.2) ∨
    (imageDims f bs = none ∧ (encodeFigure f bs w h).picw = truncMul w 96 ∧
      (encodeFigure f bs w h).pich = truncMul h 96) := by
  cases hd : imageDims f bs with
  | none => exact Or.inr ⟨rfl, C16_pixels_fallback f bs w h hd⟩
  | some d => exact Or.inl ⟨d, rfl, C16_pixels_read f bs d w h hd⟩

/-- **the fallback is used only when the parser returns nothing**: if either number written differs from the number
read on that axis — each axis on its own —, nothing was read at all -/
theorem C16_fallback_only_when_unreadable (f : Fmt) (bs : List Nat) (w h : Size)
    (hne : ∀ d, imageDims f bs = some d → (encodeFigure f bs w h).picw ≠ d.1 ∨ (encodeFigure f bs w h).pich ≠ d.2) :
    imageDims f bs = none := by
  cases hd : imageDims f bs with
  | none => rfl
  | some d =>
    have := C16_pixels_read f bs d w h hd
    rcases hne d hd with h1 | h2
    · exact absurd this.1 h1
    · exact absurd this.2 h2

/-- the written size does not depend on the display size once the header is read (so no estimate enters, on
either axis) -/
theorem C16_pixels_read_size_irrelevant (f : Fmt) (bs : List Nat) (d : Nat × Nat) (w h w' h' : Size)
    (hd : imageDims f bs = some d) :
    (encodeFigure f bs w h).picw = (encodeFigure f bs w' h').picw ∧
    (encodeFigure f bs w h).pich = (encodeFigure f bs w' h').pich :=
  have r := C16_pixels_read f bs d
  ⟨(r w h hd).1.trans (r w' h' hd).1.symm, (r w h hd).2.trans (r w' h' hd).2.symm⟩

/-- a JPEG frame header with `Y = 0` (number of lines deferred to a DNL segment, ITU T.81 B.2.2) or `X = 0`, a PNG
IHDR with a zero field: the zero is what is written, next to the other axis' stated value -/
theorem C16_zero_height_stated (sfx : List Char) (f : Fmt) (bs : List Nat) (tw : Nat) (w h : Size)
    (hf : fmtOfSuffix sfx = some f) (hs : HeaderStates sfx bs (tw, 0)) :
    (encodeFigure f bs w h).picw = tw ∧ (encodeFigure f bs w h).pich = 0 :=
  C16_pixels_from_header sfx f bs (tw, 0) w h hf hs

theorem C16_zero_width_stated (sfx : List Char) (f : Fmt) (bs : List Nat) (th : Nat) (w h : Size)
    (hf : fmtOfSuffix sfx = some f) (hs : HeaderStates sfx bs (0, th)) :
    (encodeFigure f bs w h).picw = 0 ∧ (encodeFigure f bs w h).pich = th :=
  C16_pixels_from_header sfx f bs (0, th) w h hf hs

/-- `\picwgoal = ⌊w·1440⌋`, `\pichgoal = ⌊h·1440⌋` on the exact value `num/den` of the float -/
theorem C16_goal_floor (f : Fmt) (bs : List Nat) (w h : Size) (hw : 0 < w.den) (hh : 0 < h.den) :
    let p := encodeFigure f bs w h
    (p.wgoal * w.den ≤ w.num * 1440 ∧ w.num * 1440 < (p.wgoal + 1) * w.den) ∧
    (p.hgoal * h.den ≤ h.num * 1440 ∧ h.num * 1440 < (p.hgoal + 1) * h.den) :=
  ⟨truncMul_floor w 1440 hw, truncMul_floor h 1440 hh⟩

/-- the oracle clause `goalOk` accepts the floor and nothing else -/
theorem C16_goal_unique (s : Size) (k g : Nat) (hd : 0 < s.den) : goalOk s k g = true ↔ g = truncMul s k := by
  rw [goalOk_eq]
  constructor
  · intro ⟨h1, h2⟩
    symm
    unfold truncMul
    rw [Nat.div_eq_iff hd]
    refine ⟨h1, ?_⟩
    have : (g + 1) * s.den = g * s.den + s.den := by rw [Nat.add_mul]; simp
    omega
  · intro h
    subst h
    exact truncMul_floor s k hd

/-! ## per-figure sizes -/

theorem C16_dim_positional {α} (l : List α) (i : Nat) (h : i < l.length) : getDim l i = some l[i] := by
  simp [getDim, h]

theorem C16_dim_last_reused {α} (l : List α) (i : Nat) (h : l.length ≤ i) (hne : l ≠ []) :
    getDim l i = some (l.getLast hne) := by
  simp only [getDim]
  rw [if_neg (by omega)]
  exact List.getLast?_eq_some_getLast hne

/-! ## the page loop -/

/-- reading the emitted sequence back page by page gives exactly the per-figure page bodies -/
theorem C16_pages (cfg : Cfg) (ps : List Pict) (hne : ps ≠ []) :
    splitPages (figureLoop cfg ps) = bodiesFrom cfg ps.length 0 ps :=
  splitPages_loopFrom cfg ps.length ps 0 hne (by simp)

theorem C16_page_count (cfg : Cfg) (ps : List Pict) (hne : ps ≠ []) :
    (splitPages (figureLoop cfg ps)).length = ps.length := by
  rw [C16_pages cfg ps hne, bodiesFrom_length]

/-- n figures, n − 1 page breaks -/
theorem C16_breaks (cfg : Cfg) (ps : List Pict) (hne : ps ≠ []) :
    (figureLoop cfg ps).count Piece.pageBreak + 1 = ps.length :=
  count_break_loopFrom cfg ps.length ps 0 hne (by simp)

/-- page `j` is the body built for figure `j` -/
theorem C16_page_j (cfg : Cfg) (ps : List Pict) (j : Nat) (hj : j < ps.length) :
    (splitPages (figureLoop cfg ps))[j]? = some (pageBody cfg ps.length j ps[j]) := by
  have hne : ps ≠ [] := by intro h; simp [h] at hj
  rw [C16_pages cfg ps hne, bodiesFrom_getElem?]
  simp [hj]

/-- exactly one picture on page `j`, and it is the `j`-th figure -/
theorem C16_one_pict_in_order (cfg : Cfg) (ps : List Pict) (j : Nat) (hj : j < ps.length) :
    ∃ page, (splitPages (figureLoop cfg ps))[j]? = some page ∧
      page.filterMap pictOf = [obsOfPict ps[j]] := by
  refine ⟨_, C16_page_j cfg ps j hj, ?_⟩
  have := picts_pageBody cfg ps.length j ps[j]
  simpa [obsPage] using this

/-- title / subline / footnote / source are on page `j` of `n` exactly when configured:
`first` ↔ `j = 0`, `last` ↔ `j + 1 = n`, `all` ↔ always; the subline follows `page_title` -/
theorem C16_placement (cfg : Cfg) (n j : Nat) (p : Pict) :
    (Piece.title ∈ pageBody cfg n j p ↔
      (cfg.hasTitle && shows cfg.pageTitle (j == 0) (j + 1 == n)) = true) ∧
    (Piece.subline ∈ pageBody cfg n j p ↔
      (cfg.hasSubline && shows cfg.pageTitle (j == 0) (j + 1 == n)) = true) ∧
    (Piece.footnote ∈ pageBody cfg n j p ↔
      (cfg.hasFootnote && shows cfg.pageFootnote (j == 0) (j + 1 == n)) = true) ∧
    (Piece.source ∈ pageBody cfg n j p ↔
      (cfg.hasSource && shows cfg.pageSource (j == 0) (j + 1 == n)) = true) := by
  simp [pageBody]

theorem C16_shows (isFirst isLast : Bool) :
    shows .first isFirst isLast = isFirst ∧ shows .last isFirst isLast = isLast ∧
    shows .all isFirst isLast = true := ⟨rfl, rfl, rfl⟩

/-- no caption twice on a page -/
theorem C16_placement_counts (cfg : Cfg) (n j : Nat) (p : Pict) :
    countTag .pict (obsPage (pageBody cfg n j p)) = 1 ∧
    countTag .title (obsPage (pageBody cfg n j p)) = expectCount cfg.hasTitle cfg.pageTitle n j ∧
    countTag .footnote (obsPage (pageBody cfg n j p)) = expectCount cfg.hasFootnote cfg.pageFootnote n j ∧
    countTag .source (obsPage (pageBody cfg n j p)) = expectCount cfg.hasSource cfg.pageSource n j :=
  counts_pageBody cfg n j p

/-! ## the whole document -/

/-- For every figure document the model encodes (any number ≥ 1 of files with table suffixes,
any bytes, any non-empty size lists of any length, any placement and component combination) the
read-back observation of the output satisfies the complete C16 oracle — the predicate the harness
evaluates on the implementation's real output. `tr` lists, per figure, the pixel size its header
states when that header is valid for the suffix's format (no pixel claim otherwise). -/
theorem C16_doc_ok (figsT : List (FigSrc × Option (Nat × Nat))) (ws hs : List Size) (cfg : Cfg)
    (pieces : List Piece)
    (henc : encodeDoc { figs := figsT.map (·.1), widths := ws, heights := hs, cfg := cfg } = .ok pieces)
    (hbytes : ∀ ft ∈ figsT, ∀ b ∈ ft.1.bytes, b < 256)
    (hw : ∀ s ∈ ws, 0 < s.den) (hh : ∀ s ∈ hs, 0 < s.den)
    (htruth : ∀ ft ∈ figsT, ∀ t, ft.2 = some t → HeaderStates ft.1.suffix ft.1.bytes t) :
    docOk cfg (wantsFrom ws hs 0 figsT) (observe pieces) = true := by
  obtain ⟨fs, ps, hfs, hps, hne, rfl⟩ := encodeDoc_ok _ pieces henc
  have hmain := pagesOk_model cfg ps.length ws hs figsT 0 fs ps hfs hps hbytes hw hh htruth
  have hlen := pagesOkFrom_length _ _ _ _ _ hmain
  rw [List.length_map, bodiesFrom_length] at hlen
  rw [docOk, observe, C16_pages cfg ps hne, hlen]
  exact hmain

/-! ## the theorems are not vacuous: a two-figure document (a valid 3×2 PNG and a JPEG with one
APP0 segment, a restart marker and fill bytes before a 5×4 baseline frame header) with sizes `[2.5]` × `[1, 3]`, title on the last
page, footnote on all pages, source on the first page -/

def exPng : List Nat :=
  pngSig ++ [0, 0, 0, 13, 0x49, 0x48, 0x44, 0x52] ++ [0, 0, 0, 3] ++ [0, 0, 0, 2] ++ [8, 2, 0, 0, 0, 1, 2, 3, 4]

def exJpeg : List Nat :=
  [0xFF, 0xD8] ++ [0xFF, 0xFF, 0xE0, 0, 4, 0x4A, 0x46] ++ [0xFF, 0xD0] ++
    [0xFF, 0xFF, 0xFF, 0xC0, 0, 11, 8, 0, 4, 0, 5] ++ [1, 1, 0x11, 0, 0xFF, 0xD9]

def exCfg : Cfg :=
  { pageTitle := .last, pageFootnote := .all, pageSource := .first,
    hasTitle := true, hasSubline := true, hasFootnote := true, hasSource := true }

example : pngDims exPng = some (3, 2) := by decide
example : jpegDims exJpeg = some (5, 4) := by decide
theorem exPng_valid : ValidPng exPng 3 2 :=
  ⟨[0, 0, 0, 13, 0x49, 0x48, 0x44, 0x52], [8, 2, 0, 0, 0, 1, 2, 3, 4], by decide, by decide, by decide,
    by decide, by decide⟩

theorem exJpeg_valid : ValidJpeg exJpeg 5 4 := by
  refine ⟨[.seg 1 0xE0 0 4 [0x4A, 0x46], .standalone 0 0xD0], 2, 0xC0, 0, 11, 8, [1, 1, 0x11, 0, 0xFF, 0xD9],
    ?_, by decide, by decide, by decide⟩
  intro it hit
  simp at hit
  rcases hit with rfl | rfl
  · exact ⟨by decide, by decide, by decide, by decide⟩
  · show isStandalone 0xD0 = true
    decide

example : ValidPng exPng 3 2 := exPng_valid
example : ValidJpeg exJpeg 5 4 := exJpeg_valid
example : unhex (hexLines exJpeg) = some exJpeg := by decide +kernel

/-- a baseline JPEG whose frame header states 1728 samples per line and `Y = 0` lines, the line count following in a
DNL segment (`FF DC 00 04 04 4C`) after the scan -/
def exJpegDnl : List Nat :=
  [0xFF, 0xD8] ++ [0xFF, 0xC0, 0, 11, 8, 0, 0, 6, 192] ++ [1, 0x11, 0, 0xFF, 0xDC, 0, 4, 4, 0x4C, 0xFF, 0xD9]

/-- a PNG whose IHDR states width 0 and height 2^32 - 1 -/
def exPngEdge : List Nat :=
  pngSig ++ [0, 0, 0, 13, 0x49, 0x48, 0x44, 0x52] ++ [0, 0, 0, 0] ++ [255, 255, 255, 255] ++ [8, 2, 0, 0, 0]

example : ValidJpeg exJpegDnl 1728 0 :=
  ⟨[], 0, 0xC0, 0, 11, 8, [1, 0x11, 0, 0xFF, 0xDC, 0, 4, 4, 0x4C, 0xFF, 0xD9], by simp, by decide, by decide,
    by decide⟩
example : imageDims .jpeg exJpegDnl = some (1728, 0) := by decide
example : ValidPng exPngEdge 0 4294967295 :=
  ⟨[0, 0, 0, 13, 0x49, 0x48, 0x44, 0x52], [8, 2, 0, 0, 0], by decide, by decide, by decide, by decide, by decide⟩
/-- at 4.5 in × 3 in the 96-dpi estimate would be 432 × 288; the stated 1728 × 0 and 0 × (2^32-1) are written -/
example : ((encodeFigure .jpeg exJpegDnl ⟨9, 2⟩ ⟨3, 1⟩).picw, (encodeFigure .jpeg exJpegDnl ⟨9, 2⟩ ⟨3, 1⟩).pich) =
    (1728, 0) := by decide
example : ((encodeFigure .png exPngEdge ⟨9, 2⟩ ⟨3, 1⟩).picw, (encodeFigure .png exPngEdge ⟨9, 2⟩ ⟨3, 1⟩).pich) =
    (0, 4294967295) := by decide
example : ((encodeFigure .emf exPngEdge ⟨9, 2⟩ ⟨3, 1⟩).picw, (encodeFigure .emf exPngEdge ⟨9, 2⟩ ⟨3, 1⟩).pich) =
    (432, 288) := by decide

example :
    (match encodeDoc { figs := [⟨['.', 'P', 'n', 'g'], exPng⟩, ⟨['.', 'j', 'p', 'e', 'g'], exJpeg⟩],
                       widths := [⟨5, 2⟩], heights := [⟨1, 1⟩, ⟨3, 1⟩], cfg := exCfg } with
     | .ok ps => (observe ps).map (fun pg => (pg.tags, pg.picts.map (fun p => (p.picw, p.pich, p.wgoal, p.hgoal))))
     | _ => []) =
    [([.pict, .footnote, .source], [(3, 2, 3600, 1440)]),
     ([.title, .subline, .pict, .footnote], [(5, 4, 3600, 4320)])] := by decide +kernel

end Props.C16
