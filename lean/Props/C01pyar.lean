import Generated.PyRowAsRtf
import Generated.PyCellAsRtf
import Generated.PyBorderAsRtf
import Generated.PyTextAsRtf
import Generated.PyParagraphFormatting
import Generated.PyTextFormatting
import Props.C01pya
import Props.C01pyr
/-!
# C01 — the translated row emitter with the translated text emitter

`C01py_row_text_translated` closes the loop of `Props/C01pyr.lean`: with the translated `TextContent._as_rtf`
(`Props/C01pya.lean`) in the place of the parameter `text_as_rtf`, `"\n".join(Row._as_rtf())` is the printed row of the
grammar for every row whose cells — borders, alignment, right edge, paragraph and run format, converted text — are
related to the model's cells.  What stays a parameter of the whole tie: the code tables, `inch_to_twip`,
`point_to_halfpoint`, `_get_color_index` and `_convert_special_chars`.

(This file imports the generated definition of every function it relies on, so that it is an obligation exactly while
all six of them translate.)
-/
namespace Props.C01pyar
open Model.Rtf Model.Emit Generated.Py Props.C01py Props.C01pyc Props.C01pya

/-! ### the row with the translated text emitter -/

open Generated.Py.RowAsRtf in
/-- `cell.text._as_rtf(method)` as the translated function on the fields of the text object; `conv` stands for
`_convert_special_chars` on that object -/
def textEmit (i2t : Rat → Int) (tjc : List Nat → Option (List Nat)) (tjk : List (List Nat)) (p2h : Rat → Int)
    (gci : List Nat → Except Exc Int) (fc : List Nat → Option (List Nat)) (fk : List (List Nat))
    (conv : Text → Except Exc (List Nat)) (x : Text) (method : List Nat) : Except Exc (List Nat) :=
  TextAsRtf.run i2t tjc tjk p2h gci fc fk (conv x) x.text x.font x.size x.format x.color x.background_color
    x.justification x.indent_first x.indent_left x.indent_right x.space x.space_before x.space_after x.hyphenation
    method

open Generated.Py.RowAsRtf in
/-- a cell of the Python row against a cell of the model row, down to the fields of its text -/
def FullCellRel (bc : List Nat → Option (List Nat)) (gci : List Nat → Except Exc Int)
    (vac : List Nat → Option (List Nat)) (i2t : Rat → Int) (tjc : List Nat → Option (List Nat)) (p2h : Rat → Int)
    (fc : List Nat → Option (List Nat)) (conv : Text → Except Exc (List Nat)) (pc : Cell) (m : CellFmt) : Prop :=
  BorderRel bc gci pc.border_left m.left ∧ BorderRel bc gci pc.border_top m.top ∧
  BorderRel bc gci pc.border_right m.right ∧ BorderRel bc gci pc.border_bottom m.bottom ∧
  (match pc.vertical_justification with
    | none => m.valign = []
    | some v => vac v = some (m.valign.flatMap fun w => cps ('\\' :: w))) ∧
  i2t pc.width = m.cellx ∧
  conv pc.text = .ok (cps (printNodes m.body)) ∧
  ParaRel i2t tjc pc.text.hyphenation pc.text.space_before pc.text.space_after pc.text.space pc.text.indent_first
    pc.text.indent_left pc.text.indent_right pc.text.justification m.text ∧
  RunRel p2h gci fc pc.text.size pc.text.font pc.text.color pc.text.background_color pc.text.format m.text

open Generated.Py.RowAsRtf in
def FullCellsRel (bc : List Nat → Option (List Nat)) (gci : List Nat → Except Exc Int)
    (vac : List Nat → Option (List Nat)) (i2t : Rat → Int) (tjc : List Nat → Option (List Nat)) (p2h : Rat → Int)
    (fc : List Nat → Option (List Nat)) (conv : Text → Except Exc (List Nat)) : List Cell → List CellFmt → Prop
  | [], [] => True
  | pc :: pcs, m :: ms => FullCellRel bc gci vac i2t tjc p2h fc conv pc m ∧
      FullCellsRel bc gci vac i2t tjc p2h fc conv pcs ms
  | _, _ => False

open Generated.Py.RowAsRtf in
theorem cellsRel_of_full (bc gci vac) (i2t : Rat → Int) (tjc tjk p2h fc fk conv) :
    ∀ (cells : List Cell) (ms : List CellFmt), FullCellsRel bc gci vac i2t tjc p2h fc conv cells ms →
      C01pyr.CellsRel bc gci vac i2t (textEmit i2t tjc tjk p2h gci fc fk conv) cells ms
  | [], [], _ => trivial
  | [], _ :: _, h => by simp [FullCellsRel] at h
  | _ :: _, [], h => by simp [FullCellsRel] at h
  | pc :: pcs, m :: ms, h => by
    simp only [FullCellsRel] at h
    obtain ⟨⟨hl, ht, hr, hb, hv, hx, hconv, hp, hrun⟩, hrest⟩ := h
    refine ⟨⟨hl, ht, hr, hb, hv, hx, ?_⟩, cellsRel_of_full bc gci vac i2t tjc tjk p2h fc fk conv pcs ms hrest⟩
    exact C01py_text_cell i2t tjc tjk p2h gci fc fk _ _ _ _ _ _ _ _ _ _ _ _ _ _ _ m.text m.body hconv hp hrun

open Generated.Py.RowAsRtf in
/-- **`Row._as_rtf` with the translated `TextContent._as_rtf` prints the model's row** -/
theorem C01py_row_text_translated (bc gci vac) (i2t : Rat → Int) (rjc) (rjk : List (List Nat)) (tjc) (tjk : List (List Nat))
    (p2h : Rat → Int) (fc) (fk : List (List Nat)) (conv : Text → Except Exc (List Nat))
    (cells : List Cell) (just : List Nat) (height : Rat) (r : RowFmt)
    (hj : rjc just = some (codeText r.just))
    (hg : r.gaph = Model.Encode.pyInt ((i2t height : Rat) / 2))
    (hc : FullCellsRel bc gci vac i2t tjc p2h fc conv cells r.cells) :
    (RowAsRtf.run bc gci vac i2t rjc rjk (textEmit i2t tjc tjk p2h gci fc fk conv) cells just height).map
        (pyJoin [10]) =
      .ok (cps (printNodes (rowNodesFull r))) :=
  C01pyr.C01py_row_translated bc gci vac i2t rjc rjk _ cells just height r hj hg
    (cellsRel_of_full bc gci vac i2t tjc tjk p2h fc fk conv cells r.cells hc)

end Props.C01pyar
