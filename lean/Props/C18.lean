import Model.Export
import Model.ExportSpec
import Proofs.Export
/-!
# C18 — exports are all-or-nothing and leave no debris

Model: `Model.Export.writeRtf` (= `RTFDocument.write_rtf`) and `Model.Export.writeConv`
(= `write_docx` / `write_pdf` with `html = false`, `write_html` with `html = true`) as effect
sequences over the abstract file system `Fs`, **with the D23 repair** (commit 0d3b00e of /repo).

Quantifiers of every theorem: **every** initial file system `fs` (no well-formedness needed),
**every** fault index `k` (the exception is injected before the `k`-th effect; `k` past the last
effect = no fault), every encoder outcome `enc : Except Err Bytes`, every target path, every temp
root and — for the converter functions — **every converter** that is `Confined` (writes only below
its output directory and returns, if a path, one strictly below it); the seven stub behaviours the
harness injects are instances (`C18_stub_confined`).

Hypothesis `NoClash` (converter functions only): the two names `mkdtemp` picks are not the target
path / HTML resource destination, nor below or above them.  This is a precondition of the real
code as well (see `Model/ExportSpec.lean`).

Reading of the statement, clause by clause:
* "leave any pre-existing file at the target path byte-for-byte unchanged, create no partial
  target"  = `fget out.fs target = fget fs target` whenever the call raises (`*_failure`, first part);
* "remove all their temporary files" = every directory logged in `out.temps` was absent initially
  and has nothing at or below it at the end (`C18_conv_temps_gone`; `write_rtf` creates none);
* debris = any other path: unchanged, **except** missing ancestor directories of the target created
  by `mkdir(parents=True)` — those are neither target nor temporary and are explicitly *not*
  counted as debris, also when the call fails afterwards (`Same`);
* "write_rtf stores exactly the string rtf_encode() returns, creating missing parent directories"
  = `C18_rtf_success`, `C18_rtf_complete`;
* "on success the converter's output (and the HTML resource folder) ends up at the requested path
  and nowhere else" = `C18_conv_success`.

Level *partial* (OS): every effect of the model is atomic.  A `write_text` that dies after
truncating the target (ENOSPC), a cross-device `shutil.move` that dies while copying, a failing
`rmtree`, or an exception raised by the trailing `print(target_path)` of the converter functions
(which runs after the target was replaced and is not a library-call boundary) are outside the model.
-/
namespace Props.C18
open Model.Export Proofs.Export

/-! ## `write_rtf` -/

/-- **write_rtf, failure.** Whatever the initial file system, the encoder outcome and the fault
point: if the call raises, the target is exactly what it was (same bytes, or still absent — no
partial file), no temporary directory was created, and every other path is unchanged or is a
missing ancestor directory of the target that `mkdir(parents=True)` created before the failure. -/
theorem C18_rtf_failure (k : Nat) (dir : Path) (tname : Name) (enc : Except Err Bytes) (fs : Fs) (e : Err)
    (h : (writeRtf k dir tname enc fs).1 = .error e) :
    fget (writeRtf k dir tname enc fs).2.fs (dir ++ [tname]) = fget fs (dir ++ [tname])
    ∧ (writeRtf k dir tname enc fs).2.temps = []
    ∧ ∀ q, Same fs dir (writeRtf k dir tname enc fs).2.fs q := by
  obtain ⟨h1, h2, h3, _⟩ := rtf_spec k dir tname enc fs
  refine ⟨h3 e h, h1, fun q => ?_⟩
  by_cases hq : q = dir ++ [tname]
  · subst hq
    exact Or.inl (h3 e h)
  · exact h2 q hq

/-- **write_rtf, success.** If the call returns, the encoder returned a string `b`, the target
holds exactly `b`, every ancestor of the target is a directory, no temporary directory was
created and nothing else changed (apart from created ancestors). -/
theorem C18_rtf_success (k : Nat) (dir : Path) (tname : Name) (enc : Except Err Bytes) (fs : Fs)
    (h : (writeRtf k dir tname enc fs).1 = .ok ()) :
    ∃ b, enc = .ok b
      ∧ fget (writeRtf k dir tname enc fs).2.fs (dir ++ [tname]) = some (.file b)
      ∧ (∀ q, under q dir = true → fget (writeRtf k dir tname enc fs).2.fs q = some .dir)
      ∧ (writeRtf k dir tname enc fs).2.temps = []
      ∧ ∀ q, q ≠ dir ++ [tname] → Same fs dir (writeRtf k dir tname enc fs).2.fs q := by
  obtain ⟨h1, h2, _, h4⟩ := rtf_spec k dir tname enc fs
  obtain ⟨b, hb, ht, hd⟩ := h4 h
  exact ⟨b, hb, ht, hd, h1, h2⟩

/-- **write_rtf, the encoder runs before the target is touched**: a failing encoder (or a fault up
to and including the encode step) leaves the target untouched — special case of `C18_rtf_failure`,
stated for the mechanism named in the property's anchors. -/
theorem C18_rtf_encode_first (k : Nat) (dir : Path) (tname : Name) (fs : Fs) (e : Err) :
    fget (writeRtf k dir tname (.error e) fs).2.fs (dir ++ [tname]) = fget fs (dir ++ [tname]) := by
  obtain ⟨_, _, h3, h4⟩ := rtf_spec k dir tname (.error e) fs
  cases hr : (writeRtf k dir tname (.error e) fs).1 with
  | error e' => exact h3 e' hr
  | ok u =>
    obtain ⟨b, hb, _⟩ := h4 hr
    cases hb

/-- **write_rtf succeeds whenever it can**: without a fault (`writeRtf` has four effects, numbered 0–3, so `4 ≤ k`
injects none), with an encoder that returns, no regular file among the target's ancestors and a target that is not a
directory, the call returns (so the success theorem is not vacuous, and missing parents *are* created). -/
theorem C18_rtf_complete (k : Nat) (hk : 4 ≤ k) (dir : Path) (tname : Name) (b : Bytes) (fs : Fs)
    (hanc : ∀ q, under q dir = true → isFile (fget fs q) = false)
    (hnd : fget fs (dir ++ [tname]) ≠ some .dir) :
    (writeRtf k dir tname (.ok b) fs).1 = .ok () := by
  have hany : ((prefixes dir).any fun q => isFile (fget fs q)) = false := by
    rw [List.any_eq_false]
    intro q hq
    simp [hanc q (mem_prefixes.mp hq)]
  obtain ⟨fs1, hm⟩ : ∃ fs1, mkdirParents dir fs = (.ok (), fs1) := by
    simp [mkdirParents, hany]
  have hT1 := fget_mkdirParents hm (dir ++ [tname])
  rw [under_longer (by simp)] at hT1
  simp only [Bool.false_eq_true, false_and, ↓reduceIte] at hT1
  have hd1 := mkdirParents_dir hm (under_refl dir)
  unfold writeRtf step
  simp only [List.length_nil, hm, List.nil_append, List.length_cons, List.length_append]
  have h0 : ¬ (0 = k) := by omega
  have h1 : ¬ (0 + 1 = k) := by omega
  have h2 : ¬ (0 + 1 + 1 = k) := by omega
  have h3 : ¬ (0 + 1 + 1 + 1 = k) := by omega
  simp only [h0, h1, h2, h3, ↓reduceIte, writeText, hT1, hnd, List.dropLast_concat, hd1]

/-! ## `write_docx` / `write_pdf` / `write_html` -/

/-- the stub converters of the harness are confined -/
theorem C18_stub_confined (beh : Beh) (fmt : List Char) (outName : Name) : Confined (stub beh fmt outName) := by
  constructor
  · intro fs inp out q hq
    unfold stub
    split
    · cases beh <;> simp only [List.append_assoc, fget_fset_below _ hq]
    · rfl
  · intro fs inp out p h
    unfold stub at h
    split at h
    · -- the behaviours that return a path return `out ++ [outName]`
      cases beh <;> simp only [reduceCtorEq, Except.ok.injEq, ConvRet.path.injEq] at h
      all_goals
        subst h
        exact ⟨under_append _ _, by simp⟩
    · cases h

/-- **Temporary directories (all outcomes).** Every temporary directory the call created is one of
the two `mkdtemp` results, did not exist initially, and at the end nothing exists at or below it —
whether the call returned or raised, at whatever fault point, with whatever converter. -/
theorem C18_conv_temps_gone (k : Nat) (P : Params) (fs : Fs)
    (hconf : ∀ c, P.conv = .ok c → Confined c) (hN : NoClash P) :
    ∀ t ∈ (writeConv k P fs).2.temps,
      (t = P.tmpRoot ++ [P.tA] ∨ t = P.tmpRoot ++ [P.tB]) ∧ fget fs t = none
      ∧ ∀ q, under t q = true → fget (writeConv k P fs).2.fs q = none :=
  (writeConv_spec k P fs hconf hN).1

/-- **The temporary area is literally unchanged** when the initial file system is well-formed (`WF`:
unique keys, every entry's parent is a directory): below a created temporary directory there was
nothing before the call and there is nothing after it. -/
theorem C18_conv_temp_area_unchanged (k : Nat) (P : Params) (fs : Fs)
    (hconf : ∀ c, P.conv = .ok c → Confined c) (hN : NoClash P) (hwf : WF fs) :
    ∀ t ∈ (writeConv k P fs).2.temps, ∀ q, under t q = true →
      fget (writeConv k P fs).2.fs q = fget fs q := by
  intro t ht q hq
  obtain ⟨_, hfresh, hgone⟩ := C18_conv_temps_gone k P fs hconf hN t ht
  rw [hgone q hq, WF.under_absent hwf hfresh hq]

/-- **Failure.** If the call raises — injected fault at any point, failing encoder, failing
converter lookup, converter that fails before or after producing output, converter returning a
list / a non-Path / a missing path, failing move — then the target is exactly what it was, and
every path outside the (already removed, initially absent) temporary directories is unchanged or a
created ancestor directory of the target.  For `write_html` this includes the resource folder
destination: it is untouched. -/
theorem C18_conv_failure (k : Nat) (P : Params) (fs : Fs)
    (hconf : ∀ c, P.conv = .ok c → Confined c) (hN : NoClash P) (e : Err)
    (h : (writeConv k P fs).1 = .error e) :
    fget (writeConv k P fs).2.fs P.target = fget fs P.target
    ∧ ∀ q, (∀ t ∈ (writeConv k P fs).2.temps, under t q = false) → Same fs P.dir (writeConv k P fs).2.fs q := by
  obtain ⟨h1, h2, _⟩ := writeConv_spec k P fs hconf hN
  refine ⟨?_, h2 e h⟩
  have hT : ∀ t ∈ (writeConv k P fs).2.temps, under t P.target = false := by
    intro t ht
    rcases (h1 t ht).1 with rfl | rfl
    · exact hN.tA.1
    · exact hN.tB.1
  rcases h2 e h P.target hT with hs | ⟨hu, _, _⟩
  · exact hs
  · rw [Params.target, under_longer (by simp)] at hu
    cases hu

/-- what the converter was run on, and what it answered, in a successful call -/
structure Conversion (P : Params) (fs : Fs) (c : Converter) (b : Bytes) (p : Path) (fsIn fsc : Fs) : Prop where
  conv : P.conv = .ok c
  enc : P.enc = .ok b
  /-- the converter's input file holds exactly the encoder's string -/
  input : fget fsIn (P.tmpRoot ++ [P.tA] ++ [P.rtfName]) = some (.file b)
  /-- apart from the two temporary directories the converter saw the initial file system (+ created parents) -/
  seen : ∀ q, under (P.tmpRoot ++ [P.tA]) q = false → under (P.tmpRoot ++ [P.tB]) q = false →
    Same fs P.dir fsIn q
  /-- the call `convert(input_files=<tA>/<stem>.rtf, output_dir=<tB>)` returned the path `p`, leaving `fsc` -/
  run : c fsIn (P.tmpRoot ++ [P.tA] ++ [P.rtfName]) (P.tmpRoot ++ [P.tB]) = (.ok (.path p), fsc)

theorem Conversion.conv_eq {P : Params} {fs : Fs} {c c0 : Converter} {b : Bytes} {p : Path} {fsIn fsc : Fs}
    (hC : Conversion P fs c b p fsIn fsc) (hconv : P.conv = .ok c0) : c = c0 :=
  Except.ok.inj (hC.conv.symm.trans hconv)

/-- **Success.** If the call returns, then the encoder returned `b`, the converter was run on a file
holding exactly `b` and returned a path `p`; and
1. if `p` was a regular file with bytes `out` (and the target was not a directory; for HTML: the
   resource folder name is not the target's own name) the target holds exactly `out`;
2. (HTML, converter produced `<p>_files`) the folder `target.parent/<p.name>_files` is *exactly* the
   converter's folder: same entry at every relative path — nothing nested, nothing stale;
3. nothing else changed: every path outside the temporary directories, other than the target (and
   the resource folder in case 2), is unchanged or a created ancestor directory;
4. both temporary directories were created and are gone (`C18_conv_temps_gone`). -/
theorem C18_conv_success (k : Nat) (P : Params) (fs : Fs)
    (hconf : ∀ c, P.conv = .ok c → Confined c) (hN : NoClash P)
    (h : (writeConv k P fs).1 = .ok ()) :
    ∃ c b p fsIn fsc, Conversion P fs c b p fsIn fsc
      ∧ (∀ out, fget fsc p = some (.file out) → fget fs P.target ≠ some .dir →
          (P.html = true → resDst P.dir p ≠ P.target) →
          fget (writeConv k P fs).2.fs P.target = some (.file out))
      ∧ (P.html = true → fget fsc (resourcesOf p) = some .dir →
          ∀ r, fget (writeConv k P fs).2.fs (resDst P.dir p ++ r) = fget fsc (resourcesOf p ++ r))
      ∧ (∀ q, under (P.tmpRoot ++ [P.tA]) q = false → under (P.tmpRoot ++ [P.tB]) q = false →
          under P.target q = false →
          (P.html = true → fget fsc (resourcesOf p) = some .dir → under (resDst P.dir p) q = false) →
          Same fs P.dir (writeConv k P fs).2.fs q)
      ∧ (writeConv k P fs).2.temps = [P.tmpRoot ++ [P.tB], P.tmpRoot ++ [P.tA]] := by
  obtain ⟨_, _, h3⟩ := writeConv_spec k P fs hconf hN
  obtain ⟨htemps, c, b, p, fs1, fsIn, fsc, fs', hcv, hb, hm, hinp, hin, hrun, ctx, hcm, hfs⟩ := h3 h
  have htAne : P.tmpRoot ++ [P.tA] ≠ [] := by simp
  have htBne : P.tmpRoot ++ [P.tB] ≠ [] := by simp
  have hcfr : ∀ q, under (P.tmpRoot ++ [P.tA]) q = false → under (P.tmpRoot ++ [P.tB]) q = false →
      fget fsc q = fget fs1 q :=
    fun q hA hB => ((confined_run (hconf c hcv) hrun).1 q hB).trans (hin q hA hB)
  have hout : ∀ q, under (P.tmpRoot ++ [P.tA]) q = false → under (P.tmpRoot ++ [P.tB]) q = false →
      fget (writeConv k P fs).2.fs q = fget fs' q := by
    intro q hA hB
    rw [hfs, fget_rmTree htAne, hA, fget_rmTree htBne, hB]
    simp
  have hT1 : fget fs1 (P.dir ++ [P.tname]) = fget fs (P.dir ++ [P.tname]) := by
    rw [fget_mkdirParents hm, under_longer (by simp)]
    simp
  refine ⟨c, b, p, fsIn, fsc, ⟨hcv, hb, hinp, fun q hA hB => same_of_mkdir hm (hin q hA hB), hrun⟩, ?_, ?_, ?_,
    htemps⟩
  · intro out hp hnd hname
    rw [Params.target] at hnd hname ⊢
    rw [hout _ hN.tA.1 hN.tB.1]
    refine commit_ok_target ctx hcm ?_ hp hname
    rw [hcfr _ hN.tA.1 hN.tB.1, hT1]
    exact hnd
  · intro hh hres r
    have hrA : under (P.tmpRoot ++ [P.tA]) (resDst P.dir p ++ r) = false :=
      unrelated_append (hN.resA hh (p.getLast?.getD [])) r
    have hrB : under (P.tmpRoot ++ [P.tB]) (resDst P.dir p ++ r) = false :=
      unrelated_append (hN.resB hh (p.getLast?.getD [])) r
    rw [hout _ hrA hrB]
    exact commit_ok_res ctx hcm hh hres r
  · intro q hA hB hTq hRq
    rw [Params.target] at hTq
    apply same_of_mkdir hm
    rw [hout q hA hB, commit_ok_frame ctx hcm q hB hTq hRq]
    exact hcfr q hA hB

/-! ## non-vacuity, and the D23 witness on the unrepaired commit block -/

section Examples
def w : Name := ['w']
def t : Name := ['t']
def o : Name := ['o']

/-- second export to the same path: old target, old resource folder with a stale entry -/
def fsSecond : Fs :=
  [([t], .dir), ([w], .dir), ([w, o], .file ['O']), ([w, o ++ filesSuffix], .dir),
   ([w, o ++ filesSuffix, ['s']], .file ['x'])]

def pHtml (beh : Beh) : Params where
  dir := [w]
  tname := o
  tmpRoot := [t]
  tA := ['a']
  tB := ['b']
  rtfName := ['r']
  enc := .ok ['R']
  explicitConv := true
  conv := .ok (stub beh ['h'] o)
  html := true

/-- the hypotheses are satisfiable and the success case is inhabited: `write_html` over an existing
export succeeds (fault index 100 is past the last effect of `writeConv`: no fault), the target holds the converter's
bytes, the resource folder is the new one — the stale entry is gone and there is no nested `o_files/o_files` -/
example :
    isOk (writeConv 100 (pHtml .okRes) fsSecond).1 = true
    ∧ fget (writeConv 100 (pHtml .okRes) fsSecond).2.fs [w, o] = some (.file ['h', '<', 'R', '>'])
    ∧ fget (writeConv 100 (pHtml .okRes) fsSecond).2.fs [w, o ++ filesSuffix, ['r', '.', 't', 'x', 't']]
        = some (.file ['r', 'e', 's', 'o', 'u', 'r', 'c', 'e'])
    ∧ fget (writeConv 100 (pHtml .okRes) fsSecond).2.fs [w, o ++ filesSuffix, ['s']] = none
    ∧ fget (writeConv 100 (pHtml .okRes) fsSecond).2.fs [w, o ++ filesSuffix, o ++ filesSuffix] = none
    ∧ fget (writeConv 100 (pHtml .okRes) fsSecond).2.fs [t, ['a']] = none
    ∧ fget (writeConv 100 (pHtml .okRes) fsSecond).2.fs [t, ['b']] = none := by decide +kernel

example : NoClash (pHtml .okRes) := by
  refine ⟨⟨by decide, by decide⟩, ⟨by decide, by decide⟩, fun _ n => ?_, fun _ n => ?_⟩ <;>
    simp [Unrelated, pHtml, under, t, w, List.isPrefixOf]

/-- a failing case is inhabited too: the converter fails after writing a partial file, at every
fault point (a call of `writeConv` has at most nine effects, so `k < 12` covers each of them and the run without
fault) the old target survives -/
example : ∀ k < 12, isOk (writeConv k (pHtml .failAfter) fsSecond).1 = false
    ∧ fget (writeConv k (pHtml .failAfter) fsSecond).2.fs [w, o] = some (.file ['O']) := by decide +kernel

/-- `writeConv` with the unrepaired commit block, specialised to what D23 needs: the state right
after a successful conversion in `tB` -/
def fsAfterConv : Fs :=
  [([t, ['b'], o ++ filesSuffix, ['n']], .file ['y']), ([t, ['b'], o ++ filesSuffix], .dir),
   ([t, ['b'], o], .file ['N']), ([t, ['b']], .dir)] ++ fsSecond

/-- **D23 (unrepaired tree).** With the commit block as it stands in the unrepaired code the new
resource folder is nested inside the old one and the stale entry survives … -/
theorem C18_D23_unrepaired_nests :
    isOk (commitUnrepaired true [w] o [t, ['b'], o] fsAfterConv).1 = true
    ∧ fget (commitUnrepaired true [w] o [t, ['b'], o] fsAfterConv).2 [w, o ++ filesSuffix, o ++ filesSuffix] = some .dir
    ∧ fget (commitUnrepaired true [w] o [t, ['b'], o] fsAfterConv).2 [w, o ++ filesSuffix, ['n']] = none
    ∧ fget (commitUnrepaired true [w] o [t, ['b'], o] fsAfterConv).2 [w, o ++ filesSuffix, ['s']] = some (.file ['x']) := by
  decide +kernel

/-- … whereas the repaired block puts exactly the converter's folder next to the target. -/
theorem C18_D23_repaired :
    isOk (commit true [w] o [t, ['b'], o] fsAfterConv).1 = true
    ∧ fget (commit true [w] o [t, ['b'], o] fsAfterConv).2 [w, o ++ filesSuffix, o ++ filesSuffix] = none
    ∧ fget (commit true [w] o [t, ['b'], o] fsAfterConv).2 [w, o ++ filesSuffix, ['n']] = some (.file ['y'])
    ∧ fget (commit true [w] o [t, ['b'], o] fsAfterConv).2 [w, o ++ filesSuffix, ['s']] = none := by
  decide +kernel
end Examples

end Props.C18
