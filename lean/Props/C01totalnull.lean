import Model.Rtf
import Model.Encode
import Model.EncodeDomain
import Model.EncodeAccepted
import Model.GroupBySpec
import Proofs.EncodeTotalDoc
import Props.C01total
/-!
# C01, first clause, on columns WITHOUT VALUES

C01 quantifies over "all DataFrames (… nulls)".  A column may hold nothing but nulls: in polars it then has the dtype
`Null` (`pl.DataFrame({"c": [None] * n})`) or a concrete dtype without a value (`pl.Series([None] * n, dtype=pl.Int64)`).
The encoder model works on display cells (`rows : List (List (Option Str))`), so both are a column of `none` — the
model has no dtype to trip over, and the harness shows on every run (data-shape class, `harness/datashapes.py`) that
the real encoder agrees with it byte for byte on such columns in every role, on every page.

What the property says about them is proved here: **group_by over columns that hold nothing but nulls is never
refused** — the hierarchical key of every level is one constant, hence contiguous, whatever the number of levels, rows
and pages; with `C01_encode_total` the encoder returns a document.
-/
namespace Props.C01totalnull
open Model.Rtf Model.Encode Model.EncodeDomain Model.EncodeAccepted Proofs.EncodeTotal Model.GroupBy

/-- a key sequence that never changes is contiguous -/
theorem C01_constant_keys_contiguous {α} [DecidableEq α] (k : α) :
    ∀ ks : List α, (∀ x ∈ ks, x = k) → contigB ks = true
  | [], _ => rfl
  | v :: vs, h => by
    have hvs : ∀ x ∈ vs, x = k := fun x hx => h x (List.mem_cons_of_mem _ hx)
    simp only [contigB, Bool.and_eq_true, decide_eq_true_eq]
    refine ⟨fun _ => ?_, C01_constant_keys_contiguous k vs hvs⟩
    cases vs with
    | nil => contradiction
    | cons w ws => rw [List.head?_cons, hvs w List.mem_cons_self, h v List.mem_cons_self]

/-- key columns whose first `n` cells are all null: the keys of every prefix level are contiguous (the decidable
refusal test of `validate_data_sorting` passes) -/
theorem C01_null_keys_contiguous (gcols : List Col) (n : Nat)
    (h : ∀ c ∈ gcols, ∀ i, i < n → cellAt c i = none) : allLevelsContiguousB gcols n = true := by
  simp only [allLevelsContiguousB, List.all_eq_true, List.mem_range]
  intro l _
  apply C01_constant_keys_contiguous ((gcols.take (l + 1)).map fun _ => (none : Cell))
  intro x hx
  obtain ⟨i, hi, rfl⟩ := List.mem_map.mp hx
  have hi' : i < n := List.mem_range.mp hi
  unfold hkey
  apply List.map_congr_left
  intro c hc
  exact h c (List.mem_of_mem_take hc) i hi'

/-- decidable: every cell of every group_by column of the frame handed to the grouping service is null (whatever the
column's polars dtype: untyped `Null`, or a concrete dtype without a value) -/
def groupKeysAllNull (d : Doc) : Bool :=
  match prepare d with
  | .error _ => true
  | .ok p => d.body.groupByL.all fun name =>
      (getCol (toFrame p.dispCols p.dispRows) name).all fun cell => cell.isNone

/-- a column of nulls reads null at every row -/
theorem C01_cellAt_null_column (c : Col) (h : ∀ cell ∈ c, cell.isNone = true) (i : Nat) : cellAt c i = none := by
  unfold cellAt
  cases hci : c[i]? with
  | none => rfl
  | some x =>
    cases x with
    | none => rfl
    | some v => exact absurd (h _ (List.mem_of_getElem? hci)) (by simp)

/-- … so a document whose group_by columns hold nothing but nulls has contiguous keys -/
theorem C01_null_group_keys (d : Doc) (hnull : groupKeysAllNull d = true) : GroupKeysContiguous d := by
  apply (Props.C01total.C01_groupKeysContiguous_decidable d).mp
  unfold groupKeysContiguous
  unfold groupKeysAllNull at hnull
  cases hp : prepare d with
  | error e => rfl
  | ok p =>
    rw [hp] at hnull
    simp only [List.all_eq_true] at hnull
    simp only
    apply C01_null_keys_contiguous
    intro c hc i _
    obtain ⟨name, hname, rfl⟩ := List.mem_map.mp hc
    exact C01_cellAt_null_column _ (hnull name (List.mem_eraseDups.mp hname)) i

/-- **C01, totality, group_by over columns without values**: an accepted configuration inside the quantifier whose
group_by columns hold nothing but nulls encodes — the one refusal C01 allows cannot occur -/
theorem C01_encode_total_null_keys (measure : Measure) (d : Doc) (ha : Accepted d) (hs : ShapesInQuantifier d)
    (hm : MeasureOk measure d) (hnull : groupKeysAllNull d = true) : ∃ g, encode measure d = .ok g :=
  Props.C01total.C01_encode_total_contiguous measure d ha hs hm (C01_null_group_keys d hnull)

/-- … and what it returns prints to well-formed RTF -/
theorem C01_encode_total_null_keys_wellformed (measure : Measure) (d : Doc) (ha : Accepted d)
    (hs : ShapesInQuantifier d) (hm : MeasureOk measure d) (hdom : InDomain d)
    (hnull : groupKeysAllNull d = true) : ∃ g, encode measure d = .ok g ∧ wellFormed (printDoc g) = true :=
  Props.C01total.C01_encode_total_wellformed measure d ha hs hm hdom (C01_null_group_keys d hnull)

/-! ## non-vacuity: the example of `Props/C01total.lean` with group_by columns that hold no value, on several pages -/

open Props.C01total in
/-- `exDoc` (page_by `g`, five rows, `nrow = 5`: several pages) with group_by over `a` and `b`, every cell of both null -/
def exNullKeys : Doc :=
  { exDoc with
    rows := [[some "A".toList, none, none],
             [some "A".toList, none, none],
             [some "B".toList, none, none],
             [some "B".toList, none, none],
             [some "B".toList, none, none]],
    body := { exDoc.body with groupBy := some ["a".toList, "b".toList] } }

open Props.C01total in
/-- the same with one value in `b`, at the end of its parent group: null except one value, still contiguous -/
def exOneValue : Doc :=
  { exNullKeys with
    rows := [[some "A".toList, none, none],
             [some "A".toList, none, none],
             [some "B".toList, none, none],
             [some "B".toList, none, none],
             [some "B".toList, none, some "5".toList]] }

set_option maxRecDepth 100000

open Props.C01total in
/-- the hypotheses of `C01_encode_total_null_keys_wellformed` hold of the first -/
theorem exNullKeys_hypotheses : Accepted exNullKeys ∧ ShapesInQuantifier exNullKeys ∧ MeasureOk exMeasure exNullKeys ∧
    InDomain exNullKeys ∧ groupKeysAllNull exNullKeys = true := by decide +kernel

open Props.C01total in
example : Accepted exNullKeys ∧ ShapesInQuantifier exNullKeys ∧ MeasureOk exMeasure exNullKeys ∧
    InDomain exNullKeys ∧ groupKeysAllNull exNullKeys = true := exNullKeys_hypotheses

open Props.C01total in
/-- the theorem applied: it encodes, and the result is well-formed -/
example : ∃ g, encode exMeasure exNullKeys = .ok g ∧ wellFormed (printDoc g) = true :=
  have ⟨ha, hs, hm, hdom, hnull⟩ := exNullKeys_hypotheses
  C01_encode_total_null_keys_wellformed exMeasure exNullKeys ha hs hm hdom hnull

open Props.C01total in
/-- the second is covered by the general theorem through the decidable contiguity test -/
example : ∃ g, encode exMeasure exOneValue = .ok g ∧ wellFormed (printDoc g) = true :=
  C01_encode_total_wellformed exMeasure exOneValue (by decide +kernel) (by decide +kernel) (by decide +kernel)
    (by decide +kernel) ((C01_groupKeysContiguous_decidable exOneValue).mp (by decide +kernel))

end Props.C01totalnull
