import Model.Validate
import Model.ValidateSpec
import Proofs.Validate
import Props.C19
/-!
# C19 — near-valid strings: a code word with a stray character is not the code word

The statement's "unknown format letter / border style / justification / … keyword" is *exact* membership in the
documented sets. The check (`harness/props/c19.py`, near-valid stream) draws documented values with a line feed,
carriage return, tab, blank, NUL, VT, FF, FS, US, NEL, NBSP, LS, PS, wide / zero-width space or BOM after, before or
inside them; these theorems say what the specification and the validator model make of them:

* `C19near_format_foreign_char` — a format string holding **one** character that is not a format letter, at any place
  of the string, is illegal, and (`C19near_format_foreign_char_rejected`) the field validation of any shape holding it
  at any position raises `ValidationError`;
* `C19near_stray_not_format_letter` — none of the 17 stray characters is a format letter;
* `C19near_keyword_suffix_illegal` / `_prefix_illegal` — for every keyword set of the statement (border styles, the
  three justification sets, orientation, placement, pageby_row, figure alignment and position) no documented word
  followed or preceded by a stray character is a documented word, because none holds a stray character
  (`keywords_hold_no_stray`, kernel-decided over the literal sets).
-/
namespace Props.C19near
open Model.Validate Model.ValidateSpec Proofs.Validate

/-- the characters the near-valid stream puts around a code word -/
def strayChars : List Char :=
  ['\n', '\r', '\t', ' ', Char.ofNat 0, Char.ofNat 0x0b, Char.ofNat 0x0c, Char.ofNat 0x1c, Char.ofNat 0x1f,
   Char.ofNat 0x85, Char.ofNat 0xa0, Char.ofNat 0x2028, Char.ofNat 0x2029, Char.ofNat 0x2003, Char.ofNat 0x3000,
   Char.ofNat 0x200b, Char.ofNat 0xfeff]

/-- the keyword sets of the statement (exact-membership classes) -/
def keywordSets : List (List String) :=
  [docBorderStyles, docTextJust, docRowJust, docVertAlign, docOrientation, docPlacement, docPagebyRow,
   docFigAlign, docFigPos]

/-- A format string with one foreign character anywhere in it is not a legal format. -/
theorem C19near_format_foreign_char (s : String) (c : Char) (hc : c ∈ s.toList)
    (hf : docFormatCodes.contains (String.singleton c) = false) :
    legal .textFormat (.str s) = false := by
  simp only [legal, classOf, legalC]
  apply List.all_eq_false.mpr
  exact ⟨c, hc, by simpa using hf⟩

/-- … and the validation of a `text_format` value of any shape that holds it at any position fails with pydantic's
`ValidationError`, on table and text components alike. -/
theorem C19near_format_foreign_char_rejected (table : Bool) (x : Raw) (s : String) (c : Char)
    (hx : Val.str s ∈ x.elems) (hc : c ∈ s.toList)
    (hf : docFormatCodes.contains (String.singleton c) = false) :
    validateField table .textFormat x = .error .validationError :=
  Props.C19.C19_illegal_value_rejected table .textFormat x (.str s) hx (by simp [wellTyped, classOf, wellTypedC])
    (C19near_format_foreign_char s c hc hf)

/-- None of the stray characters is a format letter. -/
theorem C19near_stray_not_format_letter :
    strayChars.all (fun c => !docFormatCodes.contains (String.singleton c)) = true := by decide +kernel

/-- a trailing line feed, as a corollary: `"b\n"`, `"\n"`, `"^_\n"`, … any format string ending in a line feed -/
theorem C19near_format_trailing_line_feed (table : Bool) (x : Raw) (g : String)
    (hx : Val.str (g ++ "\n") ∈ x.elems) :
    validateField table .textFormat x = .error .validationError := by
  apply C19near_format_foreign_char_rejected table x (g ++ "\n") '\n' hx
  · simp [String.toList_append]
  · decide +kernel

/-- No documented keyword holds a stray character (kernel-decided over the literal sets; characters are compared
by code point: `Char` equality does not reduce to one comparison in the kernel). -/
theorem keywords_hold_no_stray :
    keywordSets.all (fun ks => ks.all fun w => w.toList.all fun ch =>
      strayChars.all fun c => ch.toNat != c.toNat) = true := by
  decide +kernel

/-- Hence a string that holds a stray character is in no keyword set. -/
theorem stray_not_keyword {ks : List String} (hks : ks ∈ keywordSets) {c : Char} (hc : c ∈ strayChars)
    {s : String} (hs : c ∈ s.toList) : (!ks.contains s) = true := by
  rw [Bool.not_eq_true', List.contains_eq_mem, decide_eq_false_iff_not]
  intro hmem
  have := List.all_eq_true.mp (List.all_eq_true.mp (List.all_eq_true.mp
    (List.all_eq_true.mp keywords_hold_no_stray ks hks) s hmem) c hs) c hc
  exact absurd rfl (bne_iff_ne.mp this)

/-- No documented keyword followed by a stray character (once or twice) is a documented keyword. -/
theorem C19near_keyword_suffix_illegal :
    keywordSets.all (fun ks => ks.all fun g => strayChars.all fun c =>
      !ks.contains (g ++ String.singleton c) && !ks.contains (g ++ String.singleton c ++ String.singleton c)) = true := by
  simp only [List.all_eq_true, Bool.and_eq_true]
  intro ks hks g _ c hc
  exact ⟨stray_not_keyword hks hc (by simp), stray_not_keyword hks hc (by simp)⟩

/-- No documented keyword preceded by a stray character is a documented keyword. -/
theorem C19near_keyword_prefix_illegal :
    keywordSets.all (fun ks => ks.all fun g => strayChars.all fun c =>
      !ks.contains (String.singleton c ++ g)) = true := by
  simp only [List.all_eq_true]
  intro ks hks g _ c hc
  exact stray_not_keyword hks hc (by simp)

/-- the hypotheses are satisfiable: concrete near-valid values and their verdicts -/
example : specComp .title (fun f => match f with
      | .textFormat => some (.flat [.str "b", .str "i\n"])
      | _ => none) {} = .reject ∧
    constructComp .body (fun f => match f with
      | .borderTop => some (.nested [[.str "single", .str "double\r\n"]])
      | _ => none) {} = .error .validationError ∧
    specComp .title (fun f => match f with
      | .textFormat => some (.scalar (.str "bb"))
      | _ => none) {} = .accept := by decide +kernel

end Props.C19near
