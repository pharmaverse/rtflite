import Model.Convert
import Model.ConvertSpec
import Proofs.Convert
/-!
# C11 — text conversion translates exactly the documented tokens and nothing else

Model: `Model.Convert` — `TextContent._convert_special_chars` up to (excluding) the per-character escaper:
the ordered `str.replace` passes over `RTF_CHAR_MAPPING` (`literalPasses charMapping`) followed by the
LaTeX pass `re.sub(r"\\[a-zA-Z]+(?:\{[^}]*\})?", …)` (`latexPass latexTable`); the escaper (C10) is the
parameter `esc` of `convertSpecial`.

Specification: `Model.Convert.spec` — ONE left-to-right pass producing events (plain character, mapped
character, super/sub switch, ≥/≤ sign, line break, three page fields, verbatim unknown command) and their
natural rendering `render`.

How the statement's sentences map to the theorems:
* "every supported command is replaced by its mapped character; longest letter run; brace group looked up
  together; unknown stay verbatim; `^ _ >= <=` newline, page keywords; all other characters unchanged and in
  order"  —  `convertCore true t = render (spec t)`.  The unchanged code does **not** satisfy this for every
  text (`C11_witness…`): it is proved for all `regular` texts without comparison tokens
  (`C11_conversion_partial`), and for all `regular` texts up to the blank rtflite leaves after `≥`/`≤`
  (`C11_conversion_upto_D15`, observation D15, pinned by tests/test_divider_filtering.py).
* "with conversion off the text is emitted verbatim apart from escaping" — `C11_conversion_off`.
* "controlled per component and per cell by text_convert" — `C11_per_position`, `C11_defaults`.

Facts about the generated tables are `decide +kernel` obligations: an edit of `RTF_CHAR_MAPPING`,
`unicode_latex` or a constructor default in the source tree re-opens them.
-/
namespace Props.C11
open Model.Convert Proofs.Convert

-- for the `decide +kernel` sweeps over the 682 rows of the symbol table
set_option maxRecDepth 100000

/-! ## obligations on the generated tables -/

/-- `RTF_CHAR_MAPPING` is, in this order, the documented token list with the documented control words -/
theorem C11_table_char_mapping : charMapping = docRules := by decide +kernel

/-- no pattern overlaps another pattern or an earlier output: sequential passes = one simultaneous pass -/
theorem C11_table_rules_compatible : allCompat [] docRules = true := by decide +kernel

/-- every character of every listed command is a code point below the surrogates -/
theorem C11_table_key_codes_valid : validCodes Generated.latexCodes = true := by decide +kernel

/-- no command is listed twice (so "a later duplicate wins" never applies) -/
theorem C11_table_keys_distinct : (latexTable.map (·.1)).Nodup :=
  latexTable_nodup (by decide +kernel) C11_table_key_codes_valid

/-- every listed code point is a scalar value of the basic plane above ASCII (`chr(cp)` is `Char.ofNat cp`) -/
theorem C11_table_codepoints_valid : latexTable.all (fun kv => decide (128 ≤ kv.2 ∧ kv.2 < 55296)) = true := by
  decide +kernel

/-- the dict lookup of a command, read off the generated code-point rows (numbers are compared, not characters) -/
theorem C11_table_lookup (k : Str) :
    lookupLast latexTable k = Generated.latexCodes.lookup (k.map Char.toNat) := by
  rw [lookupLast_eq_first latexTable C11_table_keys_distinct]
  exact lookupFirst_codes C11_table_key_codes_valid k

/-- of the control words written by the literal passes exactly `\geq` and `\leq` are commands of the
symbol table (and map to U+2265, U+2264); the others, and the field group, pass through the LaTeX pass -/
theorem C11_table_control_words : TableFacts latexTable where
  unique := lookupLast_eq_first latexTable C11_table_keys_distinct
  super := (C11_table_lookup _).trans (by decide +kernel)
  sub := (C11_table_lookup _).trans (by decide +kernel)
  line := (C11_table_lookup _).trans (by decide +kernel)
  chpgn := (C11_table_lookup _).trans (by decide +kernel)
  totalpage := (C11_table_lookup _).trans (by decide +kernel)
  field := (C11_table_lookup _).trans (by decide +kernel)
  geq := (C11_table_lookup _).trans (by decide +kernel)
  leq := (C11_table_lookup _).trans (by decide +kernel)

/-- the symbol table is the documented one: 682 rows, digest over all (command, code point) pairs.
A row added, dropped or altered in `unicode_latex` re-opens this obligation (row order does not matter). -/
theorem C11_table_documented : tableDigest Generated.latexCodes = (682, 1761388101567058047) := by
  decide +kernel

/-- exactly four listed commands cannot be written with the documented syntax `\letters{group}?` -/
theorem C11_table_unnameable :
    (latexTable.filter (fun kv => !nameable kv.1)).map (·.1) =
      [['\\', '|'], ['\\', ':'], ['\\', 's', 'q', 'r', 't', '[', '3', ']'], ['\\', 's', 'q', 'r', 't', '[', '4', ']']] := by
  decide +kernel

/-- no listed command begins with a literal token, and none has one after its letter run: every
command the documented syntax can name is `regular` -/
theorem C11_table_keys_regular {kv : Str × Nat} (hm : kv ∈ latexTable) (hn : nameable kv.1 = true) :
    findTok kv.1 = none ∧ regular kv.1 = true := by
  have sweep : latexTable.all (fun kv =>
      (findTok kv.1).isNone && cleanUntilClose (kv.1.tail.dropWhile isLetter)) = true := by
    decide +kernel
  have h := List.all_eq_true.mp sweep kv hm
  simp only [Bool.and_eq_true, Option.isNone_iff_eq_none] at h
  exact ⟨h.1, regular_single hn h.1 h.2⟩

/-! ## the conversion -/

/-- The eight `str.replace` passes in dict order equal ONE left-to-right pass that replaces, at each
position, the documented token starting there (all texts). -/
theorem C11_literal_passes_one_pass (t : Str) : literalPasses charMapping t = sim docRules t := by
  rw [C11_table_char_mapping]
  exact passes_eq_sim docRules C11_table_rules_compatible t

/-- On every `regular` text the multi-pass implementation writes exactly the rendering of the one-pass
specification, where a blank follows each `≥`/`≤` (D15). -/
theorem C11_conversion_upto_D15 (t : Str) (h : regular t = true) :
    convertCore true t = renderD15 (spec t) := by
  simp only [convertCore, convertCoreWith, if_true]
  rw [C11_literal_passes_one_pass]
  exact core_eq C11_table_control_words t h

/-- On every `regular` text without `>=`/`<=` tokens the implementation writes exactly the natural
rendering of the one-pass specification. -/
theorem C11_conversion_partial (t : Str) (h : regular t = true) (hc : noCmp (spec t) = true) :
    convertCore true t = render (spec t) := by
  rw [C11_conversion_upto_D15 t h, renderD15_eq_render _ hc]

/-- the property at full strength -/
def C11_full : Prop := ∀ t : Str, convertCore true t = render (spec t)

/-- D15: `a>=b` gives `a≥ b` -/
theorem C11_witness : ¬ C11_full := by
  intro h
  have := h ['a', '>', '=', 'b']
  rw [C11_conversion_upto_D15 _ (by decide +kernel)] at this
  revert this
  decide +kernel

/-- a literal token inside the brace group of a command is converted although the group is looked up
(and left) as a whole: `\mathbb{^}` gives `\mathbb{\super }` -/
theorem C11_witness_token_in_group :
    regular ['\\', 'm', 'a', 't', 'h', 'b', 'b', '{', '^', '}'] = false ∧
    convertCore true ['\\', 'm', 'a', 't', 'h', 'b', 'b', '{', '^', '}'] ≠
      renderD15 (spec ['\\', 'm', 'a', 't', 'h', 'b', 'b', '{', '^', '}']) := by
  decide +kernel

/-- the output of `\pagefield` starts with a brace group, which the LaTeX pass attaches to a command
directly in front of it: `\alpha\pagefield` leaves `\alpha` unconverted -/
theorem C11_witness_pagefield_after_command :
    regular (['\\', 'a', 'l', 'p', 'h', 'a'] ++ patPageField) = false ∧
    convertCore true (['\\', 'a', 'l', 'p', 'h', 'a'] ++ patPageField) ≠
      renderD15 (spec (['\\', 'a', 'l', 'p', 'h', 'a'] ++ patPageField)) := by
  decide +kernel

/-- … or closes an open brace for it: `\alpha{\pagefield` leaves `\alpha` unconverted -/
theorem C11_witness_pagefield_closes_group :
    regular (['\\', 'a', 'l', 'p', 'h', 'a', '{'] ++ patPageField) = false ∧
    convertCore true (['\\', 'a', 'l', 'p', 'h', 'a', '{'] ++ patPageField) ≠
      renderD15 (spec (['\\', 'a', 'l', 'p', 'h', 'a', '{'] ++ patPageField)) := by
  decide +kernel

/-- Every listed command that the documented syntax can name, standing alone, is replaced by exactly its
listed character. -/
theorem C11_supported_commands (k : Str) (cp : Nat) (hm : (k, cp) ∈ latexTable) (hn : nameable k = true) :
    convertCore true k = [Char.ofNat cp] ∧ (Char.ofNat cp).toNat = cp := by
  have hreg := C11_table_keys_regular hm hn
  have hcp := List.all_eq_true.mp C11_table_codepoints_valid (k, cp) hm
  simp only [decide_eq_true_eq] at hcp
  refine ⟨?_, toNat_ofNat_of_lt hcp.2⟩
  rw [C11_conversion_upto_D15 k hreg.2]
  show renderD15 (specGo latexTable 0 k) = _
  rw [spec_single latexTable hn hreg.1]
  simp [cmdEvent, lookupFirst_of_mem latexTable C11_table_keys_distinct hm, renderD15, renderEventD15, renderEvent]

/-- In context: a listed simple command followed by anything that is not a letter and not a brace group is
read as its listed character and the reading continues behind it. -/
theorem C11_spec_command_in_context (name post : Str) (cp : Nat) (hm : ('\\' :: name, cp) ∈ latexTable)
    (hne : name ≠ []) (hl : ∀ c ∈ name, isLetter c = true) (hpost : hnl post = true)
    (hb : braceGroup post = none) (hkw : findTok ('\\' :: (name ++ post)) = none) :
    spec ('\\' :: (name ++ post)) = .mapped (Char.ofNat cp) :: spec post := by
  have hmc : matchCmd (name ++ post) = some name := by rw [matchCmd_app hne hl hpost, hb]
  show specGo latexTable 0 _ = _
  rw [spec_cmd latexTable hkw hmc, List.drop_left]
  simp [cmdEvent, lookupFirst_of_mem latexTable C11_table_keys_distinct hm, spec, specWith]

/-! ## conversion off, and the route of the flag -/

/-- with conversion off the text reaches the escaper unchanged -/
theorem C11_conversion_off (esc : Str → Str) (t : Str) : convertSpecial esc false t = esc t := rfl

/-- with conversion on, a regular text reaches the escaper as the rendering of its one-pass reading -/
theorem C11_conversion_on (esc : Str → Str) (t : Str) (h : regular t = true) :
    convertSpecial esc true t = esc (renderD15 (spec t)) := by
  show esc (convertCore true t) = _
  rw [C11_conversion_upto_D15 t h]

/-- the flag used at a text position is `text_convert.iloc(r, c)` of the component's own value -/
theorem C11_per_position (esc : Str → Str) (v : FlagVal) (r c : Nat) (t : Str) (b : Bool)
    (h : flagAt v r c = some b) :
    positionText esc v r c t = some (if b then esc (convertCore true t) else esc t) := by
  simp only [positionText, h, Option.map_some]
  cases b <;> rfl

/-- constructor defaults: the model's defaults are what default-constructed components hold (generated
from the source tree), they broadcast to every position, and they are the documented ones -/
theorem C11_defaults (comp : Comp) (r c : Nat) :
    generatedDefault comp = some (defaultFlag comp) ∧
    flagAt (defaultFlag comp) r c = some (documentedDefault comp) := by
  cases comp <;> refine ⟨by decide +kernel, ?_⟩ <;>
    simp [flagAt, toNested, defaultFlag, iloc, documentedDefault, Nat.mod_one]

/-- The same text converts the same way in every position whose flag is the same — whatever component the
position belongs to (title, subline, page header/footer, column header cell, body cell, group heading,
footnote or source as table row or as paragraph), whatever shape its `text_convert` has (scalar, per line,
per column, matrix) and whatever the text looks like: nothing but the flag and the text enters. -/
theorem C11_position_independent (esc : Str → Str) (v₁ v₂ : FlagVal) (r₁ c₁ r₂ c₂ : Nat) (t : Str) (b : Bool)
    (h₁ : flagAt v₁ r₁ c₁ = some b) (h₂ : flagAt v₂ r₂ c₂ = some b) :
    positionText esc v₁ r₁ c₁ t = positionText esc v₂ r₂ c₂ t := by
  rw [C11_per_position esc v₁ r₁ c₁ t b h₁, C11_per_position esc v₂ r₂ c₂ t b h₂]

/-! ## texts that look like another literal (numbers, digit groups, `inf`/`nan`, booleans, blanks around them) -/

/-- a text without a backslash is `regular`: no command, no page keyword, so nothing the passes could confuse -/
theorem C11_backslash_free_regular (t : Str) (h : '\\' ∉ t) : regular t = true := by
  have go : ∀ (t : Str) (k : Nat), '\\' ∉ t → regularGo k t = true := by
    intro t
    induction t with
    | nil => intro k _; cases k <;> rfl
    | cons c t ih =>
      intro k hk
      have ht : '\\' ∉ t := fun hm => hk (List.mem_cons_of_mem _ hm)
      have hc : c ≠ '\\' := fun he => hk (he ▸ List.mem_cons_self)
      cases k with
      | succ k => exact ih k ht
      | zero =>
        unfold regularGo
        split
        · exact ih _ ht
        · simp only [hc, if_false]
          exact ih 0 ht
  exact go t 0 h

/-- Hence every backslash-free text — in particular every text a number parser would accept: digits, signs,
a decimal point, an exponent, digit-group underscores, `inf`, `nan`, surrounding blanks and newlines — is
converted token by token like any other text: `_` and `^` switch, a newline breaks the line, `>=`/`<=` become
the signs (followed by the blank of D15), every other character stays. -/
theorem C11_conversion_backslash_free (t : Str) (h : '\\' ∉ t) : convertCore true t = renderD15 (spec t) :=
  C11_conversion_upto_D15 t (C11_backslash_free_regular t h)

/-- … and exactly the natural rendering when no comparison token occurs -/
theorem C11_conversion_backslash_free_exact (t : Str) (h : '\\' ∉ t) (hc : noCmp (spec t) = true) :
    convertCore true t = render (spec t) :=
  C11_conversion_partial t (C11_backslash_free_regular t h) hc

/-- number-like texts are read like any other: `101_2` is `101`, subscript switch, `2`; `12` followed by a
newline is `12` and a line break; `1e1_0`, ` 1_000 `, `inf^2`, `-1_0.5`, `True_1` likewise -/
example :
    spec "101_2".toList = [.plain '1', .plain '0', .plain '1', .sub, .plain '2'] ∧
    convertCore true "101_2".toList = "101\\sub 2".toList ∧
    convertCore true "12\n".toList = "12\\line ".toList ∧
    convertCore true "\n3.5".toList = "\\line 3.5".toList ∧
    convertCore true "1e1_0".toList = "1e1\\sub 0".toList ∧
    convertCore true " 1_000 ".toList = " 1\\sub 000 ".toList ∧
    convertCore true "inf^2".toList = "inf\\super 2".toList ∧
    convertCore true "-1_0.5".toList = "-1\\sub 0.5".toList ∧
    convertCore true "True_1".toList = "True\\sub 1".toList ∧
    convertCore false "101_2".toList = "101_2".toList := by
  -- evaluated on the specification (`C11_conversion_backslash_free`), not by running the passes
  have conv : ∀ t r : Str, ('\\' ∉ t ∧ renderD15 (spec t) = r) → convertCore true t = r :=
    fun t _ h => h.2 ▸ C11_conversion_backslash_free t h.1
  refine ⟨?_, conv _ _ ?_, conv _ _ ?_, conv _ _ ?_, conv _ _ ?_, conv _ _ ?_, conv _ _ ?_, conv _ _ ?_,
    conv _ _ ?_, ?_⟩ <;> decide +kernel

/-! ## non-vacuity -/

/-- a regular text without comparison tokens that exercises every other kind of event -/
example :
    let t := "x^2_i \\alpha\\beta \\mathbb{R} \\foo{a} \\pagenumber/\\totalpage \\pagefield\nend {b} \\".toList
    regular t = true ∧ noCmp (spec t) = true ∧ (spec t).length = 28 ∧
    convertCore true t = render (spec t) := by
  intro t
  have h : regular t = true ∧ noCmp (spec t) = true ∧ (spec t).length = 28 := by
    unfold t
    decide +kernel
  exact ⟨h.1, h.2.1, h.2.2, C11_conversion_partial _ h.1 h.2.1⟩

/-- a regular text with a comparison token: agreement up to D15 only -/
example : regular "n>=3".toList = true ∧ noCmp (spec "n>=3".toList) = false ∧
    convertCore true "n>=3".toList = renderD15 (spec "n>=3".toList) := by
  have h : regular "n>=3".toList = true ∧ noCmp (spec "n>=3".toList) = false := by decide +kernel
  exact ⟨h.1, h.2, C11_conversion_upto_D15 _ h.1⟩

/-! ## how the specification reads the boundary cases (interpretation made explicit) -/

/-- page keywords are literal tokens (matched as prefixes, like `>=`): `\pagenumberx` is the page-number
field followed by `x`;  the longest letter run names a command: `\alphax` is one unknown command, `\alpha1`
is `α` followed by `1`;  a directly following brace group is looked up with the command: `\mathbb{R}x` is `ℝ`,
`x`, but `\alpha{x}` is not in the table and stays verbatim as a whole, and so does `\foo{\alpha}` (nothing
inside a verbatim command is converted);  an unclosed brace is ordinary text. -/
example :
    spec "\\pagenumberx".toList = [.pageNumber, .plain 'x'] ∧
    spec "\\alphax".toList = [.verbatim "\\alphax".toList] ∧
    spec "\\alpha1".toList = [.mapped 'α', .plain '1'] ∧
    spec "\\mathbb{R}x".toList = [.mapped 'ℝ', .plain 'x'] ∧
    spec "\\alpha{x}".toList = [.verbatim "\\alpha{x}".toList] ∧
    spec "\\foo{\\alpha}".toList = [.verbatim "\\foo{\\alpha}".toList] ∧
    spec "\\alpha{x".toList = [.mapped 'α', .plain '{', .plain 'x'] := by
  decide +kernel

end Props.C11
