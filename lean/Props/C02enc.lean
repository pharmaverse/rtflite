import Model.Encode
import Model.Layout
import Proofs.EncodeLift
import Props.C02
import Props.C01enc
/-!
# C02 for the whole-encoder model: no data cell is lost, duplicated, reordered or altered

`Props/C02.lean` proves the property about the role-level layout (`Layout.layout ld` for EVERY `ld`).  Here it is stated
about the ENCODER model `Model.Encode.encode` (byte-exact against `rtf_encode()`):

* `C02enc_structure`         every accepted document has a plan (`Proofs.EncodeLift.plan`: `prepare`, the `LDoc` of
                             `mkLDoc`, the final frame) and a trace `R` (page by page, block by block, the elements each
                             block was rendered to); the output blocks are the trace's elements joined by newlines;
* `C02enc_rows_once_in_order`   the `.data i` blocks over all pages, in rendering order, are `0, 1, …, nrows-1`;
* `C02enc_row_on_its_page`   a data row is rendered on the page the pagination assigned to it, inside the page's slice;
* `C02enc_data_row`          every `.data i` block is rendered as ONE table row:
                             `encodeRow k attrs cum (i - dataStart) rows[i]`, with one cell per value whose text hole is
                             `textNodes (convText conv (value or ""))`;
* `C02enc_row_content`, `C02enc_kept_cols`, `C02enc_renderRow`  (without group_by) `rows[i]` is frame row `i` with
                             exactly the removed columns dropped (subline_by; page_by when spanning rows are shown), the
                             others in their original order — the last one in the vocabulary of `Props.C02`, so that
                             `C02_kept_cols_order` / `C02_row_cells` apply verbatim (`C02enc_row_cells`);
* `C02enc`                   all of it from `encode measure d = .ok g`.
-/
namespace Props.C02enc
open Model.Rtf Model.Emit Model.Encode Model.Broadcast Model.Layout Proofs.EncodeLift
open Props.C02 (dataIdx)

/-- the frame is rectangular: every row has one value per column (an invariant of `pl.DataFrame`) -/
def Rect (d : Doc) : Prop := ∀ r ∈ d.rows, r.length = d.cols.length

/-! ## the encoder's plan and trace -/

/-- every accepted document has a plan and a rendering trace; the blocks of the output are the elements of the trace,
in order, joined by newlines -/
theorem C02enc_structure (measure : Measure) (d : Doc) (g : DocG) (h : encode measure d = .ok g) :
    ∃ pl R, plan measure d = .ok pl ∧ Renders (mkColorCtx d) d pl R ∧
      g.blocks = joinElems R.elems ++ [BlockG.plain [Node.nl, Node.nl, Node.nl, Node.nl]] :=
  encode_trace h

/-- the page renderer of the encoder succeeds exactly when the plan exists and every block renders; its result is the
concatenation of the block renderings -/
theorem C02enc_pages_structure (measure : Measure) (k : ColorCtx) (d : Doc) (elems : List Elem) (near : Nat) :
    encodePages measure k d = .ok (elems, near) ↔
      ∃ pl R, plan measure d = .ok pl ∧ Renders k d pl R ∧ elems = R.elems ∧ near = pl.near :=
  encodePages_trace

/-! ## every row once, in order, on its page -/

/-- the `.data i` blocks the encoder renders, over all pages in rendering order, are exactly `0 … nrows-1`:
every frame row is rendered once, in the original order -/
theorem C02enc_rows_once_in_order (measure : Measure) (d : Doc) (pl : Plan) (hp : plan measure d = .ok pl) :
    pl.pageBlocks.flatMap (fun x => dataIdx x.2) = List.range d.rows.length := by
  have h1 : pl.pageBlocks.flatMap (fun x => dataIdx x.2) = (pl.pageBlocks.map Prod.snd).flatMap dataIdx := by
    rw [List.flatMap_map]
  rw [h1, pageBlocks_map_snd, Props.C02.C02_rows_once_in_order, (plan_facts hp).length]

/-- the same on the trace -/
theorem C02enc_trace_rows_once (measure : Measure) (k : ColorCtx) (d : Doc) (pl : Plan) (R : Trace)
    (hp : plan measure d = .ok pl) (hR : Renders k d pl R) :
    R.flatMap (fun x => dataIdx (x.2.map Prod.fst)) = List.range d.rows.length := by
  rw [← C02enc_rows_once_in_order measure d pl hp, ← hR.blocks, Trace.blocks, List.flatMap_map]

/-- a data row is rendered on the page the pagination assigned to it (pages are numbered from 1), inside the page's
slice of the frame; the slice of the processed frame starts where the slice of the original frame starts -/
theorem C02enc_row_on_its_page (measure : Measure) (d : Doc) (pl : Plan) (hp : plan measure d = .ok pl)
    (n i : Nat) (x : PageCtx × List Block) (hx : pl.pageBlocks[n]? = some x) (hi : i ∈ dataIdx x.2) :
    pl.ld.pageNums[i]? = some (n + 1) ∧ x.1.number = n + 1 ∧ x.1.dataStart = x.1.start ∧
      x.1.start ≤ i ∧ i < x.1.start + x.1.height ∧ i < d.rows.length := by
  obtain ⟨hpg, _⟩ := pageBlocks_getElem? hx
  have h1 := Props.C02.C02_row_on_its_page pl.ld n i x.2
    (by rw [← pageBlocks_map_snd, List.getElem?_map, hx]; rfl) hi
  have hnum := (Proofs.Layout.pages_numbering pl.ld n x.1 hpg).1
  have hlt : i < pl.ld.rows.length := by
    rw [← Proofs.Layout.pageNums_length]
    exact (List.getElem?_eq_some_iff.mp h1).1
  obtain ⟨_, hall, _⟩ := Props.C02.C02_pages_structure pl.ld (List.ne_nil_of_length_pos (Nat.zero_lt_of_lt hlt))
  obtain ⟨_, hds, _, _, hiff⟩ := hall x.1 (List.mem_of_getElem? hpg)
  have hin := (hiff i).mpr (by rw [h1, hnum])
  rw [(plan_facts hp).length] at hlt
  exact ⟨h1, hnum, hds, hin.1, hin.2, hlt⟩

/-- the same on the trace: a data block of a rendered page lies in the page's slice -/
theorem C02enc_trace_row_on_its_page (measure : Measure) (k : ColorCtx) (d : Doc) (pl : Plan) (R : Trace)
    (hp : plan measure d = .ok pl) (hR : Renders k d pl R) (x : PageCtx × List (Block × List Elem)) (hx : x ∈ R)
    (y : Block × List Elem) (hy : y ∈ x.2) (i : Nat) (hb : y.1 = Block.data i) :
    x.1.dataStart = x.1.start ∧ x.1.start ≤ i ∧ i < x.1.start + x.1.height ∧ i < d.rows.length := by
  obtain ⟨n, hn⟩ := List.getElem?_of_mem (hR.page_mem hx)
  have hi : i ∈ dataIdx (x.2.map Prod.fst) := by
    simp only [dataIdx, List.mem_filterMap, List.mem_map]
    exact ⟨y.1, ⟨y, hy, rfl⟩, by rw [hb]⟩
  exact (C02enc_row_on_its_page measure d pl hp n i _ hn hi).2.2

/-! ## a data block is one table row of the final frame -/

/-- every `.data i` block of the trace was rendered as exactly one table row: `encodeRow` with the page's attributes,
the body's cumulative widths, the row's position on the page as attribute row, and row `i` of the final frame.
The row has one cell per value; the text hole of cell `j` is the converted, escaped display text of value `j`
(`""` for null), with the `convert` flag and text format resolved from the page attributes at `(i - dataStart, j)`,
and its right boundary is the twip value of the `j`-th cumulative width. -/
theorem C02enc_data_row (k : ColorCtx) (d : Doc) (pl : Plan) (R : Trace) (hR : Renders k d pl R)
    (x : PageCtx × List (Block × List Elem)) (hx : x ∈ R) (y : Block × List Elem) (hy : y ∈ x.2)
    (i : Nat) (hb : y.1 = Block.data i) :
    ∃ cells fmt, pl.rows[i]? = some cells ∧
      encodeRow k (pageAttrs d pl.bodyA pl.p x.1).attrs pl.p.cum (i - x.1.dataStart) cells = .ok (rowElem fmt) ∧
      y.2 = [rowElem fmt] ∧ cells ≠ [] ∧ fmt.cells.length = cells.length ∧
      ∀ j c, cells[j]? = some c → ∃ cf tv tf conv w,
        fmt.cells[j]? = some cf ∧
        textValsAt (pageAttrs d pl.bodyA pl.p x.1).attrs.toTextAttrsOf (i - x.1.dataStart) j = .ok tv ∧
        resolveText k tv = .ok (tf, conv) ∧ pl.p.cum[j]? = some w ∧
        cf.cellx = twip w ∧ cf.text = tf ∧ cf.body = textNodes (convText conv (c.getD [])) := by
  obtain ⟨cells, e, hcells, he, hy2⟩ := renderBlock_data_inv (hR.block hx hy hb)
  obtain ⟨hne, fmt, rfl, hlen, hcell⟩ := encodeRow_cells he
  refine ⟨cells, fmt, hcells, he, hy2, hne, hlen, ?_⟩
  intro j c hc
  obtain ⟨cf, hcf, hec⟩ := hcell j c hc
  obtain ⟨tv, tf, conv, w, h1, h2, h3, h4, h5, h6⟩ := encodeCell_body hec
  exact ⟨cf, tv, tf, conv, w, hcf, h1, h2, h3, h4, h5, h6⟩

/-- the final frame has one row per frame row, with and without group_by -/
theorem C02enc_rows_length (measure : Measure) (d : Doc) (pl : Plan) (hp : plan measure d = .ok pl) :
    pl.rows.length = d.rows.length :=
  (plan_rows_length hp).1

/-! ## which columns become cells -/

/-- the final frame is the processed frame when there is no group_by: every row of the original frame with the
positions of `removedIdx` dropped -/
theorem C02enc_rows_no_groupby (measure : Measure) (d : Doc) (pl : Plan) (hp : plan measure d = .ok pl)
    (hgb : d.body.groupByL = []) :
    ∃ removed, removedIdx d = .ok removed ∧
      removed = (removedNames d.body).map (fun n => d.cols.idxOf n) ∧ (∀ n ∈ removedNames d.body, n ∈ d.cols) ∧
      pl.rows = d.rows.map (fun r => dropCols r removed) ∧ pl.p.dispCols = dropCols d.cols removed := by
  obtain ⟨hprep, _, _, hfin⟩ := plan_ok hp
  obtain ⟨removed, _, ⟨hrem, _, hcols⟩, _, _, _, hrows, _⟩ := Proofs.Encode.prepare_facts hprep
  obtain ⟨h1, h2⟩ := removedIdx_ok hrem
  refine ⟨removed, hrem, h1, h2, ?_, hcols⟩
  unfold finalRows at hfin
  simp only [hgb, List.isEmpty_nil, if_true] at hfin
  rw [← Except.ok.inj hfin]
  exact hrows

/-- `columns_to_remove`: the subline_by columns always, the page_by columns exactly when spanning rows are shown -/
theorem C02enc_removed_names (d : Doc) :
    removedNames d.body = d.body.sublineByL ++ (if spanningDoc d then d.body.pageByL else []) :=
  removedNames_eq d

/-- (without group_by, unique column names) the row the encoder renders for frame row `i` consists of exactly the
cells of the columns that are not removed, unaltered and in their original order -/
theorem C02enc_row_content (measure : Measure) (d : Doc) (pl : Plan) (hp : plan measure d = .ok pl)
    (hgb : d.body.groupByL = []) (hnd : d.cols.Nodup) (i : Nat) (row : List (Option Str))
    (hrow : d.rows[i]? = some row) (hlen : row.length = d.cols.length) :
    pl.rows[i]? = some (((d.cols.zip row).filter fun x => !(removedNames d.body).contains x.1).map (·.2)) := by
  obtain ⟨removed, _, h1, _, h3, _⟩ := C02enc_rows_no_groupby measure d pl hp hgb
  rw [h3, List.getElem?_map, hrow, Option.map_some, h1,
    dropCols_eq_filter hnd (removedNames d.body) row (Nat.le_of_eq hlen)]

/-- (unique column names) the displayed columns are the columns that are not removed, in their original order -/
theorem C02enc_kept_cols (measure : Measure) (d : Doc) (pl : Plan) (hp : plan measure d = .ok pl)
    (hnd : d.cols.Nodup) :
    pl.p.dispCols = d.cols.filter (fun c => !(removedNames d.body).contains c) ∧
    pl.p.dispCols.Sublist d.cols ∧
    ∀ c, c ∈ pl.p.dispCols ↔ (c ∈ d.cols ∧ c ∉ removedNames d.body) := by
  obtain ⟨hprep, _, _, _⟩ := plan_ok hp
  obtain ⟨removed, _, ⟨hrem, _, hcols⟩, _⟩ := Proofs.Encode.prepare_facts hprep
  obtain ⟨h1, _⟩ := removedIdx_ok hrem
  have he : pl.p.dispCols = d.cols.filter (fun c => !(removedNames d.body).contains c) := by
    rw [hcols, h1, dropCols_cols_eq_filter hnd]
  refine ⟨he, by rw [he]; exact List.filter_sublist, ?_⟩
  intro c
  rw [he]
  simp [List.mem_filter]

/-! ## the same in the vocabulary of `Props.C02` -/

/-- the removed names of the encoder are `Props.C02.removedCols` of the page_by / subline_by names -/
theorem C02enc_removedCols (d : Doc) :
    (removedNames d.body).map String.ofList =
      Props.C02.removedCols (d.body.pageByL.map String.ofList) (d.body.sublineByL.map String.ofList) (spanningDoc d) := by
  rw [removedNames_eq, Props.C02.removedCols, List.map_append]
  split <;> simp

/-- (without group_by, unique column names) the display texts of the row the encoder renders for frame row `i` are
`Props.C02.renderRow` of the column names, the removed names and the frame row -/
theorem C02enc_renderRow (measure : Measure) (d : Doc) (pl : Plan) (hp : plan measure d = .ok pl)
    (hgb : d.body.groupByL = []) (hnd : d.cols.Nodup) (i : Nat) (row cells : List (Option Str))
    (hrow : d.rows[i]? = some row) (hlen : row.length = d.cols.length) (hcells : pl.rows[i]? = some cells) :
    cells.map (fun c => String.ofList (c.getD [])) =
      Props.C02.renderRow (d.cols.map String.ofList)
        (Props.C02.removedCols (d.body.pageByL.map String.ofList) (d.body.sublineByL.map String.ofList) (spanningDoc d))
        (row.map optString) := by
  have h := C02enc_row_content measure d pl hp hgb hnd i row hrow hlen
  rw [hcells, Option.some.injEq] at h
  rw [h, ← C02enc_removedCols, Props.C02.renderRow, List.zip_map, List.filter_map, List.map_map, List.map_map]
  congr 1
  · funext x
    obtain ⟨c, v⟩ := x
    cases v <;> rfl
  · congr 1
    funext x
    exact congrArg not (contains_map_ofList _ x.1).symm

/-- the displayed column names are `Props.C02.keptCols` -/
theorem C02enc_keptCols (measure : Measure) (d : Doc) (pl : Plan) (hp : plan measure d = .ok pl)
    (hnd : d.cols.Nodup) :
    pl.p.dispCols.map String.ofList =
      Props.C02.keptCols (d.cols.map String.ofList)
        (Props.C02.removedCols (d.body.pageByL.map String.ofList) (d.body.sublineByL.map String.ofList)
          (spanningDoc d)) := by
  rw [(C02enc_kept_cols measure d pl hp hnd).1, ← C02enc_removedCols, Props.C02.keptCols, List.filter_map]
  congr 2
  funext c
  exact congrArg not (contains_map_ofList _ c).symm

/-- (without group_by, rectangular frame, unique column names) every rendered row has exactly one cell per displayed
column -/
theorem C02enc_row_width (measure : Measure) (d : Doc) (pl : Plan) (hp : plan measure d = .ok pl)
    (hgb : d.body.groupByL = []) (hnd : d.cols.Nodup) (hrect : Rect d) (i : Nat) (cells : List (Option Str))
    (hcells : pl.rows[i]? = some cells) : cells.length = pl.p.dispCols.length := by
  have hi : i < d.rows.length := by
    rw [← (plan_rows_length hp).1]
    exact (List.getElem?_eq_some_iff.mp hcells).1
  have hlen := hrect _ (List.getElem_mem hi)
  have h1 := congrArg List.length
    (C02enc_renderRow measure d pl hp hgb hnd i _ cells (List.getElem?_eq_getElem hi) hlen hcells)
  have h2 := congrArg List.length (C02enc_keptCols measure d pl hp hnd)
  rw [List.length_map] at h1 h2
  rw [h1, h2]
  exact (Props.C02.C02_row_cells _ _ _ (by rw [List.length_map, List.length_map, hlen])).1

/-- `Props.C02.C02_row_cells` for the encoder: the `j`-th rendered cell of frame row `i` shows the value of the `j`-th
kept column, for the kept column's name `c` -/
theorem C02enc_row_cells (measure : Measure) (d : Doc) (pl : Plan) (hp : plan measure d = .ok pl)
    (hgb : d.body.groupByL = []) (hnd : d.cols.Nodup) (i : Nat) (row cells : List (Option Str))
    (hrow : d.rows[i]? = some row) (hlen : row.length = d.cols.length) (hcells : pl.rows[i]? = some cells)
    (j : Nat) (c : Str) (hj : pl.p.dispCols[j]? = some c) :
    ∃ (kk : Nat) (v : Option Str), d.cols[kk]? = some c ∧ row[kk]? = some v ∧
      (cells[j]?).map (fun x => String.ofList (x.getD [])) = some (String.ofList (v.getD [])) := by
  have h1 := C02enc_renderRow measure d pl hp hgb hnd i row cells hrow hlen hcells
  have h2 := C02enc_keptCols measure d pl hp hnd
  have hj' : (Props.C02.keptCols (d.cols.map String.ofList)
      (Props.C02.removedCols (d.body.pageByL.map String.ofList) (d.body.sublineByL.map String.ofList)
        (spanningDoc d)))[j]? = some (String.ofList c) := by
    rw [← h2, List.getElem?_map, hj]; rfl
  have hnd' : (d.cols.map String.ofList).Nodup := by
    unfold List.Nodup at hnd ⊢
    rw [List.pairwise_map]
    exact hnd.imp (fun hab he => hab (String.ofList_injective he))
  obtain ⟨kk, v, hk, hv, hres⟩ := (Props.C02.C02_row_cells (d.cols.map String.ofList) _ (row.map optString)
    (by simp [hlen])).2 j (String.ofList c) hj' hnd'
  rw [← h1, List.getElem?_map] at hres
  rw [List.getElem?_map, Option.map_eq_some_iff] at hk hv
  obtain ⟨c', hc, hk⟩ := hk
  obtain ⟨v', hr, rfl⟩ := hv
  refine ⟨kk, v', by rw [hc, String.ofList_injective hk], hr, ?_⟩
  rw [hres]
  cases v' <;> rfl

/-! ## all of it from `encode measure d = .ok g` -/

/-- **C02 for the encoder model.**  For every document the encoder accepts there are a plan and a trace such that the
output is the trace's elements joined by newlines, the data blocks of the trace are `0 … nrows-1` in order, and every
data block `.data i` was rendered to exactly one table row, `encodeRow` of row `i` of the final frame at attribute row
`i - dataStart` of its page, `dataStart ≤ i < dataStart + height`; without group_by the final frame is the original
frame with the removed columns' positions dropped. -/
theorem C02enc (measure : Measure) (d : Doc) (g : DocG) (h : encode measure d = .ok g) :
    ∃ pl R, plan measure d = .ok pl ∧ Renders (mkColorCtx d) d pl R ∧
      g.blocks = joinElems R.elems ++ [BlockG.plain [Node.nl, Node.nl, Node.nl, Node.nl]] ∧
      R.flatMap (fun x => dataIdx (x.2.map Prod.fst)) = List.range d.rows.length ∧
      (∀ x ∈ R, ∀ y ∈ x.2, ∀ i, y.1 = Block.data i →
        x.1.dataStart ≤ i ∧ i < x.1.dataStart + x.1.height ∧
        ∃ cells fmt, pl.rows[i]? = some cells ∧
          encodeRow (mkColorCtx d) (pageAttrs d pl.bodyA pl.p x.1).attrs pl.p.cum (i - x.1.dataStart) cells
            = .ok (rowElem fmt) ∧
          y.2 = [rowElem fmt] ∧ fmt.cells.length = cells.length) ∧
      (d.body.groupByL = [] → ∃ removed, removedIdx d = .ok removed ∧
        pl.rows = d.rows.map (fun r => dropCols r removed)) := by
  obtain ⟨pl, R, hp, hR, hg⟩ := encode_trace h
  refine ⟨pl, R, hp, hR, hg, C02enc_trace_rows_once measure _ d pl R hp hR, ?_, ?_⟩
  · intro x hx y hy i hb
    obtain ⟨cells, fmt, h1, h2, h3, _, h5, _⟩ := C02enc_data_row _ d pl R hR x hx y hy i hb
    obtain ⟨hds, h6, h7, _⟩ := C02enc_trace_row_on_its_page measure _ d pl R hp hR x hx y hy i hb
    rw [← hds] at h6 h7
    exact ⟨h6, h7, cells, fmt, h1, h2, h3, h5⟩
  · intro hgb
    obtain ⟨removed, h1, _, _, h4, _⟩ := C02enc_rows_no_groupby measure d pl hp hgb
    exact ⟨removed, h1, h4⟩

/-! ## non-vacuity -/

open Props.C01enc in
/-- five rows on two pages (`nrow = 5`: title is no table row; header, footnote, source reserve three) -/
def exDoc5 : Doc :=
  { exDoc [1, 2] with
    rows := [[some "x".toList, some "1".toList], [some "y".toList, some "2".toList], [some "z".toList, none],
             [some "n>=3".toList, some "é".toList], [some "w".toList, some "5".toList]],
    page := { exPage with nrow := 5 } }

set_option maxRecDepth 100000

open Props.C01enc in
/-- the encoder accepts the example, renders it on two pages with the data blocks `0,1,2 | 3,4`, and the hypotheses
of the column theorems (no group_by, unique names, rectangular frame) hold for it -/
example :
    (match encode exMeasure exDoc5 with | .ok _ => true | .error _ => false) = true ∧
    (match encoderBlocks exMeasure exDoc5 with
     | .ok pbs => pbs.map (fun x => (x.1.number, dataIdx x.2)) == [(1, [0, 1, 2]), (2, [3, 4])]
     | .error _ => false) = true ∧
    exDoc5.body.groupByL = [] ∧ exDoc5.cols.Nodup ∧ Rect exDoc5 := by
  refine ⟨by decide +kernel, by decide +kernel, rfl, by decide, ?_⟩
  intro r hr
  revert r
  decide

end Props.C02enc
