import Model.Escape
import Model.Emit
import Model.EscNodes
import Proofs.EscNodes
/-!
# C01 / C10 bridge — the escaper's output satisfies the emitter theorems' side conditions

`escNodes t` is the escaper's output for the code points `t` as syntax nodes.  It prints to exactly the bytes
`Model.Escape.escape t` (the model that C10 ties to the real `_escape_non_ascii`), it is a valid text hole
(`textOk`) and has the escaper's `\u` form (`uForm`) — for every text of Unicode scalar values without raw
`\ { }` and line ends.  Hence `C01e_rows_doc_wellformed` applies to rows whose cell bodies are escaped texts.
-/
namespace Props.C01esc
open Model.Rtf Model.Emit Model.Escape Model.EscNodes

set_option linter.unusedVariables false in
/-- the node form prints to the escaper's bytes (holds for every code-point list; `hs` is not needed) -/
theorem C01x_print_escape (t : List Nat) (hs : ∀ n ∈ t, isScalar n = true) :
    (printNodes (escNodes t)).map Char.toNat = escape t :=
  Proofs.EscNodes.print_escNodes t

set_option linter.unusedVariables false in
/-- an escaped text is a valid text hole of the emitters (`hs` is not needed, `hp` is) -/
theorem C01x_text_ok (t : List Nat) (hs : ∀ n ∈ t, isScalar n = true) (hp : ∀ n ∈ t, plainCp n = true) :
    textOk (escNodes t) = true := by
  simp only [textOk, Proofs.EscNodes.plain_escNodes t, Proofs.EscNodes.nodesOk_escNodes t hp, Bool.and_self]

/-- and has the `\uc1\uN*` form the `\u` discipline theorem needs -/
theorem C01x_u_form (t : List Nat) (hs : ∀ n ∈ t, isScalar n = true) :
    uForm (escNodes t) = true :=
  Proofs.EscNodes.uForm_escNodes t hs

/-- non-vacuity: "é😀 x" -/
example : (printNodes (escNodes [233, 128512, 32, 120])).map Char.toNat = escape [233, 128512, 32, 120] ∧
    textOk (escNodes [233, 128512, 32, 120]) = true ∧ uForm (escNodes [233, 128512, 32, 120]) = true := by decide +kernel

end Props.C01esc
