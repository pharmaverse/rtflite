import Model.Encode
import Proofs.EncodeLift
import Proofs.EncodeAttrs
import Proofs.EncodeText
import Proofs.ConvNodes
import Props.C02enc
import Props.C10enc
import Props.C11enc
import Proofs.FontTable
/-!
# C02 for the whole-encoder model: a data cell is altered by nothing but its OWN `text_convert` flag

`Props/C02enc.lean` shows that the text hole of cell `j` of data row `i` is `textNodes (convText conv value)` with the
flag `conv` resolved on the PAGE's attributes at the page-relative position.  When `text_convert` is given per column or
per cell, "no data cell is altered" additionally needs that this flag is the one the user gave for THAT cell: column
removal (page_by shown as spanning rows, subline_by) and page slicing must not re-bind a flag to another cell.

* `C02encflag_cell_own_flag`   the hole of displayed cell `j` (original column `c = keptIdx[j]`) of data row `i` is
                               `textNodes (convText conv value)` where `conv` is the body's `text_convert` read at the
                               cell's ORIGINAL position `(i, c)`;
* `C02encflag_off_verbatim`    a cell whose own flag is off is written as its escaped display text — `^ _ >= <=` and
                               everything else in it stay as they are (read back verbatim, C10), whatever the flags of
                               the other columns / rows and whichever columns were removed to its left.
-/
namespace Props.C02encflag
open Model.Rtf Model.Emit Model.Encode Model.Broadcast Model.Layout
open Proofs.EncodeLift Proofs.EncodeAttrs Proofs.EncodeText Proofs.ConvNodes
open Props.C02 (dataIdx)

/-- **the flag of a data cell is its own.**  For every `.data i` block of the trace, displayed column `j` whose original
column is `c`, and value `v` of the final frame's row `i` at `j`: the cell's text hole is the converted display text of
`v` under the body's `text_convert` at `(i, c)` — the position of the cell in the data frame the user passed. -/
theorem C02encflag_cell_own_flag (measure : Measure) (k : ColorCtx) (d : Doc) (pl : Plan) (R : Trace)
    (hp : plan measure d = .ok pl) (hR : Renders k d pl R) (hs : shapeOk d.body.attrs.convert = true)
    (x : PageCtx × List (Block × List Elem)) (hx : x ∈ R) (y : Block × List Elem) (hy : y ∈ x.2)
    (i : Nat) (hb : y.1 = Block.data i) :
    ∃ cells fmt, pl.rows[i]? = some cells ∧ y.2 = [rowElem fmt] ∧ fmt.cells.length = cells.length ∧
      ∀ (j c : Nat) (v : Option Model.Encode.Str), (keptIdx d.cols.length pl.p.removed)[j]? = some c → cells[j]? = some v →
        ∃ cf conv, fmt.cells[j]? = some cf ∧ FlagAt pl.bodyA.convert i c conv ∧
          cf.body = textNodes (convText conv (v.getD [])) := by
  obtain ⟨cells, fmt, hcells, hy2, hlen, hcell⟩ := Props.C10enc.C10enc_data_cell_hole k d pl R hR x hx y hy i hb
  refine ⟨cells, fmt, hcells, hy2, hlen, ?_⟩
  intro j c v hj hv
  obtain ⟨cf, conv, hcf, hflag, hbody⟩ := hcell j v hv
  obtain ⟨_, hlo, hhi, _⟩ := Props.C02enc.C02enc_trace_row_on_its_page measure k d pl R hp hR x hx y hy i hb
  have hbind := (Props.C11enc.C11enc_data_flag_binding measure d pl hp hs (x.1, x.2.map Prod.fst) (hR.page_mem hx) i
    ⟨hlo, hhi⟩ j c hj conv).2
  exact ⟨cf, conv, hcf, hbind.mp hflag, hbody⟩

/-- **a cell whose own flag is off is written verbatim** (escaped only): if the body's `text_convert` at the cell's
original position `(i, c)` is `False`, the hole is `textNodes (escStr text)` — no `^ _ >= <=` or command of the text is
translated, whatever the flags of other cells and whichever columns were removed. -/
theorem C02encflag_off_verbatim (measure : Measure) (k : ColorCtx) (d : Doc) (pl : Plan) (R : Trace)
    (hp : plan measure d = .ok pl) (hR : Renders k d pl R) (hs : shapeOk d.body.attrs.convert = true)
    (x : PageCtx × List (Block × List Elem)) (hx : x ∈ R) (y : Block × List Elem) (hy : y ∈ x.2)
    (i : Nat) (hb : y.1 = Block.data i) :
    ∃ cells fmt, pl.rows[i]? = some cells ∧ y.2 = [rowElem fmt] ∧
      ∀ (j c : Nat) (v : Option Model.Encode.Str), (keptIdx d.cols.length pl.p.removed)[j]? = some c → cells[j]? = some v →
        FlagAt pl.bodyA.convert i c false →
        ∃ cf, fmt.cells[j]? = some cf ∧ cf.body = textNodes (escStr (v.getD [])) := by
  obtain ⟨cells, fmt, hcells, hy2, _, hcell⟩ :=
    C02encflag_cell_own_flag measure k d pl R hp hR hs x hx y hy i hb
  refine ⟨cells, fmt, hcells, hy2, ?_⟩
  intro j c v hj hv hoff
  obtain ⟨cf, conv, hcf, hflag, hbody⟩ := hcell j c v hj hv
  have : conv = false := flagAt_unique hflag hoff
  subst this
  exact ⟨cf, hcf, hbody⟩

/-! ## non-vacuity -/

open Props.C01enc in
/-- a listing `g | code | label` grouped by `g` (`page_by`, shown as spanning rows, so `g` is not a cell), conversion
off for the `code` column only: `text_convert = [[True, False, True]]` over the three frame columns -/
def exCode : Doc :=
  { exDoc [1, 2, 3] with
    cols := ["g".toList, "code".toList, "label".toList],
    rows := [[some "G1".toList, some "x^2".toList, some "sq_r".toList],
             [some "G1".toList, some "a>=b".toList, some "ord".toList],
             [some "G2".toList, some "ALT_SI".toList, some "alt".toList]],
    title := none, footnote := none, source := none, headers := [],
    body := { attrs := { exTbl with convert := .nested [[.bool true, .bool false, .bool true]] },
              colRelWidth := some [1, 2, 3], asColheader := true, groupBy := none, pageBy := some ["g".toList],
              sublineBy := none, newPage := false, pagebyHeader := true, pagebyColumn := true } }

set_option maxRecDepth 100000

open Props.C01enc in
/-- the hypotheses are satisfiable and the conclusion is visible by direct evaluation (independently of the theorems):
the value has an admissible shape, column `g` is the one removed (displayed columns are the original 1 and 2), the
encoder accepts the document, and in the string it returns the `code` cells stand verbatim (`x^2`, `a>=b`, `ALT_SI`)
while the `label` cell `sq_r` — conversion on — is written with `\sub ` -/
example :
    shapeOk exCode.body.attrs.convert = true ∧
    (match prepare exCode with
     | .ok p => decide (keptIdx exCode.cols.length p.removed = [1, 2])
     | .error _ => false) = true ∧
    (match encodeText exMeasure exCode with
     | .ok s => hasInfix " x^2}".toList s && hasInfix " a>=b}".toList s && hasInfix " ALT_SI}".toList s &&
                hasInfix " sq\\sub r}".toList s
     | .error _ => false) = true := by
  refine ⟨by decide, by decide +kernel, ?_⟩
  rw [encodeText, encode, Proofs.FontTable.encodeWith_eq]
  decide +kernel

end Props.C02encflag
