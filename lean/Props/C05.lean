import Model.Layout
import Proofs.LayoutHeadings
/-!
# C05 — every data row sits under its own group heading on its own page

About `renderPage d pg` of Model/Layout.lean when page_by values are shown as spanning rows
(`d.spanning`).  `pg.dataStart = pg.start` (hypothesis `hds`) is what Props.C02.C02_pages_structure
establishes for every page of `d.pages`; it is kept as an explicit hypothesis here so that this file
does not depend on C02's proofs.
-/
namespace Props.C05
open Model.Paginate Model.Layout Proofs.LayoutRoles Proofs.LayoutHeadings

/-- text of the last level-`l` heading in a block list -/
def lastHeading (l : Nat) (bs : List Block) : Option String :=
  bs.reverse.findSome? fun b => match b with
    | .heading l' t => if l' = l then some t else none
    | _ => none

/-- no page_by value is null (the property quantifies over sorted key sequences of real values) -/
def NoNullKeys (d : LDoc) : Prop := ∀ r ∈ d.rows, ∀ v ∈ r.pkey, v ≠ none

/-- all rows have one value per page_by level -/
def KeysWide (d : LDoc) (nlev : Nat) : Prop := ∀ r ∈ d.rows, r.pkey.length = nlev

set_option linter.unusedVariables false in
/-- (1) each level's current value is rendered as a heading before the row, on the row's own page:
for every data row `i` on the page and every level `l` whose value `v` at that row is not a divider,
the last level-`l` heading before the row on that page carries `v`.
(`hnn` is not needed by the proof: a null at level `l` makes `hv` impossible for that level.) -/
theorem C05_under_own_heading (d : LDoc) (nlev : Nat) (hsp : d.spanning = true)
    (hnn : NoNullKeys d) (hw : KeysWide d nlev)
    (pg : PageCtx) (hds : pg.dataStart = pg.start) (hin : pg.start + pg.height ≤ d.rows.length)
    (hpos : 0 < pg.height)
    (pre post : List Block) (i : Nat) (hsplit : renderPage d pg = pre ++ Block.data i :: post)
    (r : LRow) (hr : d.rows[i]? = some r) (l : Nat) (v : String)
    (hv : r.pkey[l]? = some (some v)) (hdiv : v ≠ "-----") :
    lastHeading l pre = some v :=
  -- `lastHeading` unfolds to `Proofs.LayoutHeadings.lastH`, in which `under_heading` is stated
  (under_heading d nlev hsp hw pg hds hin hpos pre post i hsplit r hr l v hv hdiv).1

/-- headings in force after a block list: a heading of level l sets level l and CLEARS all deeper levels
(an inner heading belongs to the outer group it was rendered under) -/
def inForceStep (f : Nat → Option String) : Block → (Nat → Option String)
  | .heading l t => fun k => if k = l then some t else if l < k then none else f k
  | _ => f
def inForce (bs : List Block) : Nat → Option String := bs.foldl inForceStep (fun _ => none)

theorem inForce_eq_force (bs : List Block) : inForce bs = force bs := by
  have hstep : inForceStep = forceStep := by
    funext f b
    cases b <;> rfl
  simp only [inForce, force, forceFrom, hstep]

set_option linter.unusedVariables false in
/-- (1, hierarchical) as (1) (`hnn` again not needed), and between the last level-`l` heading before the row and the row there is
no heading of a shallower level: the value is still *in force*.  Holds for the model of the repaired
`_render_body` (repo commit b273a2c "forget inner page_by headings when an outer level changes over a
divider"); for the model before that repair it was false: keys `[A,x],[B,-----],[B,x]` on one page gave
`heading 0 A, heading 1 x, data 0, heading 0 B, data 1, data 2`. -/
theorem C05_under_own_heading_hier (d : LDoc) (nlev : Nat) (hsp : d.spanning = true)
    (hnn : NoNullKeys d) (hw : KeysWide d nlev)
    (pg : PageCtx) (hds : pg.dataStart = pg.start) (hin : pg.start + pg.height ≤ d.rows.length)
    (hpos : 0 < pg.height)
    (pre post : List Block) (i : Nat) (hsplit : renderPage d pg = pre ++ Block.data i :: post)
    (r : LRow) (hr : d.rows[i]? = some r) (l : Nat) (v : String)
    (hv : r.pkey[l]? = some (some v)) (hdiv : v ≠ "-----") :
    inForce pre l = some v := by
  rw [inForce_eq_force]
  exact (under_heading d nlev hsp hw pg hds hin hpos pre post i hsplit r hr l v hv hdiv).2

/-- `inForce` clears deeper levels: after `B` nothing is in force at level 1 (while `lastHeading 1` is
still `x`), so the hierarchical form is strictly stronger than (1) on the page of the old defect -/
example : inForce [.heading 0 "A", .heading 1 "x", .data 0, .heading 0 "B", .data 1] 1 = none := by
  decide

/-- (2) a heading is always directly followed, on the same page, by a heading of a deeper level or by a
data row — never stranded at the bottom of a page, and outer levels come before inner ones. -/
theorem C05_heading_followed (d : LDoc) (hsp : d.spanning = true)
    (pg : PageCtx) (hin : pg.start + pg.height ≤ d.rows.length) (hpos : 0 < pg.height)
    (pre post : List Block) (l : Nat) (t : String)
    (hsplit : renderPage d pg = pre ++ Block.heading l t :: post) :
    ∃ b rest, post = b :: rest ∧
      ((∃ i, b = Block.data i) ∨ (∃ l' t', b = Block.heading l' t' ∧ l < l')) := by
  obtain ⟨r0, ks, _, _, hmid⟩ := body_seg_spanning d pg hsp hin hpos
  have hgood : Good (renderPage d pg) := by
    rw [renderPage_eq_head_body_tail, hmid, topHeadings_eq_boundary]
    -- no heading before the body (ranks ≤ 4) or after it (ranks ≥ 6): a heading has rank 5 (`LayoutRoles.rk`)
    refine Good.append_left (fun b hb l t h => ?_) (Good.append_right (fun b hb l t h => ?_) ?_)
    · subst h
      exact Nat.not_succ_le_self 4 ((segHead_sorted d pg).2 _ hb)
    · subst h
      exact Nat.not_succ_le_self 5 (segTail_rk d pg _ hb)
    · exact (good_boundary (Good.cons_data _ (good_body _ _ _ _)) ⟨_, _, rfl⟩ _ _ _ _).1
  exact hgood pre l t post hsplit

/-- (3) divider values never produce a heading -/
theorem C05_no_divider_heading (d : LDoc) (pg : PageCtx) (l : Nat) (t : String)
    (h : Block.heading l t ∈ renderPage d pg) : t ≠ "-----" := by
  obtain ⟨_, r, _, hm⟩ := renderPage_heading_mem d pg l t h
  exact (groupValues_mem_real hm).2

/-- (4) headings appear only when spanning rows are shown -/
theorem C05_no_heading_without_spanning (d : LDoc) (hsp : d.spanning = false) (pg : PageCtx)
    (l : Nat) (t : String) : Block.heading l t ∉ renderPage d pg := by
  intro h
  have := (renderPage_heading_mem d pg l t h).1
  rw [hsp] at this
  cases this

/-- (5) with subline_by, a page whose first row has a non-divider, non-null subline value carries exactly
one subline heading paragraph, naming that value(s), placed before headers and body -/
theorem C05_subline_heading (d : LDoc) (hs : d.hasSubline = true) (pg : PageCtx)
    (r : LRow) (hr : d.rows[pg.start]? = some r) (vals : List String)
    (hvals : r.skey = vals.map some) (hne : vals ≠ []) (hnd : ∀ v ∈ vals, v ≠ "-----") :
    ((renderPage d pg).filter (fun b => match b with | .sublineHeading _ => true | _ => false))
      = [Block.sublineHeading (", ".intercalate vals)] := by
  -- rank 3 is the subline heading's place in the page (`LayoutRoles.rk`)
  rw [filter_renderPage (m := 3) (fun b hb => by cases b <;> first | rfl | cases hb)]
  show (segSubHeading d pg).filter _ = _
  rw [segSubHeading_eq d hs pg r hr vals hvals hne hnd]
  rfl

/-- non-vacuity: two levels, a group continuing on page 2 gets both headings again at the top -/
example :
    layout { nrow := 6,
             rows := [⟨1, [some "A", some "x"], [], 1, 1⟩, ⟨1, [some "A", some "x"], [], 1, 1⟩,
                      ⟨1, [some "A", some "y"], [], 1, 1⟩, ⟨1, [some "A", some "y"], [], 1, 1⟩,
                      ⟨1, [some "B", some "y"], [], 1, 1⟩],
             hasPageBy := true, hasSubline := false, newPage := false, pagebyColumn := true,
             pagebyHeader := true, headers := [true], asColheader := true, hasTitle := false,
             hasSublineTxt := false, footnote := .absent, source := .absent, pageTitle := .all,
             pageFootnote := .last, pageSource := .last }
      = [[.colHeader 0, .heading 0 "A", .heading 1 "x", .data 0, .data 1, .heading 1 "y", .data 2],
         [.brk, .colHeader 0, .heading 0 "A", .heading 1 "y", .data 3, .heading 0 "B", .heading 1 "y", .data 4]] := by
  decide +kernel

/-- the divider case that motivated the repair: `x` is rendered again under `B` -/
example :
    layout { nrow := 20,
             rows := [⟨1, [some "A", some "x"], [], 1, 1⟩, ⟨1, [some "B", some "-----"], [], 1, 1⟩,
                      ⟨1, [some "B", some "x"], [], 1, 1⟩],
             hasPageBy := true, hasSubline := false, newPage := false, pagebyColumn := true,
             pagebyHeader := true, headers := [true], asColheader := true, hasTitle := false,
             hasSublineTxt := false, footnote := .absent, source := .absent, pageTitle := .all,
             pageFootnote := .last, pageSource := .last }
      = [[.colHeader 0, .heading 0 "A", .heading 1 "x", .data 0, .heading 0 "B", .data 1,
          .heading 1 "x", .data 2]] := by
  decide +kernel

end Props.C05
