import Generated.PyAdditionalRowsNested
import Model.Layout
/-!
# C03 / C04 — translator tie for the rows reserved on every page, nested header list

The second copy of `calculate_additional_rows_per_page` (see `Props/C03py.lean`): `rtf_column_header` is a list of
Python lists, the branch `isinstance(document.rtf_column_header[0], list)`.
-/
namespace Props.C03pyn
open Model.Layout (LDoc)

/-- `bool(t)` for `t : Sequence[str] | None` -/
def seqTruthy (t : Option (List (List Nat))) : Bool :=
  match t with
  | some l => !l.isEmpty
  | none => false

/-! ## nested header list (one list per section; also reachable on the single-section path by assignment) -/
open Generated.Py.AdditionalRowsNested

/-- `bool(c and c.text)` for a footnote / source component -/
def compTruthy (c : Option Comp) : Bool :=
  match c with
  | some c => seqTruthy c.text
  | none => false

/-- what `LDoc.headers` records of one header entry: an object whose `text is not None` -/
def headerFlag (h : Option Comp) : Bool :=
  match h with
  | some c => c.text.isSome
  | none => false

/-! `s.v0` is the function's first (and only) local variable, the running count; the translator names locals by order of
first binding, so renaming it in the Python source changes nothing. -/

theorem loop2_step (sb hs fn src sec) (s : St) (h : Option Comp) :
    (loop2 sb hs fn src sec s h).v0 = s.v0 + (if headerFlag h then 1 else 0) := by
  cases h with
  | none => simp [loop2, headerFlag]
  | some c => cases ht : c.text <;> simp [loop2, headerFlag, ht]

theorem loop2_all (sb hs fn src sec) (l : List (Option Comp)) (s : St) :
    (l.foldl (loop2 sb hs fn src sec) s).v0 =
      s.v0 + Int.ofNat ((l.map headerFlag).filter id).length := by
  induction l generalizing s with
  | nil => simp
  | cons h t ih =>
    rw [List.foldl_cons, ih, loop2_step]
    cases hf : headerFlag h <;> simp [hf] <;> omega

/-- one section: `if section_headers:` only skips a loop that would not run anyway -/
theorem loop1_step (sb hs fn src) (s : St) (sec : List (Option Comp)) :
    (loop1 sb hs fn src s sec).v0 =
      s.v0 + Int.ofNat ((sec.map headerFlag).filter id).length := by
  rcases sec with _ | ⟨a, t⟩ <;> simp [-List.foldl_cons, loop1, loop2_all]

theorem loop1_all (sb hs fn src) (l : List (List (Option Comp))) (s : St) :
    (l.foldl (loop1 sb hs fn src) s).v0 =
      s.v0 + Int.ofNat ((l.flatten.map headerFlag).filter id).length := by
  induction l generalizing s with
  | nil => simp
  | cons h t ih =>
    rw [List.foldl_cons, ih, loop1_step]
    simp only [List.flatten_cons, List.map_append, List.filter_append, List.length_append]
    simp only [Int.ofNat_eq_natCast, Int.natCast_add]; omega

/-- **the translated `calculate_additional_rows_per_page` is the model's reservation** (nested header list): the
nested list is read as its concatenation (`Model.EncodeMulti.encodeWithNested1`: `headers := hs.flatten`; a
multi-section document hands every section its own flat list, `Props.C03py.C03py_additional_flat`) -/
theorem C03pyn_additional_nested (d : LDoc) (sb : Option (List (List Nat))) (secs : List (List (Option Comp)))
    (fn src : Option Comp)
    (h1 : d.hasSubline = seqTruthy sb) (h2 : d.headers = secs.flatten.map headerFlag)
    (h3 : (d.footnote != .absent) = compTruthy fn) (h4 : (d.source != .absent) = compTruthy src) :
    run sb secs fn src = Int.ofNat d.additional := by
  unfold LDoc.additional
  rw [h1, h2, h3, h4]
  -- every truthiness case of the three optional values and of the section list; `loop1_all` counts the headers,
  -- the rest is the sum of the `if`s
  rcases sb with _ | _ | ⟨_, _⟩ <;>
    rcases fn with _ | ⟨_ | _ | ⟨_, _⟩⟩ <;>
    rcases src with _ | ⟨_ | _ | ⟨_, _⟩⟩ <;>
    rcases secs with _ | ⟨a, t⟩ <;>
    simp [-List.foldl_cons, -List.flatten_cons, run, seqTruthy, compTruthy, loop1_all] <;>
    omega

end Props.C03pyn
