import Model.ValidateHist
import Proofs.ValidateHist
/-!
# C19 over histories — every constructor call is judged in the file-system state AT THAT CALL

`Props/C19.lean` states the figure clause for one call whose argument carries the existence flags
(`FigArgs.figures`): in the model, existence is an *input of each call*; nothing is remembered between calls.
Here the same is stated for whole histories (`Model.ValidateHist`): constructor calls with files created,
replaced, deleted, renamed (other name, other suffix, other directory) and the working directory changed in
between, paths absolute or relative.

* `C19hist_call_is_constructFigure` — a call in state `fs` is `Model.Validate.constructFigure` applied to the
  existence flags read off `fs` (all of `C19_figure_*` applies to every call of every history);
* `C19hist_verdict_at_call` / `C19hist_run_append` — folding the construction over ANY history, the verdict of a
  call is `constructFigureAt` of the state reached by the file-system events before it;
  `C19hist_same_state_same_verdict`, `C19hist_earlier_calls_irrelevant`: two histories that reach the same state
  give the call the same verdict — whatever calls were made before (accepted or refused, with the same path or
  not) does not enter.  Trivial in the model (it has no memory); it is the statement the correspondence ties to
  the code: `harness/props/c19.py` runs histories against the real constructors in one process and compares every
  call with `run` / `runSpec`.
* `C19hist_meets_spec` — the model meets the specification verdict at every call;
  `C19hist_missing_now_never_constructed`, `C19hist_deleted_then_rejected`, `C19hist_renamed_then_rejected`,
  `C19hist_chdir_then_rejected` — a file that is missing NOW is refused even if the same call was accepted
  before; `C19hist_created_then_accepted` — and a file that exists NOW is accepted even if the call was refused
  before.
-/
namespace Props.C19hist
open Model.Validate Model.ValidateSpec Model.ValidateHist Proofs.Validate Proofs.ValidateHist

/-! ## one call -/

/-- With no unsupported-format file among the paths, a call in state `fs` is exactly `constructFigure` on the
existence flags of that state: `FigArgs.figures` is "exists at the time of the call". -/
theorem C19hist_call_is_constructFigure (fs : Fs) (c : FigCall) (h : anyOther fs c = false) :
    constructFigureAt fs c = constructFigure (c.toArgs fs) := by
  rw [constructFigureAt_eq, constructFigure, toArgs_figMissing]
  have hm := anyMissing_iff fs c
  rcases checkPaths_spec (statuses fs c) with ⟨hc, hall⟩ | ⟨hc, hmem⟩ | ⟨hc, hmem⟩
  · have hm' : anyMissing fs c = false := Bool.eq_false_iff.mpr fun h => nomatch hall _ (hm.mp h)
    rw [hc, hm']
    rfl
  · rw [hc, hm.mpr hmem]
    rfl
  · rw [(anyOther_iff fs c).mpr hmem] at h
    cases h

/-- A path that names no file NOW never yields an RTFFigure. -/
theorem C19hist_missing_never_constructed (fs : Fs) (c : FigCall) (h : anyMissing fs c = true) :
    constructFigureAt fs c ≠ .ok () := by
  rw [constructFigureAt_eq]
  have hmem := (anyMissing_iff fs c).mp h
  split
  · simp
  · rcases checkPaths_spec (statuses fs c) with ⟨_, hall⟩ | ⟨hc, _⟩ | ⟨hc, _⟩
    · exact nomatch hall _ hmem
    · simp [hc]
    · simp [hc]

/-- The model meets the specification verdict of every call in every state. -/
theorem C19hist_meets_spec (fs : Fs) (c : FigCall) :
    (specFigureAt fs c = .reject → constructFigureAt fs c = .error .validationError) ∧
    (specFigureAt fs c = .notFound → constructFigureAt fs c = .error .fileNotFound) ∧
    (specFigureAt fs c = .rejectAny →
      constructFigureAt fs c = .error .validationError ∨ constructFigureAt fs c = .error .fileNotFound) ∧
    (specFigureAt fs c = .accept → constructFigureAt fs c = .ok ()) := by
  by_cases hd : figInDomain (c.toArgs fs) = true
  · rw [constructFigureAt_eq, figFieldsOk_eq _ hd]
    by_cases hi : figIllegal (c.toArgs fs) = true
    · -- an illegal field: ValidationError before the paths are looked at
      by_cases hm : anyMissing fs c = true <;> simp [specFigureAt, hd, hi, hm]
    · have hm := anyMissing_iff fs c
      have ho := anyOther_iff fs c
      rcases checkPaths_spec (statuses fs c) with ⟨h, hall⟩ | ⟨h, hmem⟩ | ⟨h, hmem⟩
      · have hm' : anyMissing fs c = false := Bool.eq_false_iff.mpr fun h => nomatch hall _ (hm.mp h)
        have ho' : anyOther fs c = false := Bool.eq_false_iff.mpr fun h => nomatch hall _ (ho.mp h)
        simp [specFigureAt, hd, hi, hm', ho', h]
      · cases hoc : anyOther fs c <;> simp [specFigureAt, hd, hi, hm.mpr hmem, hoc, h]
      · cases hmc : anyMissing fs c <;> simp [specFigureAt, hd, hi, ho.mpr hmem, hmc, h]
  · simp [specFigureAt, hd]

/-! ## histories: each verdict depends only on the state at that call -/

/-- Folding the construction over any history: the verdict of a call is `constructFigureAt` of the state reached
by the events before it; what precedes and what follows is judged on its own. -/
theorem C19hist_run_append (fs : Fs) (pre : List Ev) (c : FigCall) (post : List Ev) :
    run fs (pre ++ .call c :: post) =
      run fs pre ++ constructFigureAt (pre.foldl step fs) c :: run (pre.foldl step fs) post := by
  induction pre generalizing fs with
  | nil => simp [run]
  | cons e r ih => cases e <;> simp [run, ih, step]

/-- … and so is the specification verdict the harness compares it with. -/
theorem C19hist_runSpec_append (fs : Fs) (pre : List Ev) (c : FigCall) (post : List Ev) :
    runSpec fs (pre ++ .call c :: post) =
      runSpec fs pre ++ specFigureAt (pre.foldl step fs) c :: runSpec (pre.foldl step fs) post := by
  induction pre generalizing fs with
  | nil => simp [runSpec]
  | cons e r ih => cases e <;> simp [runSpec, ih, step]

/-- The verdict of a call made after ANY history `pre`. -/
theorem C19hist_verdict_at_call (fs : Fs) (pre : List Ev) (c : FigCall) :
    (run fs (pre ++ [.call c])).getLast? = some (constructFigureAt (pre.foldl step fs) c) := by
  rw [C19hist_run_append]
  simp [run]

/-- Constructor calls leave the state alone: the state a call is judged in is the one reached by the file-system
events alone. -/
theorem C19hist_calls_leave_state (fs : Fs) (evs : List Ev) :
    evs.foldl step fs = (evs.filter (fun e => !e.isCall)).foldl step fs := by
  induction evs generalizing fs with
  | nil => rfl
  | cons e r ih => cases e <;> simp [Ev.isCall, step, ih]

/-- Two histories that reach the same file-system state give a call the same verdict. -/
theorem C19hist_same_state_same_verdict (fs fs' : Fs) (pre pre' : List Ev) (c : FigCall)
    (h : pre.foldl step fs = pre'.foldl step fs') :
    (run fs (pre ++ [.call c])).getLast? = (run fs' (pre' ++ [.call c])).getLast? := by
  rw [C19hist_verdict_at_call, C19hist_verdict_at_call, h]

/-- In particular the calls made earlier — accepted or refused, with the same paths or others — are irrelevant:
dropping them all from the history leaves the verdict. -/
theorem C19hist_earlier_calls_irrelevant (fs : Fs) (pre : List Ev) (c : FigCall) :
    (run fs (pre ++ [.call c])).getLast? =
      (run fs (pre.filter (fun e => !e.isCall) ++ [.call c])).getLast? :=
  C19hist_same_state_same_verdict fs fs pre _ c (C19hist_calls_leave_state fs pre)

/-- A call one of whose paths names no file in the state reached is refused — whatever happened before, e.g.
the very same call having been accepted while the file was there. -/
theorem C19hist_missing_now_never_constructed (fs : Fs) (pre : List Ev) (c : FigCall)
    (h : anyMissing (pre.foldl step fs) c = true) :
    ∃ r, (run fs (pre ++ [.call c])).getLast? = some r ∧ r ≠ .ok () :=
  ⟨_, C19hist_verdict_at_call fs pre c, C19hist_missing_never_constructed _ c h⟩

/-- file deleted, then the call (absolute path, or relative in the working directory) -/
theorem C19hist_deleted_then_rejected (fs : Fs) (pre : List Ev) (c : FigCall) (ps : List PathRef)
    (hp : c.paths = some ps) (d : Nat) (n : String)
    (hmem : .abs d n ∈ ps ∨ (.rel n ∈ ps ∧ (pre.foldl step fs).cwd = d)) :
    ∃ r, (run fs (pre ++ [.delete d n, .call c])).getLast? = some r ∧ r ≠ .ok () := by
  rw [List.append_cons]
  apply C19hist_missing_now_never_constructed
  simp only [List.foldl_append, List.foldl_cons, List.foldl_nil]
  rcases hmem with h | ⟨h, hcwd⟩
  · exact anyMissing_mem _ c ps hp _ h (status_of_has_false _ _ (has_after_delete _ d n))
  · refine anyMissing_mem _ c ps hp _ h (status_of_has_false _ _ ?_)
    have : (step (pre.foldl step fs) (.delete d n)).cwd = d := by simp [step, hcwd]
    simp only [Fs.resolve, this]
    exact has_after_delete _ d n

/-- file renamed away (other name, other suffix, other directory), then the call with the old name -/
theorem C19hist_renamed_then_rejected (fs : Fs) (pre : List Ev) (c : FigCall) (ps : List PathRef)
    (hp : c.paths = some ps) (d : Nat) (n : String) (d' : Nat) (n' : String)
    (hne : (d, n) ≠ (d', n')) (hex : (pre.foldl step fs).has d n = true) (hmem : .abs d n ∈ ps) :
    ∃ r, (run fs (pre ++ [.rename d n d' n', .call c])).getLast? = some r ∧ r ≠ .ok () := by
  rw [List.append_cons]
  apply C19hist_missing_now_never_constructed
  simp only [List.foldl_append, List.foldl_cons, List.foldl_nil]
  exact anyMissing_mem _ c ps hp _ hmem
    (status_of_has_false _ _ (has_after_rename_source _ d n d' n' hne hex))

/-- the process changes into a directory that has no file of that name, then the call with the relative path -/
theorem C19hist_chdir_then_rejected (fs : Fs) (pre : List Ev) (c : FigCall) (ps : List PathRef)
    (hp : c.paths = some ps) (d : Nat) (n : String)
    (hno : (pre.foldl step fs).has d n = false) (hmem : .rel n ∈ ps) :
    ∃ r, (run fs (pre ++ [.chdir d, .call c])).getLast? = some r ∧ r ≠ .ok () := by
  rw [List.append_cons]
  apply C19hist_missing_now_never_constructed
  simp only [List.foldl_append, List.foldl_cons, List.foldl_nil]
  refine anyMissing_mem _ c ps hp _ hmem (status_of_has_false _ _ ?_)
  simpa [step, Fs.resolve, Fs.has] using hno

/-- the other direction (a remembered refusal would be as wrong as a remembered acceptance): the file is
created, then a call with legal fields whose only path it is — accepted, whatever was refused before -/
theorem C19hist_created_then_accepted (fs : Fs) (pre : List Ev) (c : FigCall) (d : Nat) (n : String)
    (hp : c.paths = some [.abs d n]) (hemb : embeddable n = true)
    (hdom : figInDomain (c.toArgs (step (pre.foldl step fs) (.create d n))) = true)
    (hleg : figIllegal (c.toArgs (step (pre.foldl step fs) (.create d n))) = false) :
    (run fs (pre ++ [.create d n, .call c])).getLast? = some (.ok ()) := by
  rw [List.append_cons, C19hist_verdict_at_call]
  simp only [List.foldl_append, List.foldl_cons, List.foldl_nil]
  have hst : (step (pre.foldl step fs) (.create d n)).status (.abs d n) = .image := by
    simp [Fs.status, Fs.resolve, has_after_create, hemb]
  have hspec : specFigureAt (step (pre.foldl step fs) (.create d n)) c = .accept := by
    simp [specFigureAt, hdom, hleg, anyMissing, anyOther, hp, hst]
  rw [(C19hist_meets_spec _ c).2.2.2 hspec]

/-! ## the hypotheses are satisfiable; the histories the harness runs -/

/-- `RTFFigure(figures="d0/plot.png")` accepted; file deleted → `FileNotFoundError`; created again → accepted;
renamed to `plot.txt` → the old name is missing, the new one is not embeddable; relative path after `chdir`. -/
example :
    let c : FigCall := { paths := some [.abs 0 "plot.png"] }
    let r : FigCall := { paths := some [.rel "plot.png"] }
    let t : FigCall := { paths := some [.abs 0 "plot.txt"] }
    run { cwd := 0, files := [(0, "plot.png")] }
      [.call c, .delete 0 "plot.png", .call c, .create 0 "plot.png", .call c, .call r, .chdir 1, .call r,
       .chdir 0, .rename 0 "plot.png" 0 "plot.txt", .call c, .call t] =
      [.ok (), .error .fileNotFound, .ok (), .ok (), .error .fileNotFound, .error .fileNotFound,
       .error .validationError] ∧
    runSpec { cwd := 0, files := [(0, "plot.png")] }
      [.call c, .delete 0 "plot.png", .call c, .chdir 1, .call r,
       .call { c with figAlign := some (.str "middle") }] =
      [.accept, .notFound, .notFound, .rejectAny] := by
  decide +kernel

end Props.C19hist
