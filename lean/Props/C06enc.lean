import Model.Encode
import Model.Layout
import Proofs.EncodeLift
import Props.C06
import Props.C01enc
/-!
# C06 for the whole-encoder model: titles, headers, footnotes and sources appear on exactly the configured pages

`Props/C06.lean` proves the property about `Layout.renderPage ld pg`.  Here the theorems are about the pages the
ENCODER renders: the `n`-th entry (0-based) of `Plan.pageBlocks` (`encodePages` renders exactly these block lists, in
this order).  "first" is `n = 0`, "last" is `n + 1 = number of pages` (`C06enc_page_number`: pages are numbered
`1..P` with `total = P`, also for an empty frame), and the role-level flags are the document's:
`hasText d.title`, `hasText d.subline`, `footComp d.footnote`, `footComp d.source`, `d.page.pageTitle`, …,
`d.body.pagebyHeader`, `headerHasText` / `d.body.asColheader`.

`C06enc_rendered` says what every block kind is rendered to (`pageBreak d.page`, `textElem k d.title` + a blank line,
`textElem k d.subline`, `renderHeader`, `renderFoot` with the page's border override).
-/
namespace Props.C06enc
open Model.Rtf Model.Emit Model.Encode Model.Broadcast Model.Layout Proofs.EncodeLift
open Props.C06 (rank)

/-- pages are numbered from 1 in rendering order and every page knows the number of pages; there is at least one -/
theorem C06enc_page_number (pl : Plan) (n : Nat) (x : PageCtx × List Block) (hx : pl.pageBlocks[n]? = some x) :
    x.1.number = n + 1 ∧ x.1.total = pl.pageBlocks.length ∧ 0 < pl.pageBlocks.length := by
  obtain ⟨hpg, _⟩ := pageBlocks_getElem? hx
  obtain ⟨h1, h2⟩ := Proofs.Layout.pages_numbering pl.ld n x.1 hpg
  rw [pageBlocks_length]
  exact ⟨h1, h2, Proofs.Layout.pages_pos pl.ld⟩

/-- `Proofs.EncodeLift.first_last` in the vocabulary of `Props.C06`: `isFirst` / `isLast` of a page by its position -/
theorem first_last (pl : Plan) (n : Nat) (x : PageCtx × List Block) (hx : pl.pageBlocks[n]? = some x) :
    Props.C06.isFirst x.1 = (n == 0) ∧ Props.C06.isLast x.1 = (n + 1 == pl.pageBlocks.length) :=
  ⟨(Proofs.EncodeLift.first_last pl n x hx).2.2.1, (Proofs.EncodeLift.first_last pl n x hx).2.2.2⟩

/-- (1) order: on every page the blocks appear in the order page break, title, subline, subline heading, column
headers, body (headings and data rows), footnote, source -/
theorem C06enc_order (measure : Measure) (d : Doc) (pl : Plan) (_hp : plan measure d = .ok pl)
    (x : PageCtx × List Block) (hx : x ∈ pl.pageBlocks) : (x.2.map rank).Pairwise (· ≤ ·) := by
  obtain ⟨_, hbs⟩ := pageBlocks_mem hx
  rw [hbs]
  exact Props.C06.C06_order pl.ld x.1

/-- (2) the title appears at most once per page, exactly on the pages `page_title` selects, when it has text -/
theorem C06enc_title (measure : Measure) (d : Doc) (pl : Plan) (hp : plan measure d = .ok pl)
    (n : Nat) (x : PageCtx × List Block) (hx : pl.pageBlocks[n]? = some x) :
    x.2.count Block.title =
      if hasText d.title && d.page.pageTitle.shows (n == 0) (n + 1 == pl.pageBlocks.length) then 1 else 0 := by
  have hf := plan_facts hp
  obtain ⟨_, hbs⟩ := pageBlocks_getElem? hx
  obtain ⟨h1, h2⟩ := first_last pl n x hx
  rw [hbs, Props.C06.C06_title, hf.hasTitle, hf.pageTitle, h1, h2]

/-- (2) the subline likewise (it follows `page_title`) -/
theorem C06enc_subline (measure : Measure) (d : Doc) (pl : Plan) (hp : plan measure d = .ok pl)
    (n : Nat) (x : PageCtx × List Block) (hx : pl.pageBlocks[n]? = some x) :
    x.2.count Block.subline =
      if hasText d.subline && d.page.pageTitle.shows (n == 0) (n + 1 == pl.pageBlocks.length) then 1 else 0 := by
  have hf := plan_facts hp
  obtain ⟨_, hbs⟩ := pageBlocks_getElem? hx
  obtain ⟨h1, h2⟩ := first_last pl n x hx
  rw [hbs, Props.C06.C06_subline, hf.hasSublineTxt, hf.pageTitle, h1, h2]

/-- (2) the footnote: at most one block per page, exactly on the pages `page_footnote` selects, when the component
has a non-empty text; the block says whether it is rendered as a table -/
theorem C06enc_footnote (measure : Measure) (d : Doc) (pl : Plan) (hp : plan measure d = .ok pl)
    (n : Nat) (x : PageCtx × List Block) (hx : pl.pageBlocks[n]? = some x) :
    (x.2.filter (fun b => match b with | .footnote _ => true | _ => false)) =
      if footComp d.footnote != .absent && d.page.pageFootnote.shows (n == 0) (n + 1 == pl.pageBlocks.length)
      then [Block.footnote (footComp d.footnote == .table)] else [] := by
  have hf := plan_facts hp
  obtain ⟨_, hbs⟩ := pageBlocks_getElem? hx
  obtain ⟨h1, h2⟩ := first_last pl n x hx
  have := Props.C06.C06_footnote pl.ld x.1
  rw [hf.footnote, hf.pageFootnote, h1, h2, ← hbs] at this
  exact this

/-- (2) the source likewise with `page_source` -/
theorem C06enc_source (measure : Measure) (d : Doc) (pl : Plan) (hp : plan measure d = .ok pl)
    (n : Nat) (x : PageCtx × List Block) (hx : pl.pageBlocks[n]? = some x) :
    (x.2.filter (fun b => match b with | .source _ => true | _ => false)) =
      if footComp d.source != .absent && d.page.pageSource.shows (n == 0) (n + 1 == pl.pageBlocks.length)
      then [Block.source (footComp d.source == .table)] else [] := by
  have hf := plan_facts hp
  obtain ⟨_, hbs⟩ := pageBlocks_getElem? hx
  obtain ⟨h1, h2⟩ := first_last pl n x hx
  have := Props.C06.C06_source pl.ld x.1
  rw [hf.source, hf.pageSource, h1, h2, ← hbs] at this
  exact this

/-- (3) column headers: on the first page, and on later pages exactly when `pageby_header` is true; one block per
header object that has text or is auto-populated from the column names, in the objects' order -/
theorem C06enc_col_headers (measure : Measure) (d : Doc) (pl : Plan) (hp : plan measure d = .ok pl)
    (n : Nat) (x : PageCtx × List Block) (hx : pl.pageBlocks[n]? = some x) :
    (x.2.filterMap (fun b => match b with | .colHeader k => some k | _ => none)) =
      if d.body.pagebyHeader || n == 0 then
        (d.headers.zipIdx.filterMap fun (h : Option Header × Nat) =>
          if headerHasText h.1 || d.body.asColheader then some h.2 else none)
      else [] := by
  have hf := plan_facts hp
  obtain ⟨_, hbs⟩ := pageBlocks_getElem? hx
  obtain ⟨h1, _⟩ := first_last pl n x hx
  have := Props.C06.C06_col_headers pl.ld x.1
  rw [hf.pagebyHeader, hf.asColheader, hf.headers, h1, ← hbs] at this
  rw [List.zipIdx_map, List.filterMap_map] at this
  exact this

/-- (4) every page after the first begins with exactly one page break; the first page has none -/
theorem C06enc_break (measure : Measure) (d : Doc) (pl : Plan) (_hp : plan measure d = .ok pl)
    (n : Nat) (x : PageCtx × List Block) (hx : pl.pageBlocks[n]? = some x) :
    (n = 0 → Block.brk ∉ x.2) ∧ (n ≠ 0 → ∃ rest, x.2 = Block.brk :: rest ∧ Block.brk ∉ rest) := by
  obtain ⟨_, hbs⟩ := pageBlocks_getElem? hx
  obtain ⟨h1, _⟩ := first_last pl n x hx
  have := Props.C06.C06_break pl.ld x.1
  rw [← hbs, h1] at this
  refine ⟨fun h0 => this.1 (by rw [h0]; rfl), fun h0 => this.2 ?_⟩
  cases n with
  | zero => exact absurd rfl h0
  | succ n => rfl

/-- (5) on a one-page document 'first', 'last' and 'all' are indistinguishable: the encoder renders the same block
lists whatever the three placement options are -/
theorem C06enc_single_page (measure : Measure) (d : Doc) (pl pl' : Plan) (pt pf ps : Placement)
    (hp : plan measure d = .ok pl)
    (hp' : plan measure { d with page := { d.page with pageTitle := pt, pageFootnote := pf, pageSource := ps } } = .ok pl')
    (h1 : pl.pageBlocks.length = 1) : pl'.pageBlocks.map Prod.snd = pl.pageBlocks.map Prod.snd := by
  obtain ⟨hprep, _, hld, _⟩ := plan_ok hp
  obtain ⟨hprep', _, hld', _⟩ := plan_ok hp'
  have hpp : pl'.p = pl.p := Except.ok.inj (hprep'.symm.trans hprep)
  rw [hpp, mkLDoc_placement, hld] at hld'
  have hll : { pl.ld with pageTitle := pt, pageFootnote := pf, pageSource := ps } = pl'.ld :=
    congrArg Prod.fst (Except.ok.inj hld')
  rw [pageBlocks_map_snd, pageBlocks_map_snd, ← hll]
  exact Props.C06.C06_single_page pl.ld pt pf ps (by rw [← pageBlocks_length]; exact h1)

/-! ## what the blocks are rendered to -/

/-- the equations of `renderBlock` for the page-level components -/
theorem C06enc_renderBlock (k : ColorCtx) (d : Doc) (bodyA : TblAttrsOf MatV) (p : Prep)
    (rows : List (List (Option Str))) (pg : PageCtx) (pa : PageAttrs) :
    renderBlock k d bodyA p rows pg pa .brk = (do return [[BlockG.plain (← pageBreak d.page)]]) ∧
    renderBlock k d bodyA p rows pg pa .title = (do return (← textElem k d.title) ++ [[BlockG.plain [Node.nl]]]) ∧
    renderBlock k d bodyA p rows pg pa .subline = textElem k d.subline ∧
    (∀ i, renderBlock k d bodyA p rows pg pa (.colHeader i) =
      match (d.headers[i]?).join with
      | some h => renderHeader k d p (pg.number == 1) i h
      | none => .ok []) ∧
    (∀ a, renderBlock k d bodyA p rows pg pa (.footnote a) =
      match d.footnote with
      | some f => renderFoot k d f pa.fnOverride
      | none => .ok []) ∧
    (∀ a, renderBlock k d bodyA p rows pg pa (.source a) =
      match d.source with
      | some f => renderFoot k d f pa.srcOverride
      | none => .ok []) :=
  ⟨rfl, rfl, rfl, fun _ => rfl, fun _ => rfl, fun _ => rfl⟩

/-- every page-level block of the trace, with the elements it became:
* `.brk`        one element, the page break `pageBreak d.page` (`\page`, paper size, margins);
* `.title`      `textElem k d.title` followed by an empty line;
* `.subline`    `textElem k d.subline`;
* `.colHeader i`  the `i`-th header object exists and was rendered by `renderHeader` (first-page flag of the page);
* `.footnote a` / `.source a`   the component exists and was rendered by `renderFoot` with the page's border override. -/
theorem C06enc_rendered (k : ColorCtx) (d : Doc) (pl : Plan) (R : Trace) (hR : Renders k d pl R)
    (x : PageCtx × List (Block × List Elem)) (hx : x ∈ R) (y : Block × List Elem) (hy : y ∈ x.2) :
    (y.1 = Block.brk → ∃ ns, pageBreak d.page = .ok ns ∧ y.2 = [[BlockG.plain ns]]) ∧
    (y.1 = Block.title → ∃ es, textElem k d.title = .ok es ∧ y.2 = es ++ [[BlockG.plain [Node.nl]]]) ∧
    (y.1 = Block.subline → textElem k d.subline = .ok y.2) ∧
    (∀ i, y.1 = Block.colHeader i → (∃ h, (d.headers[i]?).join = some h ∧
        renderHeader k d pl.p (x.1.number == 1) i h = .ok y.2) ∨ ((d.headers[i]?).join = none ∧ y.2 = [])) ∧
    (∀ a, y.1 = Block.footnote a → (∃ f, d.footnote = some f ∧
        renderFoot k d f (pageAttrs d pl.bodyA pl.p x.1).fnOverride = .ok y.2) ∨ (d.footnote = none ∧ y.2 = [])) ∧
    (∀ a, y.1 = Block.source a → (∃ f, d.source = some f ∧
        renderFoot k d f (pageAttrs d pl.bodyA pl.p x.1).srcOverride = .ok y.2) ∨ (d.source = none ∧ y.2 = [])) := by
  refine ⟨fun hb => ?_, fun hb => ?_, fun hb => hR.block hx hy hb, fun i hb => ?_, fun a hb => ?_, fun a hb => ?_⟩
  · have h := hR.block hx hy hb
    simp only [renderBlock] at h
    obtain ⟨ns, hns, h⟩ := Proofs.Encode.bind_ok h
    exact ⟨ns, hns, (Proofs.Encode.pure_ok h).symm⟩
  · have h := hR.block hx hy hb
    simp only [renderBlock] at h
    obtain ⟨es, hes, h⟩ := Proofs.Encode.bind_ok h
    exact ⟨es, hes, (Proofs.Encode.pure_ok h).symm⟩
  · have h := hR.block hx hy hb
    simp only [renderBlock] at h
    split at h
    · next hdr hh => exact Or.inl ⟨hdr, hh, h⟩
    · next hh => exact Or.inr ⟨hh, (Except.ok.inj h).symm⟩
  · have h := hR.block hx hy hb
    simp only [renderBlock] at h
    split at h
    · next f hf => exact Or.inl ⟨f, hf, h⟩
    · next hf => exact Or.inr ⟨hf, (Except.ok.inj h).symm⟩
  · have h := hR.block hx hy hb
    simp only [renderBlock] at h
    split at h
    · next f hf => exact Or.inl ⟨f, hf, h⟩
    · next hf => exact Or.inr ⟨hf, (Except.ok.inj h).symm⟩

/-! ## from `encode measure d = .ok g` -/

/-- **C06 for the encoder model.**  For every accepted document there are a plan and a trace (the output is the
trace's elements joined by newlines) such that on the `n`-th page of the trace (0-based, `P` pages): the blocks are in
the required order; title / subline appear once exactly when they have text and `page_title` selects the page;
footnote / source once exactly when present and selected; the column headers exactly on the first page or everywhere
with `pageby_header`; a page break starts every page but the first. -/
theorem C06enc (measure : Measure) (d : Doc) (g : DocG) (h : encode measure d = .ok g) :
    ∃ pl R, plan measure d = .ok pl ∧ Renders (mkColorCtx d) d pl R ∧
      g.blocks = joinElems R.elems ++ [BlockG.plain [Node.nl, Node.nl, Node.nl, Node.nl]] ∧ 0 < R.length ∧
      ∀ n x, R[n]? = some x →
        let bs := x.2.map Prod.fst
        let first := n == 0
        let last := n + 1 == R.length
        x.1.number = n + 1 ∧ x.1.total = R.length ∧
        (bs.map rank).Pairwise (· ≤ ·) ∧
        bs.count Block.title = (if hasText d.title && d.page.pageTitle.shows first last then 1 else 0) ∧
        bs.count Block.subline = (if hasText d.subline && d.page.pageTitle.shows first last then 1 else 0) ∧
        (bs.filter (fun b => match b with | .footnote _ => true | _ => false)) =
          (if footComp d.footnote != .absent && d.page.pageFootnote.shows first last
           then [Block.footnote (footComp d.footnote == .table)] else []) ∧
        (bs.filter (fun b => match b with | .source _ => true | _ => false)) =
          (if footComp d.source != .absent && d.page.pageSource.shows first last
           then [Block.source (footComp d.source == .table)] else []) ∧
        (bs.filterMap (fun b => match b with | .colHeader k => some k | _ => none)) =
          (if d.body.pagebyHeader || first then
            (d.headers.zipIdx.filterMap fun (h : Option Header × Nat) =>
              if headerHasText h.1 || d.body.asColheader then some h.2 else none)
           else []) ∧
        (n = 0 → Block.brk ∉ bs) ∧ (n ≠ 0 → ∃ rest, bs = Block.brk :: rest ∧ Block.brk ∉ rest) := by
  obtain ⟨pl, R, hp, hR, hg⟩ := encode_trace h
  have hlen : R.length = pl.pageBlocks.length := by
    rw [← hR.blocks, Trace.blocks, List.length_map]
  refine ⟨pl, R, hp, hR, hg, by rw [hlen, pageBlocks_length]; exact Proofs.Layout.pages_pos pl.ld, ?_⟩
  intro n x hx
  have hpb := hR.page_getElem? hx
  obtain ⟨h1, h2, _⟩ := C06enc_page_number pl n _ hpb
  dsimp only
  rw [hlen]
  exact ⟨h1, h2, C06enc_order measure d pl hp _ (List.mem_of_getElem? hpb),
    C06enc_title measure d pl hp n _ hpb, C06enc_subline measure d pl hp n _ hpb,
    C06enc_footnote measure d pl hp n _ hpb, C06enc_source measure d pl hp n _ hpb,
    C06enc_col_headers measure d pl hp n _ hpb, (C06enc_break measure d pl hp n _ hpb).1,
    (C06enc_break measure d pl hp n _ hpb).2⟩

/-! ## non-vacuity -/

open Props.C01enc in
/-- five rows on three pages: title on the first page only, footnote (table) on the last, source (paragraph) on all,
column headers repeated -/
def exDoc3 : Doc :=
  { exDoc [1, 2] with
    rows := [[some "x".toList, some "1".toList], [some "y".toList, some "2".toList], [some "z".toList, none],
             [some "n>=3".toList, some "é".toList], [some "w".toList, some "5".toList]],
    page := { exPage with nrow := 4, pageTitle := .first, pageFootnote := .last, pageSource := .all } }

set_option maxRecDepth 100000

open Props.C01enc in
example :
    (match encode exMeasure exDoc3 with | .ok _ => true | .error _ => false) = true ∧
    (match encoderBlocks exMeasure exDoc3 with
     | .ok pbs => pbs.map (·.2) ==
        [[.title, .colHeader 0, .data 0, .data 1, .source false],
         [.brk, .colHeader 0, .data 2, .data 3, .source false],
         [.brk, .colHeader 0, .data 4, .footnote true, .source false]]
     | .error _ => false) = true := by
  refine ⟨by decide +kernel, by decide +kernel⟩

end Props.C06enc
