import Generated.PyRtfColorIndex
import Model.Color
import Proofs.Color
/-!
# C12 — translator tie for the colour index

`Generated.Py.RtfColorIndex.run` is regenerated on every run from the source of `ColorService.get_rtf_color_index`
(harness/pytranslate.py), in the exception monad.  The rest of the service enters as parameters: the dict
`self._name_to_type` as a lookup, the helpers `get_color_index` and `validate_color_list` (they stay tied by C12's
correspondence), the context variable.

This file proves: with the parameters instantiated by the model's table functions (`lookupRow`, `validateList`), the
translated function is `Model.Color.rtfColorIndex` — the index every colour reference of C12 resolves through — for every
table, context, colour and list of used colours: 0 for none / black, the master index without a list, the 1-based
position in the dense table (filtered, validated, sorted stably by master index), 0 when absent.
-/
namespace Props.C12py
open Model.Color Generated Generated.Py Generated.Py.RtfColorIndex

/-- code points of a model string, and back -/
def codes (s : String) : List Nat := s.toList.map Char.toNat
def decode (l : List Nat) : String := String.ofList (l.map Char.ofNat)

theorem decode_codes (s : String) : decode (codes s) = s := by
  simp [decode, codes, List.map_map, Function.comp_def, Char.ofNat_toNat, String.ofList_toList]

theorem codes_inj {s t : String} (h : codes s = codes t) : s = t := by
  have := congrArg decode h
  simpa [decode_codes] using this

theorem decode_map_codes (l : List String) : (l.map codes).map decode = l := by
  simp [List.map_map, Function.comp_def, decode_codes]

/-! ## the parameters, instantiated by the model's table functions -/

/-- `self._name_to_type` -/
def n2t (tbl : List ColorRow) (cp : List Nat) : Option Int :=
  (lookupRow tbl (decode cp)).map fun r => Int.ofNat r.idx

/-- `self.get_color_index` -/
def gci (tbl : List ColorRow) (cp : List Nat) : Except Exc Int :=
  match lookupRow tbl (decode cp) with
  | some r => .ok (Int.ofNat r.idx)
  | none => .error .ColorValidationError

/-- `self.validate_color_list` (on a list of strings): the names themselves, or `ColorValidationError` -/
def vcl (tbl : List ColorRow) (l : List (List Nat)) : Except Exc (List (List Nat)) :=
  match validateList tbl (l.map decode) with
  | .ok _ => .ok l
  | .error _ => .error .ColorValidationError

/-! ## the pieces -/

theorem black_codes : codes "black" = [98, 108, 97, 99, 107] := by decide

theorem sig_codes (c : String) :
    ((!(codes c).isEmpty) && decide (codes c ≠ [98, 108, 97, 99, 107])) = significant c := by
  rw [← black_codes]
  have h1 : (codes c).isEmpty = (c == "") := by
    by_cases h : c = ""
    · subst h; decide
    · have : codes c ≠ [] := fun e => h (codes_inj (e.trans (by decide : ([] : List Nat) = codes "")))
      cases hc : codes c with
      | nil => exact absurd hc this
      | cons _ _ => simp [h]
  have h2 : decide (codes c ≠ codes "black") = (c != "black") := by
    by_cases h : c = "black"
    · subst h; simp
    · have : codes c ≠ codes "black" := fun e => h (codes_inj e)
      simp [h, this]
  simp [significant, h1, h2, bne]

/-- the two tests on a colour name, as values: whatever way the code combines them, `simp` can evaluate it -/
theorem sig_cases (c : String) :
    ((codes c).isEmpty = true ∧ codes c ≠ [98, 108, 97, 99, 107] ∧ significant c = false) ∨
    ((codes c).isEmpty = false ∧ codes c = [98, 108, 97, 99, 107] ∧ significant c = false) ∨
    ((codes c).isEmpty = false ∧ codes c ≠ [98, 108, 97, 99, 107] ∧ significant c = true) := by
  have h := sig_codes c
  cases hE : (codes c).isEmpty <;> by_cases hB : codes c = [98, 108, 97, 99, 107] <;> simp [hE, hB] at h ⊢
  · exact h
  · exact h
  · rw [hB] at hE; simp at hE
  · exact h

/-- the comprehension `[c for c in used_colors if c and c != "black"]` is the model's `filtered` -/
theorem loop_filter (n g v ctx col uc) (l : List String) (s : St) :
    (l.map codes).foldlM (loop1 n g v ctx col uc) s = .ok { s with v1 := s.v1 ++ (filtered l).map codes } := by
  induction l generalizing s with
  | nil => simp [filtered, pure, Except.pure]
  | cons c cs ih =>
    rw [List.map_cons, List.foldlM_cons]
    rcases sig_cases c with ⟨hE, hB, hs⟩ | ⟨hE, hB, hs⟩ | ⟨hE, hB, hs⟩ <;>
      simp [loop1, hE, hB, bind, Except.bind, pure, Except.pure, ih, filtered, hs]

/-- one row as the pair (name, key) the translated sort works on -/
def pair (r : ColorRow) : List Nat × Int := (codes r.name, Int.ofNat r.idx)

theorem insert_pair (x : ColorRow) (l : List ColorRow) :
    insertByKey (pair x) (l.map pair) = (insertRow x l).map pair := by
  induction l with
  | nil => rfl
  | cons y ys ih =>
    simp only [List.map_cons, insertByKey, insertRow, pair]
    by_cases h : x.idx ≤ y.idx
    · simp [h, pair]
    · have : ¬ (Int.ofNat x.idx) ≤ (Int.ofNat y.idx) := by simpa using h
      simp only [h, this, if_false, List.map_cons]
      rw [← ih]; rfl

/-- Python's stable `sorted(…, key=name_to_type)` is the model's insertion sort -/
theorem sort_pair (l : List ColorRow) : sortByKey (l.map pair) = (sortRows l).map pair := by
  induction l with
  | nil => rfl
  | cons x xs ih => simp only [List.map_cons, sortByKey, sortRows, ih, insert_pair]

/-- the keys of validated names exist: no `KeyError` -/
theorem keys_ok (tbl : List ColorRow) (rows : List ColorRow)
    (h : ∀ row ∈ rows, lookupRow tbl row.name = some row) :
    (rows.map fun r => codes r.name).mapM (fun k => pyDictGet (n2t tbl) k) = .ok (rows.map fun r => Int.ofNat r.idx) := by
  induction rows with
  | nil => rfl
  | cons r rs ih =>
    have hd : pyDictGet (n2t tbl) (codes r.name) = .ok (Int.ofNat r.idx) := by
      simp [pyDictGet, n2t, decode_codes, h r List.mem_cons_self]
    rw [List.map_cons, List.mapM_cons, ih (fun row hr => h row (List.mem_cons_of_mem _ hr)), hd]
    rfl

theorem sorted_ok (tbl : List ColorRow) (rows : List ColorRow)
    (h : ∀ row ∈ rows, lookupRow tbl row.name = some row) :
    pySortedByKey (rows.map fun r => codes r.name) (fun k => do let t ← pyDictGet (n2t tbl) k; pure t) =
      .ok ((sortRows rows).map fun r => codes r.name) := by
  have hk := keys_ok tbl rows h
  have hz : (rows.map fun r => codes r.name).zip (rows.map fun r => Int.ofNat r.idx) = rows.map pair := by
    induction rows with
    | nil => rfl
    | cons r rs ih => simp [pair, List.zip_map']
  simp only [pySortedByKey, hk, bind, Except.bind, pure, Except.pure, hz, sort_pair, List.map_map]
  rfl

/-- for any lawful `BEq` on `List Nat`: `pyListIndex` compares through the instance that comes with `DecidableEq` -/
theorem idxOf_codes [BEq (List Nat)] [LawfulBEq (List Nat)] (l : List String) (c : String) :
    (l.map codes).idxOf (codes c) = l.idxOf c := by
  induction l with
  | nil => rfl
  | cons x xs ih =>
    by_cases h : x = c
    · subst h
      simp
    · have : codes x ≠ codes c := fun e => h (codes_inj e)
      have e1 : (codes x == codes c) = false := by simpa using this
      have e2 : (x == c) = false := by simpa using h
      simp only [List.map_cons, List.idxOf_cons, e1, e2, ih, cond_false]

/-- `sorted_colors.index(color) + 1`, 0 on `ValueError` -/
theorem index_names (names : List String) (c : String) :
    (match (do let t ← pyListIndex (names.map codes) (codes c); pure (t + 1) : Except Exc Int) with
      | .error .ValueError => (pure 0 : Except Exc Int)
      | .error .ColorValidationError => pure 0
      | r => r) = .ok (Int.ofNat (if names.idxOf c < names.length then names.idxOf c + 1 else 0)) := by
  have hp : pyListIndex (names.map codes) (codes c) =
      if names.idxOf c < names.length then .ok (Int.ofNat (names.idxOf c)) else .error .ValueError := by
    simp only [pyListIndex, idxOf_codes, List.length_map]
  rw [hp]
  by_cases h : names.idxOf c < names.length
  · simp only [h, if_true, bind, Except.bind, pure, Except.pure]
    simp
  · simp only [h, if_false, bind, Except.bind, pure, Except.pure]
    rfl

theorem index_ok (rows : List ColorRow) (c : String) :
    (match (do let t ← pyListIndex (rows.map fun r => codes r.name) (codes c); pure (t + 1) : Except Exc Int) with
      | .error .ValueError => (pure 0 : Except Exc Int)
      | .error .ColorValidationError => pure 0
      | r => r) = .ok (Int.ofNat (indexIn rows c)) := by
  have hm : (rows.map fun r => codes r.name) = (rows.map (·.name)).map codes := by simp [List.map_map]
  rw [hm, index_names]
  simp [indexIn]

theorem notsig_codes (c : String) :
    ((!(!(codes c).isEmpty)) || decide (codes c = [98, 108, 97, 99, 107])) = !(significant c) := by
  rw [← sig_codes]
  cases (codes c).isEmpty <;> by_cases h : codes c = [98, 108, 97, 99, 107] <;> simp [h]

/-- the part of the function after `if used_colors is None: return self.get_color_index(color)`, for a list `u` -/
theorem dense_part (tbl : List ColorRow) (ctx uc) (color : String) (u : List String) (s : St) :
    (do
      let s := { s with v1 := [] }
      let s ← (u.map codes).foldlM (loop1 (n2t tbl) (gci tbl) (vcl tbl) ctx (codes color) uc) s
      if (!(!(s.v1).isEmpty)) then pure (0 : Int)
      else do
        let t2 ← vcl tbl s.v1
        let s := { s with v2 := t2 }
        let t4 ← pySortedByKey s.v2 (fun k1 => do let t3 ← pyDictGet (n2t tbl) k1; pure t3)
        let s := { s with v3 := t4 }
        (match (show Except Exc Int from do
            let t5 ← pyListIndex s.v3 (codes color)
            pure (t5 + (1 : Int))) with
        | .error Exc.ValueError => do pure (0 : Int)
        | .error Exc.ColorValidationError => do pure (0 : Int)
        | r => r) : Except Exc Int) =
      (if (filtered u).isEmpty then .ok 0 else
        match tableRows tbl u with
        | .error _ => .error .ColorValidationError
        | .ok rows => .ok (Int.ofNat (indexIn rows color))) := by
  simp only [loop_filter, bind, Except.bind, List.nil_append]
  cases hf : (filtered u).isEmpty
  · have hne : ((filtered u).map codes).isEmpty = false := by simpa using hf
    simp only [hne, Bool.not_false, Bool.not_true, Bool.false_eq_true, if_false, vcl, decode_map_codes, tableRows]
    cases hv : validateList tbl (filtered u) with
    | error e => rfl
    | ok rows =>
      obtain ⟨_, h1, h2⟩ := Proofs.Color.validateFrom_ok hv
      have hn : (filtered u).map codes = rows.map fun r => codes r.name := by
        rw [← h1]; simp [List.map_map]
      have hs := sorted_ok tbl rows h2
      simp only [hn, hs]
      exact index_ok (sortRows rows) color
  · have he : ((filtered u).map codes).isEmpty = true := by simpa using hf
    simp only [he, Bool.not_true, Bool.not_false, if_true]
    rfl

/-- **the translated `get_rtf_color_index` is the model's `rtfColorIndex`**, for every colour table, context variable,
colour and list of used colours (the helpers instantiated by the model's table functions; every error of the model is a
`ColorValidationError` of the code) -/
theorem C12py_rtf_color_index_translated (tbl : List ColorRow) (ctx : Option (List String)) (color : String)
    (used : Option (List String)) :
    run (n2t tbl) (gci tbl) (vcl tbl) (ctx.map (·.map codes)) (codes color) (used.map (·.map codes)) =
      match rtfColorIndex tbl ctx color used with
      | .ok n => .ok (Int.ofNat n)
      | .error _ => .error .ColorValidationError := by
  unfold run rtfColorIndex
  rcases sig_cases color with ⟨hE, hB, hs⟩ | ⟨hE, hB, hs⟩ | ⟨hE, hB, hs⟩
  · simp [hE, hB, hs, pure, Except.pure]
  · simp [hB, hs, pure, Except.pure]
  · simp only [hE, hB, hs, Bool.not_true, Bool.not_false, decide_false, Bool.or_false,
      Bool.false_eq_true, if_false]
    have hg : gci tbl (codes color) = match lookupRow tbl color with
        | none => .error .ColorValidationError
        | some row => .ok (Int.ofNat row.idx) := by
      simp only [gci, decode_codes]; cases lookupRow tbl color <;> rfl
    rcases used with _ | u <;> rcases ctx with _ | c
    · simp only [Option.map_none, Option.isNone_none, Option.isSome_none, Bool.and_false, Bool.false_eq_true,
        if_false, bind, Except.bind, pure, Except.pure, hg]
      cases lookupRow tbl color <;> rfl
    · simp only [Option.map_none, Option.map_some, Option.isNone_none, Option.isSome_some, Bool.and_true, if_true,
        bind, Except.bind, pure, Except.pure]
      have := dense_part tbl (some (c.map codes)) none color c
        { v0 := some (c.map codes), v1 := [], v2 := [], v3 := [] }
      simp only [bind, Except.bind, pure, Except.pure] at this
      refine Eq.trans this ?_
      cases (filtered c).isEmpty <;> simp <;> cases tableRows tbl c <;> rfl
    · simp only [Option.map_none, Option.map_some, Option.isNone_some, Bool.false_and, Bool.false_eq_true, if_false,
        bind, Except.bind, pure, Except.pure]
      have := dense_part tbl none (some (u.map codes)) color u
        { v0 := some (u.map codes), v1 := [], v2 := [], v3 := [] }
      simp only [bind, Except.bind, pure, Except.pure] at this
      refine Eq.trans this ?_
      cases (filtered u).isEmpty <;> simp <;> cases tableRows tbl u <;> rfl
    · simp only [Option.map_some, Option.isNone_some, Bool.false_and, Bool.false_eq_true, if_false,
        bind, Except.bind, pure, Except.pure]
      have := dense_part tbl (some (c.map codes)) (some (u.map codes)) color u
        { v0 := some (u.map codes), v1 := [], v2 := [], v3 := [] }
      simp only [bind, Except.bind, pure, Except.pure] at this
      refine Eq.trans this ?_
      cases (filtered u).isEmpty <;> simp <;> cases tableRows tbl u <;> rfl

/-- a three-colour table: `red` (master index 9) sorts after `blue` (3), so it is entry 2 of the dense table -/
example : rtfColorIndex [⟨"red", 9, 255, 0, 0, ""⟩, ⟨"blue", 3, 0, 0, 255, ""⟩, ⟨"black", 24, 0, 0, 0, ""⟩]
    (some ["red", "", "black", "blue"]) "red" none = .ok 2 := by rfl

end Props.C12py
