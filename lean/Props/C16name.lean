import Model.Figure
import Model.FigureSpec
import Proofs.Figure
import Props.C16
/-!
# C16, file names — the picture type is that of the LAST suffix of the file's name

"Each image file is embedded ... tagged with the picture type of its format."  The format of a file is what its
name's suffix says (`.png`, `.jpg`/`.jpeg`, `.emf`, any case), and the suffix of a name is its LAST dot-token
(`Model.Figure.suffixOfName`, = `pathlib.PurePath.suffix`).  File names are data: exports are called
`plot.emf.png` (an EMF converted to PNG), `scan.png.jpg`, `km.v2.final.jpeg`, `results.pngquant.jpeg`, live in
directories called `figs.png/` ...  Nothing of a name but its last suffix may decide the picture type:

* `C16_suffix_is_last_token`     `suffixOfName (stem ++ "." ++ ext) = "." ++ ext` for every non-empty `stem`
                                 (dots, other suffixes, anything inside) and every non-empty dot-free `ext`;
* `C16_format_is_last_suffix`    hence the format of such a name is the table entry of `"." ++ ext` alone,
* `C16_stem_irrelevant`          two names with the same last suffix have the same format whatever their stems are
                                 (`plot.emf.png` ~ `plot.png`),
* `C16_directories_irrelevant`   and whatever directories they stand in (`dir.png/plot.jpg` ~ `plot.jpg`);
* `C16_name_blip`                the keyword the model writes for a path is the one the statement's table
                                 (`wantBlip`) demands for the last suffix of its final component;
* `C16_no_suffix`                a name without a dot, a name whose only dot is its first character (`.png`), and a
                                 name ending in a dot (`plot.png.`) have no suffix, hence no format of the table;
* examples (`decide`): `plot.emf.png`, `fig.png.jpg`, `chart.emfplus.png`, `.png.jpg`, `dir.png/plot.JPEG`.
-/
namespace Props.C16name
open Model.Figure Proofs.Figure

/-- a reversed name splits at the last `c` of the name: in front of it (reversed) what follows that `c` -/
private theorem reverse_split (c : Char) (a b : List Char) (ha : ∀ x ∈ a, x ≠ c) :
    (b ++ c :: a).reverse.takeWhile (· != c) = a.reverse ∧
      (b ++ c :: a).reverse.dropWhile (· != c) = c :: b.reverse := by
  have hp : ∀ x ∈ a.reverse, (x != c) = true := fun x hx => by simpa using ha x (List.mem_reverse.mp hx)
  rw [List.reverse_append, List.reverse_cons, List.append_assoc, List.takeWhile_append_of_pos hp,
    List.dropWhile_append_of_pos hp]
  simp

/-- the suffix of a name is its last dot-token, whatever stands in front of it -/
theorem C16_suffix_is_last_token (stem ext : List Char) (hs : stem ≠ []) (he : ext ≠ [])
    (hd : ∀ c ∈ ext, c ≠ '.') :
    suffixOfName (stem ++ '.' :: ext) = '.' :: ext := by
  obtain ⟨h1, h2⟩ := reverse_split '.' ext stem hd
  obtain ⟨y, t, hr⟩ := List.exists_cons_of_ne_nil (mt List.reverse_eq_nil_iff.mp hs)
  have hx : ext.reverse.isEmpty = false := by simpa using he
  unfold suffixOfName
  simp only [h1, h2, hr, hx]
  simp

/-- **the format of a file name is the format of its last suffix** -/
theorem C16_format_is_last_suffix (stem ext : List Char) (hs : stem ≠ []) (he : ext ≠ [])
    (hd : ∀ c ∈ ext, c ≠ '.') :
    fmtOfSuffix (suffixOfName (stem ++ '.' :: ext)) = fmtOfSuffix ('.' :: ext) := by
  rw [C16_suffix_is_last_token stem ext hs he hd]

/-- earlier dot-tokens / anything in the stem are irrelevant -/
theorem C16_stem_irrelevant (s₁ s₂ ext : List Char) (h₁ : s₁ ≠ []) (h₂ : s₂ ≠ []) (he : ext ≠ [])
    (hd : ∀ c ∈ ext, c ≠ '.') :
    fmtOfSuffix (suffixOfName (s₁ ++ '.' :: ext)) = fmtOfSuffix (suffixOfName (s₂ ++ '.' :: ext)) := by
  rw [C16_format_is_last_suffix s₁ ext h₁ he hd, C16_format_is_last_suffix s₂ ext h₂ he hd]

/-- the final component of `dir/name` is `name` (no slash in `name`) -/
theorem baseName_dir (dir name : List Char) (hn : ∀ c ∈ name, c ≠ '/') :
    baseName (dir ++ '/' :: name) = name := by
  rw [baseName, (reverse_split '/' name dir hn).1, List.reverse_reverse]

/-- what the directories of a path are called does not enter the format -/
theorem C16_directories_irrelevant (d₁ d₂ name : List Char) (hn : ∀ c ∈ name, c ≠ '/') :
    fmtOfPath (d₁ ++ '/' :: name) = fmtOfPath (d₂ ++ '/' :: name) := by
  unfold fmtOfPath
  rw [baseName_dir d₁ name hn, baseName_dir d₂ name hn]

/-- the keyword written for a path is the keyword the statement's table demands for its last suffix -/
theorem C16_name_blip (path bs w h f)
    (hf : fmtOfPath path = some f) :
    wantBlip (suffixOfName (baseName path)) = some (blipWord (encodeFigure f bs w h).fmt) :=
  Proofs.Figure.wantBlip_of_fmt (suffixOfName (baseName path)) f hf

/-- no dot / only a leading dot / a trailing dot: no suffix (and so no format of the table) -/
theorem C16_no_suffix (name : List Char) (hd : ∀ c ∈ name, c ≠ '.') :
    suffixOfName name = [] ∧ suffixOfName ('.' :: name) = [] ∧ suffixOfName (name ++ ['.']) = [] := by
  refine ⟨?_, ?_, ?_⟩
  · have hp : ∀ x ∈ name.reverse, (x != '.') = true := fun x hx => by simpa using hd x (List.mem_reverse.mp hx)
    have h2 := List.dropWhile_append_of_pos (l₂ := []) hp
    rw [List.append_nil] at h2
    simp [suffixOfName, h2]
  · have h2 := (reverse_split '.' name [] hd).2
    unfold suffixOfName
    simp only [List.nil_append] at h2
    simp only [h2]
    rfl
  · simp [suffixOfName]
    cases name.reverse <;> simp

theorem C16_no_suffix_no_format : fmtOfSuffix [] = none := by decide

example : fmtOfPath "plot.emf.png".toList = some .png := by decide +kernel
example : fmtOfPath "fig.png.jpg".toList = some .jpeg := by decide +kernel
example : fmtOfPath "chart.emfplus.png".toList = some .png := by decide +kernel
example : fmtOfPath "results.pngquant.jpeg".toList = some .jpeg := by decide +kernel
example : fmtOfPath ".png.jpg".toList = some .jpeg := by decide +kernel
example : fmtOfPath "dir.png/plot.JPEG".toList = some .jpeg := by decide +kernel
example : fmtOfPath "km.jpg.EMF".toList = some .emf := by decide +kernel
example : fmtOfPath ".png".toList = none := by decide +kernel
example : fmtOfPath "plot.png.".toList = none := by decide +kernel
example : fmtOfPath "dir.png/plot".toList = none := by decide +kernel
example : fmtOfPath "a.png.txt".toList = none := by decide +kernel

end Props.C16name
