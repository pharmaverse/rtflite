import Model.Figure
import Model.FigureSpec
import Model.FigureMemo
import Proofs.Figure
import Proofs.FigurePos
import Props.C16
/-!
# C16, positions: page `k` shows file `k` at size `k` — whatever else is listed

"Figures appear one per page in the given order, per-figure sizes being taken positionally."  `figures` is a list of
POSITIONS: the same file may be listed several times (a legend between panels, the same plot small and large), under
one spelling of its path or under several, and different files may have equal bytes or equal names.  None of that is
visible to the model: a position is (suffix, bytes read), and

* `C16_pict_at_position`            the one picture on page `j` of a document is `encodeFigure` of the format of the
                                    suffix at position `j`, the bytes at position `j`, `getDim fig_width j`,
                                    `getDim fig_height j`;
* `C16_goal_at_position`            its `\picwgoal\pichgoal` are `⌊inches · 1440⌋` of the width / height of position `j`,
                                    its payload decodes to the bytes of position `j`;
* `C16_pict_depends_only_on_position`  **locality**: two positions — of one document or of two — with the same format,
                                    bytes, width and height show the same picture; no other position, no list length, no
                                    earlier page enters.  Conversely (`C16_repeated_file_sizes`) a file listed at two
                                    positions with different widths is shown with different `\picwgoal`.
* `C16_memo_sound`                  a page loop that remembers finished picture groups under a key and reuses them
                                    (`Model/FigureMemo.lean`) IS the page loop whenever the key determines format,
                                    bytes, width and height of the positions it is used at;
* `C16_path_memo_not_positional`    and is not otherwise: remembered under the path alone, `[overview, panel, overview]`
                                    at widths `[3, 4, 6]` × heights `[2, 3, 4]` shows page 3 at 4320 × 2880 twips instead
                                    of 8640 × 5760, which the document oracle rejects with clause `goal` on page 2 — the
                                    memo key of the hypothesis of `C16_memo_sound` cannot leave the size out.
-/
namespace Props.C16pos
open Model.Figure Proofs.Figure Proofs.FigurePos

/-- **page `j` shows position `j`**: the only picture a reader finds on page `j` is the encoding of the format of the
suffix at position `j`, the bytes at position `j`, and the width and height `getDim` selects for `j` -/
theorem C16_pict_at_position (d : FigDoc) (pieces : List Piece) (henc : encodeDoc d = .ok pieces)
    (j : Nat) (s : FigSrc) (hs : d.figs[j]? = some s) :
    ∃ f w h, fmtOfSuffix s.suffix = some f ∧ getDim d.widths j = some w ∧ getDim d.heights j = some h ∧
      ((observe pieces)[j]?).map (·.picts) = some [obsOfPict (encodeFigure f s.bytes w h)] := by
  obtain ⟨fs, ps, hfs, hps, hne, rfl⟩ := encodeDoc_ok d pieces henc
  obtain ⟨f, hf, hfj⟩ := readFormats_getElem? d.figs fs hfs j s hs
  obtain ⟨w, h, hw, hh, hp⟩ := encodePicts_getElem? d.widths d.heights 0 fs ps hps j f s.bytes hfj
  simp only [Nat.zero_add] at hw hh
  exact ⟨f, w, h, hf, hw, hh, by rw [observe_picts d.cfg ps hne j, hp]; rfl⟩

/-- the display size on page `j` is the size of position `j` (`⌊inches · 1440⌋` on the exact value), the payload
decodes to the bytes of position `j`, the keyword is the one of the suffix at position `j` -/
theorem C16_goal_at_position (d : FigDoc) (pieces : List Piece) (henc : encodeDoc d = .ok pieces)
    (j : Nat) (s : FigSrc) (hs : d.figs[j]? = some s) (hb : ∀ b ∈ s.bytes, b < 256) :
    ∃ w h p, getDim d.widths j = some w ∧ getDim d.heights j = some h ∧
      ((observe pieces)[j]?).map (·.picts) = some [p] ∧
      p.wgoal = truncMul w 1440 ∧ p.hgoal = truncMul h 1440 ∧ unhex p.payload = some s.bytes ∧
      wantBlip s.suffix = some p.blip := by
  obtain ⟨f, w, h, hf, hw, hh, hp⟩ := C16_pict_at_position d pieces henc j s hs
  refine ⟨w, h, _, hw, hh, hp, rfl, rfl, ?_, ?_⟩
  · simp [obsOfPict, encodeFigure, unhex_hexLines s.bytes hb]
  · simp [obsOfPict, encodeFigure, wantBlip_of_fmt s.suffix f hf]

/-- **locality**: the picture of a position depends on the format, the bytes, the width and the height of THAT
position only.  Two positions (of one document, `d' = d`, or of two documents of any lengths, with any other entries,
at any indices) that agree in these four show the same picture. -/
theorem C16_pict_depends_only_on_position (d d' : FigDoc) (pieces pieces' : List Piece)
    (henc : encodeDoc d = .ok pieces) (henc' : encodeDoc d' = .ok pieces')
    (j j' : Nat) (s s' : FigSrc) (hs : d.figs[j]? = some s) (hs' : d'.figs[j']? = some s')
    (hfmt : fmtOfSuffix s.suffix = fmtOfSuffix s'.suffix) (hbytes : s.bytes = s'.bytes)
    (hw : getDim d.widths j = getDim d'.widths j') (hh : getDim d.heights j = getDim d'.heights j') :
    ((observe pieces)[j]?).map (·.picts) = ((observe pieces')[j']?).map (·.picts) := by
  obtain ⟨f, w, h, e1, e2, e3, e4⟩ := C16_pict_at_position d pieces henc j s hs
  obtain ⟨f', w', h', e1', e2', e3', e4'⟩ := C16_pict_at_position d' pieces' henc' j' s' hs'
  rw [hfmt, e1'] at e1
  rw [hw, e2'] at e2
  rw [hh, e3'] at e3
  injection e1 with e1
  injection e2 with e2
  injection e3 with e3
  subst e1 e2 e3
  rw [e4, e4', hbytes]

/-- a file listed at two positions is shown at each position's own size: the two `\picwgoal` are the truncations of
the two widths (so they differ whenever those differ), likewise `\pichgoal`; the payloads are equal -/
theorem C16_repeated_file_sizes (d : FigDoc) (pieces : List Piece) (henc : encodeDoc d = .ok pieces)
    (j j' : Nat) (s : FigSrc) (hs : d.figs[j]? = some s) (hs' : d.figs[j']? = some s) :
    ∃ w h w' h' p p', getDim d.widths j = some w ∧ getDim d.heights j = some h ∧
      getDim d.widths j' = some w' ∧ getDim d.heights j' = some h' ∧
      ((observe pieces)[j]?).map (·.picts) = some [p] ∧ ((observe pieces)[j']?).map (·.picts) = some [p'] ∧
      p.wgoal = truncMul w 1440 ∧ p'.wgoal = truncMul w' 1440 ∧ p.hgoal = truncMul h 1440 ∧ p'.hgoal = truncMul h' 1440 ∧
      p.payload = p'.payload ∧ p.blip = p'.blip := by
  obtain ⟨f, w, h, e1, e2, e3, e4⟩ := C16_pict_at_position d pieces henc j s hs
  obtain ⟨f', w', h', e1', e2', e3', e4'⟩ := C16_pict_at_position d pieces henc j' s hs'
  rw [e1] at e1'
  injection e1' with e1'
  subst e1'
  exact ⟨w, h, w', h', _, _, e2, e3, e2', e3', e4, e4', rfl, rfl, rfl, rfl, rfl, rfl⟩

/-! ## remembering finished picture groups -/

/-- **a memo is transparent when its key determines the picture**: if positions with equal keys have equal format,
bytes, width and height, the memoising loop returns exactly what the page loop returns (pictures and `IndexError`
alike) -/
theorem C16_memo_sound {κ : Type} [DecidableEq κ] (ws hs : List Size) (items : List (Keyed κ))
    (hkey : ∀ a b xa xb, items[a]? = some xa → items[b]? = some xb → xa.key = xb.key →
      xa.fmt = xb.fmt ∧ xa.bytes = xb.bytes ∧ getDim ws a = getDim ws b ∧ getDim hs a = getDim hs b) :
    encodePictsMemo ws hs 0 [] items = encodePicts ws hs 0 (items.map Keyed.plain) := by
  apply encodePictsMemo_eq ws hs items 0 []
  · intro a b xa xb ha hb hk
    simpa using hkey a b xa xb ha hb hk
  · intro k p hm
    cases hm

/-- a document that lists one file twice, with tiny files: overview, panel, overview at 3 × 2, 4 × 3, 6 × 4 in -/
def exOverview : List Nat := [1, 0, 0, 0, 7]
def exPanel : List Nat := [1, 0, 0, 0, 9, 9]
def exWidths : List Size := [⟨3, 1⟩, ⟨4, 1⟩, ⟨6, 1⟩]
def exHeights : List Size := [⟨2, 1⟩, ⟨3, 1⟩, ⟨4, 1⟩]
/-- keyed by the PATH: 0 = overview.emf, 1 = panel.emf -/
def exByPath : List (Keyed Nat) :=
  [⟨0, .emf, exOverview⟩, ⟨1, .emf, exPanel⟩, ⟨0, .emf, exOverview⟩]
/-- keyed by path AND size -/
def exByPathAndSize : List (Keyed (Nat × Nat × Nat)) :=
  [⟨(0, 3, 2), .emf, exOverview⟩, ⟨(1, 4, 3), .emf, exPanel⟩, ⟨(0, 6, 4), .emf, exOverview⟩]
def exCfg0 : Cfg :=
  { pageTitle := .all, pageFootnote := .last, pageSource := .last, hasTitle := true, hasSubline := false,
    hasFootnote := false, hasSource := false }
def exWants : List Want :=
  wantsFrom exWidths exHeights 0 [(⟨['.', 'e', 'm', 'f'], exOverview⟩, none), (⟨['.', 'e', 'm', 'f'], exPanel⟩, none),
    (⟨['.', 'e', 'm', 'f'], exOverview⟩, none)]

/-- **a memo under the path alone is not the page loop**: the third position (overview again, configured 6 × 4 in) gets
the remembered picture of the first (3 × 2 in = 4320 × 2880 twips) instead of 8640 × 5760; every other number and all
payloads are as they should be; the document oracle rejects the document with clause `goal` on page 2 and accepts the
page loop's.  With the size in the key the memo is the page loop again (`C16_memo_sound` applies). -/
theorem C16_path_memo_not_positional :
    (encodePictsMemo exWidths exHeights 0 [] exByPath).map (·.map fun p => (p.wgoal, p.hgoal)) =
      some [(4320, 2880), (5760, 4320), (4320, 2880)] ∧
    (encodePicts exWidths exHeights 0 (exByPath.map Keyed.plain)).map (·.map fun p => (p.wgoal, p.hgoal)) =
      some [(4320, 2880), (5760, 4320), (8640, 5760)] ∧
    (encodePictsMemo exWidths exHeights 0 [] exByPath).map (fun ps => violations exCfg0 exWants (observe (figureLoop exCfg0 ps))) =
      some [(2, "goal")] ∧
    (encodePicts exWidths exHeights 0 (exByPath.map Keyed.plain)).map (fun ps => docOk exCfg0 exWants (observe (figureLoop exCfg0 ps))) =
      some true ∧
    encodePictsMemo exWidths exHeights 0 [] exByPathAndSize =
      encodePicts exWidths exHeights 0 (exByPathAndSize.map Keyed.plain) := by
  decide +kernel

/-- the hypothesis of `C16_memo_sound` is satisfiable by a list with a repeated key: the overview listed three times,
widths `[3, 6]` (positions 1 and 2 share the last value), one height — keyed by (path, width index capped) -/
example :
    let items : List (Keyed (Nat × Nat)) := [⟨(0, 0), .emf, exOverview⟩, ⟨(0, 1), .emf, exOverview⟩, ⟨(0, 1), .emf, exOverview⟩]
    encodePictsMemo [⟨3, 1⟩, ⟨6, 1⟩] [⟨2, 1⟩] 0 [] items = encodePicts [⟨3, 1⟩, ⟨6, 1⟩] [⟨2, 1⟩] 0 (items.map Keyed.plain) ∧
    (encodePicts [⟨3, 1⟩, ⟨6, 1⟩] [⟨2, 1⟩] 0 (items.map Keyed.plain)).map (·.map fun p => p.wgoal) = some [4320, 8640, 8640] := by
  decide +kernel

/-- locality on a concrete pair: position 2 of the three-figure document and position 0 of a one-figure document with the
same file at 6 × 4 in show the same picture -/
example :
    let d : FigDoc := { figs := [⟨['.', 'e', 'm', 'f'], exOverview⟩, ⟨['.', 'E', 'M', 'F'], exPanel⟩, ⟨['.', 'e', 'm', 'f'], exOverview⟩],
                        widths := exWidths, heights := exHeights, cfg := exCfg0 }
    let d' : FigDoc := { figs := [⟨['.', 'e', 'm', 'f'], exOverview⟩], widths := [⟨6, 1⟩], heights := [⟨4, 1⟩, ⟨9, 1⟩], cfg := exCfg0 }
    (match encodeDoc d, encodeDoc d' with
     | .ok ps, .ok ps' => ((observe ps)[2]?).map (·.picts) == ((observe ps')[0]?).map (·.picts) &&
         ((observe ps)[0]?).map (·.picts) != ((observe ps)[2]?).map (·.picts)
     | _, _ => false) = true := by
  decide +kernel

end Props.C16pos
