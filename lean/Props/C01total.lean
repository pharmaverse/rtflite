import Model.Rtf
import Model.Encode
import Model.EncodeDomain
import Model.EncodeAccepted
import Proofs.EncodeTotalDoc
import Props.C01enc
/-!
# C01, first clause: TOTALITY of the encoder model

C01: *"For every document configuration accepted at construction, `rtf_encode()` succeeds (the only data-dependent
refusal being a `ValueError` for non-contiguous group_by keys) and returns … well-formed RTF."*
`Props/C01enc.lean` proves the second half for the encoder model (`encode … = .ok g → InDomain d → wellFormed`).
This file proves the first half: **the encoder model does not fail on an accepted configuration.**

`Model.Encode.encode : Measure → Doc → Except String DocG` mirrors every exception of `RTFDocument.rtf_encode()`
(`TypeError`, `ZeroDivisionError`, `ValidationError`, `UnboundLocalError`, `IndexError`, `KeyError`, `ValueError`, and
`model:` messages); its print is byte-equal to the real output on every generated document (checked on every run).

Hypotheses (all decidable, `Model/EncodeAccepted.lean`):

* `Accepted d`            — the post-construction state the constructors / pydantic validators GUARANTEE;
* `ShapesInQuantifier d`  — the attribute shapes of C01's quantifier ("scalar, per-column, matrix"): no empty attribute
  list, no ragged matrix, no explicit `None` for an attribute `TextContent` requires, `col_rel_width` present on a
  table-rendered footnote / source, non-empty header text, at least one displayed column, width vectors that cover the
  cells.  The constructors accept configurations outside it and `rtf_encode()` RAISES on them (domain decisions,
  DESIGN §8); each clause has a witness below (`C01total_outside_*`: accepted, measurable, the model raises — replayed
  on the real encoder), hence the statement without this hypothesis (`C01_total_full`) is false (`C01_total_witness`);
* `MeasureOk measure d`   — `get_string_width` answers the (text, font, size) triples the pagination asks for.

Conclusion: the encoder returns a document, or it raises `ValueError` and the group_by keys are NOT contiguous
(`Proofs.EncodeTotal.GroupKeysContiguous`, in the vocabulary of `Model/GroupBySpec.lean`: at every level of the
`group_by` list the hierarchical keys of the frame handed to the grouping service are `Contiguous`).
-/
namespace Props.C01total
open Model.Rtf Model.Encode Model.EncodeDomain Model.EncodeAccepted Proofs.EncodeTotal

/-- **C01, totality of the encoder model**: an accepted configuration inside C01's quantifier encodes, unless its
group_by keys are not contiguous — then, and only then, the encoder refuses, with `ValueError`. -/
theorem C01_encode_total (measure : Measure) (d : Doc) (ha : Accepted d) (hs : ShapesInQuantifier d)
    (hm : MeasureOk measure d) :
    (∃ g, encode measure d = .ok g) ∨
    (encode measure d = .error "ValueError" ∧ ¬ GroupKeysContiguous d) :=
  (encode_total measure ha hs hm).imp (fun ⟨g, hg, _⟩ => ⟨g, hg⟩) id

/-- the refusal is decided by the data alone: contiguous keys ⇒ the encoder returns a document -/
theorem C01_encode_total_contiguous (measure : Measure) (d : Doc) (ha : Accepted d) (hs : ShapesInQuantifier d)
    (hm : MeasureOk measure d) (hc : GroupKeysContiguous d) : ∃ g, encode measure d = .ok g :=
  ok_of_ok_or_error (encode_total measure ha hs hm) fun hn => hn hc

/-- a document without `group_by` is never refused -/
theorem C01_encode_total_no_groupby (measure : Measure) (d : Doc) (ha : Accepted d) (hs : ShapesInQuantifier d)
    (hm : MeasureOk measure d) (h0 : d.body.groupByL = []) : ∃ g, encode measure d = .ok g :=
  C01_encode_total_contiguous measure d ha hs hm (groupKeysContiguous_of_no_groupby h0)

/-- whatever the encoder model raises on an accepted configuration of the quantifier is `ValueError` -/
theorem C01_encode_only_valueError (measure : Measure) (d : Doc) (ha : Accepted d) (hs : ShapesInQuantifier d)
    (hm : MeasureOk measure d) (e : String) (he : encode measure d = .error e) : e = "ValueError" :=
  error_eq_of_ok_or_error (encode_total measure ha hs hm) he

/-- `shapesInQuantifier` is stated relative to the removed column indices; they always exist for an accepted
document (`page_by` / `subline_by` name columns), so this is no hidden hypothesis -/
theorem C01_removed_columns_exist (d : Doc) (ha : Accepted d) : ∃ removed, removedIdx d = .ok removed :=
  removedIdx_total ha

/-- the decidable form of the refusal condition (evaluated by the driver on every generated document) -/
theorem C01_groupKeysContiguous_decidable (d : Doc) : groupKeysContiguous d = true ↔ GroupKeysContiguous d :=
  groupKeysContiguous_iff d

/-- **C01 for the encoder model, both clauses**: accepted ∧ in the quantifier ∧ in the text domain ∧ contiguous keys
⇒ the encoder returns a document and it prints to well-formed RTF. -/
theorem C01_encode_total_wellformed (measure : Measure) (d : Doc) (ha : Accepted d) (hs : ShapesInQuantifier d)
    (hm : MeasureOk measure d) (hdom : InDomain d) (hc : GroupKeysContiguous d) :
    ∃ g, encode measure d = .ok g ∧ wellFormed (printDoc g) = true := by
  obtain ⟨g, hg⟩ := C01_encode_total_contiguous measure d ha hs hm hc
  exact ⟨g, hg, Props.C01enc.C01_encode_wellformed measure d g hg hdom⟩

/-- … and in every case: a document that prints to well-formed RTF, or the `ValueError` of non-contiguous keys -/
theorem C01_encode_total_or_refused (measure : Measure) (d : Doc) (ha : Accepted d) (hs : ShapesInQuantifier d)
    (hm : MeasureOk measure d) (hdom : InDomain d) :
    (∃ g, encode measure d = .ok g ∧ wellFormed (printDoc g) = true) ∨
    (encode measure d = .error "ValueError" ∧ ¬ GroupKeysContiguous d) := by
  rcases C01_encode_total measure d ha hs hm with ⟨g, hg⟩ | h
  · exact Or.inl ⟨g, hg, Props.C01enc.C01_encode_wellformed measure d g hg hdom⟩
  · exact Or.inr h

/-! ## non-vacuity: a paginated table with page_by, group_by, explicit header, title, footnote as table, source -/

def sc (v : Val) : Attr := .nested [[v]]
def tp (v : Val) : Attr := .tuple [v]

/-- the attributes of an `RTFTitle` after construction (tuples) -/
def exText : TextAttrsOf Attr :=
  { font := tp (.int 1), format := .null, size := tp (.float 12), color := .null, bg := .null,
    just := tp (.str "c"), indFirst := tp (.int 0), indLeft := tp (.int 0), indRight := tp (.int 0),
    space := tp (.int 1), spBefore := tp (.int 180), spAfter := tp (.int 180), hyph := tp (.bool true),
    convert := tp (.bool true) }

/-- the attributes of a table component after construction (nested lists) -/
def exTbl : TblAttrsOf Attr :=
  { font := sc (.int 1), format := sc (.str ""), size := sc (.float 9), color := .null, bg := .null,
    just := sc (.str "c"), indFirst := sc (.int 0), indLeft := sc (.int 0), indRight := sc (.int 0),
    space := sc (.int 1), spBefore := sc (.int 15), spAfter := sc (.int 15), hyph := sc (.bool true),
    convert := sc (.bool true),
    bLeft := sc (.str "single"), bRight := sc (.str "single"), bTop := sc (.str ""), bBottom := sc (.str ""),
    bFirst := sc (.str "single"), bLast := sc (.str "single"), bcLeft := sc (.str ""), bcRight := sc (.str ""),
    bcTop := sc (.str ""), bcBottom := sc (.str ""), bcFirst := sc (.str ""), bcLast := sc (.str ""),
    bWidth := sc (.int 15), cellHeight := sc (.float (3 / 20)), cellJust := sc (.str "c"),
    cellVJust := sc (.str "top"), cellNrow := sc (.int 1) }

def exPage : Page :=
  { width := 17 / 2, height := 11, margin := [5 / 4, 1, 7 / 4, 5 / 4, 7 / 4, 1], nrow := 5, landscape := false,
    borderFirst := "double", borderLast := "double", colWidth := 25 / 4, pageTitle := .all, pageFootnote := .last,
    pageSource := .last }

/-- three columns; `g` is a page_by column (shown as spanning rows, two groups), `a` a group_by column; five rows on
several pages (`nrow = 5`); an explicit two-cell header; per-column fonts and colours; a two-line footnote rendered as
table and a source paragraph -/
def exDoc : Doc :=
  { cols := ["g".toList, "a".toList, "b".toList],
    rows := [[some "A".toList, some "x".toList, some "1".toList],
             [some "A".toList, some "x".toList, some "n>=3".toList],
             [some "B".toList, some "y".toList, none],
             [some "B".toList, some "z".toList, some "4".toList],
             [some "B".toList, some "z".toList, some "5".toList]],
    page := exPage, pageHeader := none, pageFooter := none,
    title := some { text := some ["Title".toList], attrs := exText }, subline := none,
    headers := [some { text := some ["A".toList, "B".toList], colRelWidth := some [1, 1, 1],
                       attrs := { exTbl with bTop := sc (.str "single"), cellVJust := sc (.str "bottom") } }],
    body := { attrs := { exTbl with font := .nested [[.int 1, .int 4, .int 9]],
                                    color := .nested [[.str "red", .str "", .str "blue"]] },
              colRelWidth := some [1, 2, 1], asColheader := true, groupBy := some ["a".toList],
              pageBy := some ["g".toList], sublineBy := none, newPage := false, pagebyHeader := true,
              pagebyColumn := true },
    footnote := some { text := some "note 1\\line note 2".toList, asTable := true, colRelWidth := some [1],
                       attrs := { exTbl with bTop := sc (.str "single") } },
    source := some { text := some "src".toList, asTable := false, colRelWidth := some [1], attrs := exTbl } }

def exMeasure : Measure := fun _ _ _ => some 1

set_option maxRecDepth 100000

/-- the hypotheses of the totality theorem hold of the example (and so do the text domain and contiguity) -/
theorem exDoc_hypotheses : Accepted exDoc ∧ ShapesInQuantifier exDoc ∧ MeasureOk exMeasure exDoc ∧ InDomain exDoc ∧
    groupKeysContiguous exDoc = true := by decide +kernel

example : Accepted exDoc ∧ ShapesInQuantifier exDoc ∧ MeasureOk exMeasure exDoc ∧ InDomain exDoc ∧
    groupKeysContiguous exDoc = true := exDoc_hypotheses

/-- the pagination asks for 12 widths on it -/
example : (requests exDoc).length = 12 := by decide +kernel

/-- the theorem applied to the example: it encodes, and the result is well-formed -/
example : ∃ g, encode exMeasure exDoc = .ok g ∧ wellFormed (printDoc g) = true :=
  have ⟨ha, hs, hm, hdom, hc⟩ := exDoc_hypotheses
  C01_encode_total_wellformed exMeasure exDoc ha hs hm hdom ((C01_groupKeysContiguous_decidable exDoc).mp hc)

/-- the same frame with the group_by keys `x, y, x` inside the first page_by group: not contiguous -/
def exRefused : Doc :=
  { exDoc with rows := [[some "A".toList, some "x".toList, some "1".toList],
                        [some "A".toList, some "y".toList, some "2".toList],
                        [some "A".toList, some "x".toList, some "3".toList]] }

/-- the refusal branch is inhabited: accepted, in the quantifier, measurable, and refused with `ValueError` -/
example : Accepted exRefused ∧ ShapesInQuantifier exRefused ∧ MeasureOk exMeasure exRefused ∧
    groupKeysContiguous exRefused = false ∧ raises (encode exMeasure exRefused) "ValueError" = true := by
  decide +kernel

/-! ## outside the quantifier: accepted at construction, and the encoder raises

One witness per clause of `shapesInQuantifier`.  Each document is `exDoc` with ONE attribute changed to a value the
constructors of rtflite accept; `accepted` holds, the widths are there, and the model — like the real encoder on the
corresponding Python configuration (`Model/EncodeAccepted.lean`, section `shapesInQuantifier`) — raises. -/

/-- the statement WITHOUT the quantifier-shape hypothesis -/
def C01_total_full : Prop :=
  ∀ (measure : Measure) (d : Doc), Accepted d → MeasureOk measure d →
    (∃ g, encode measure d = .ok g) ∨ (encode measure d = .error "ValueError" ∧ ¬ GroupKeysContiguous d)

/-- `RTFTitle(text="Title", text_font=[])`: an empty attribute list → `ZeroDivisionError` -/
def exEmptyList : Doc :=
  { exDoc with title := some { text := some ["Title".toList], attrs := { exText with font := .tuple [] } } }

theorem C01total_outside_empty_list :
    accepted exEmptyList = true ∧ shapesInQuantifier exEmptyList = false ∧ measureOk exMeasure exEmptyList = true ∧
    raises (encode exMeasure exEmptyList) "ZeroDivisionError" = true := by decide +kernel

/-- `RTFBody(text_font=[[1, 4, 9], [1]])`: a ragged matrix → `ValueError` (not the refusal C01 allows: the keys are
contiguous) -/
def exRagged : Doc :=
  { exDoc with body := { exDoc.body with attrs := { exTbl with font := .nested [[.int 1, .int 4, .int 9], [.int 1]] } } }

theorem C01total_outside_ragged :
    accepted exRagged = true ∧ shapesInQuantifier exRagged = false ∧ groupKeysContiguous exRagged = true ∧
    (match encode exMeasure exRagged with
     | .ok _ => false
     | .error e => e == "ValueError") = true := by decide +kernel

/-- `RTFBody(text_hyphenation=None)`: an explicit `None` for an attribute `TextContent` requires → `ValidationError`
(likewise `text_font`, `text_font_size`, `text_indent_*`, `text_space*`, `text_convert`; `text_justification` on the
flat text components) -/
def exNone : Doc :=
  { exDoc with body := { exDoc.body with attrs := { exTbl with hyph := .null } } }

theorem C01total_outside_none :
    accepted exNone = true ∧ shapesInQuantifier exNone = false ∧ measureOk exMeasure exNone = true ∧
    raises (encode exMeasure exNone) "ValidationError" = true := by decide +kernel

/-- `RTFFootnote(text=…, col_rel_width=None)` rendered as table → `TypeError` -/
def exFootNoWidth : Doc :=
  { exDoc with footnote := some { text := some "note".toList, asTable := true, colRelWidth := none, attrs := exTbl } }

theorem C01total_outside_foot_width :
    accepted exFootNoWidth = true ∧ shapesInQuantifier exFootNoWidth = false ∧
    measureOk exMeasure exFootNoWidth = true ∧ raises (encode exMeasure exFootNoWidth) "TypeError" = true := by
  decide +kernel

/-- `RTFColumnHeader(text=[])` → the encoder raises (`BroadcastValue(dimension=(1, 0))`: `ValidationError`; the model
reports the state it does not represent as `model:header without cells`) -/
def exEmptyHeader : Doc :=
  { exDoc with headers := [some { text := some [], colRelWidth := some [1, 1, 1], attrs := exTbl }] }

theorem C01total_outside_empty_header :
    accepted exEmptyHeader = true ∧ shapesInQuantifier exEmptyHeader = false ∧
    measureOk exMeasure exEmptyHeader = true ∧
    raises (encode exMeasure exEmptyHeader) "model:header without cells" = true := by decide +kernel

/-- `RTFBody(page_by=["g", "a", "b"])`: every column removed → the encoder raises -/
def exNoColumns : Doc :=
  { exDoc with body := { exDoc.body with groupBy := none, pageBy := some ["g".toList, "a".toList, "b".toList] },
               headers := [] }

theorem C01total_outside_no_columns :
    accepted exNoColumns = true ∧ shapesInQuantifier exNoColumns = false ∧
    (match encode exMeasure exNoColumns with
     | .ok _ => false
     | .error e => e != "ValueError") = true := by decide +kernel

/-- `RTFColumnHeader(text=["A", "B", "C", "D"])` on a frame with fewer columns (its width vector, inherited from the
body, has one entry per frame column); likewise `RTFBody(col_rel_width=[1, 1])` on a frame with three displayed
columns → `IndexError` (`col_widths[j]`) -/
def exShortWidths : Doc :=
  { exDoc with headers := [some { text := some ["A".toList, "B".toList, "C".toList, "D".toList],
                                  colRelWidth := some [1, 1, 1], attrs := exTbl }] }

theorem C01total_outside_short_widths :
    accepted exShortWidths = true ∧ shapesInQuantifier exShortWidths = false ∧
    measureOk exMeasure exShortWidths = true ∧ raises (encode exMeasure exShortWidths) "IndexError" = true := by
  decide +kernel

/-- totality does NOT hold for everything the constructors accept: the quantifier-shape hypothesis is necessary -/
theorem C01_total_witness : ¬ C01_total_full := by
  intro h
  obtain ⟨ha, _, hm, he⟩ := C01total_outside_empty_list
  have he := (raises_iff _ _).mp he
  rcases h exMeasure exEmptyList ha hm with ⟨g, hg⟩ | ⟨hv, _⟩
  · rw [he] at hg; cases hg
  · rw [he] at hv
    exact absurd (Except.error.inj hv) (by decide)

end Props.C01total
