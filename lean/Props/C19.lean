import Model.Validate
import Model.ValidateSpec
import Proofs.Validate
/-!
# C19 — invalid configuration is rejected up front with `ValueError`

Model: `Model.Validate` (validator rule table of `attributes.py`, `input.py`, `encode.py`; the repaired
tree: D20 a62ccd4, D25 8cfd6cf, D34 402f206, D43 d8df873 of /repo).
Specification: `Model.ValidateSpec` (documented value sets as literals, the statement's domain of shapes).

Statement clause → theorem
* "an unknown border style, colour, font number, format letter, justification, vertical alignment …
  a non-positive … col_rel_width, border_width, cell_height or font size … wherever in a scalar, vector or
  matrix attribute the bad value sits" → `C19_bad_element_rejected`, `C19_illegal_value_rejected`,
  `C19_validate_ok_iff` (the loops visit every element), `C19_component_illegal_rejected`
* "orientation or placement keyword, non-positive width, height, nrow, col_width, a margin list not of
  length 6" → `C19_page_*`
* "new_page without page_by" → `C19_new_page_needs_page_by`
* "FileNotFoundError for a missing figure file", figure keywords and sizes → `C19_figure_*`
* "grouping columns missing from the data, a DataFrame together with a figure (or neither), mismatched
  multi-section list lengths" → `C19_document_*`; over real frames (column names + number of rows), a bad
  name at any position of any grouping list, in any section, with any number of rows →
  `C19_missing_name_any_position`, `C19_document_rows_irrelevant`, `C19_document_missing_column_any_rows`,
  `C19_document_missing_column_any_section`, `C19_document_data_rejects` / `_accepts`; a `group_by` column that
  `page_by` / `subline_by` takes out of the table → `C19_group_by_removed_column`
* "No document object and no RTF string is produced" → `C19_no_output`
* the value sets the code uses are the documented ones → `C19_tables_documented`
-/
namespace Props.C19
open Model.Validate Model.ValidateSpec Proofs.Validate

/-! ## the code tables are the documented value sets (re-opened by any edit of a table in the source) -/

theorem C19_tables_documented :
    borderKeys = docBorderStyles ∧ formatKeys = docFormatCodes ∧ textJustKeys = docTextJust ∧
    rowJustKeys = docRowJust ∧ vertAlignKeys = docVertAlign ∧ fontNumbers = docFontNumbers ∧
    colorNames.length = docColorCount :=
  ⟨borderKeys_doc, formatKeys_doc, textJustKeys_doc, rowJustKeys_doc, vertAlignKeys_doc, fontNumbers_doc,
   colorNames_length⟩

/-- font numbers are exactly 1..10 -/
theorem C19_font_numbers (i : Int) : fontNumbers.contains i = true ↔ 1 ≤ i ∧ i ≤ 10 := by
  rw [fontNumbers_doc]
  simp [docFontNumbers]
  omega

/-! ## one attribute: every element is visited -/

/-- A bad element (fails the type check or the validator's test) that is not `None`, at **any** position of
**any** shape — scalar, list, tuple, nested list, ragged or not — of **any** validated field, on a table
component or a text component, makes the field validation fail with pydantic's `ValidationError`
(a `ValueError`) — never `AttributeError`, `IndexError`, `TypeError`. -/
theorem C19_bad_element_rejected (table : Bool) (f : Field) (x : Raw)
    (h : ∃ v ∈ x.elems, v ≠ .null ∧ elemOk f v = false) :
    ∃ e, validateField table f x = .error e ∧ e.isValueError = true := by
  obtain ⟨v, hv, hnn, hbad⟩ := h
  exact ⟨.validationError, validateField_bad table f x v hv hnn hbad, rfl⟩

/-- The same in the statement's words: a well-typed element outside the *documented* legal set. -/
theorem C19_illegal_value_rejected (table : Bool) (f : Field) (x : Raw) (v : Val)
    (hv : v ∈ x.elems) (hwt : wellTyped f v = true) (hill : legal f v = false) :
    validateField table f x = .error .validationError := by
  apply validateField_bad table f x v hv (wellTyped_ne_null hwt)
  rw [← legal_eq_elemOk f v hwt]
  exact hill

/-- The validator loops visit every element: inside the statement's domain of shapes a value is accepted
**iff** every element is good. -/
theorem C19_validate_ok_iff (table : Bool) (f : Field) (x : Raw)
    (hshape : shapeOk f x = true) (hnn : ∀ v ∈ x.elems, v ≠ .null) :
    validateField table f x = .ok () ↔ ∀ v ∈ x.elems, elemOk f v = true := by
  rw [validateField_filled table f (filled_of_shapeOk hshape hnn), hshape]
  simp

/-- … and the only other outcome there is `ValidationError`. -/
theorem C19_validate_outcomes (table : Bool) (f : Field) (x : Raw) (h : inDomain f x = true) :
    validateField table f x = .ok () ∨ validateField table f x = .error .validationError := by
  rw [validateField_domain table f x h]
  by_cases hall : x.elems.all (elemOk f) = true <;> simp [hall]

/-! ## component constructors (RTFBody, RTFColumnHeader, RTFFootnote, RTFSource, RTFTitle, RTFSubline,
RTFPageHeader, RTFPageFooter) -/

/-- the specification verdict `reject` is met: construction raises a ValueError-class exception -/
theorem C19_component_rejects (c : Comp) (kw : Field → Option Raw) (ex : Extra)
    (h : specComp c kw ex = .reject) :
    ∃ e, constructComp c kw ex = .error e ∧ e.isValueError = true :=
  (specComp_meets c kw ex).reject h

/-- the specification verdict `accept` is met: a legal configuration is constructed -/
theorem C19_component_accepts (c : Comp) (kw : Field → Option Raw) (ex : Extra)
    (h : specComp c kw ex = .accept) : constructComp c kw ex = .ok () :=
  (specComp_meets c kw ex).accept h

/-- Spelled out: if every supplied attribute lies in the statement's domain (non-empty scalar / vector /
matrix of well-typed values) and **one** element of **one** of them is outside the documented legal set,
the constructor raises pydantic's `ValidationError`, whatever else was supplied. -/
theorem C19_component_illegal_rejected (c : Comp) (kw : Field → Option Raw) (ex : Extra)
    (hd : ∀ f ∈ fieldsOf c, ∀ x, kw f = some x → inDomain f x = true) (he : extraInDomain c ex = true)
    (f : Field) (hf : f ∈ fieldsOf c) (x : Raw) (hk : kw f = some x)
    (v : Val) (hv : v ∈ x.elems) (hill : legal f v = false) :
    constructComp c kw ex = .error .validationError := by
  rw [constructComp_of_domain c kw ex hd he]
  have hdom := hd f hf x hk
  have hwt : wellTyped f v = true := by
    simp only [inDomain, Bool.and_eq_true] at hdom
    exact List.all_eq_true.mp hdom.2 v hv
  have hbad : elemOk f v = false := by rw [← legal_eq_elemOk f v hwt]; exact hill
  have : (fieldsOf c).any (suppliedBad kw) = true := by
    apply List.any_eq_true.mpr
    refine ⟨f, hf, ?_⟩
    simp [suppliedBad, hk, all_false_of_mem hv hbad]
  simp [this]

/-- `new_page=True` without `page_by` never yields an RTFBody, whatever the other arguments. -/
theorem C19_new_page_needs_page_by (kw : Field → Option Raw) (ex : Extra)
    (hnp : ex.newPage = true) (hpb : ex.pageBy = false) :
    constructComp .body kw ex ≠ .ok () := by
  simp only [constructComp]
  cases runFields Comp.body.isTable kw (fieldsOf .body) false with
  | error e => simp
  | ok soft =>
    by_cases h : (soft || extraSoft .body ex) = true
    · simp [h]
    · simp [h, hnp, hpb]

/-- … and inside the domain the exception is a plain `ValueError` (raised after pydantic returned). -/
theorem C19_new_page_value_error (kw : Field → Option Raw) (ex : Extra)
    (hd : ∀ f ∈ fieldsOf .body, ∀ x, kw f = some x → inDomain f x = true)
    (he : extraInDomain .body ex = true) (hnp : ex.newPage = true) (hpb : ex.pageBy = false) :
    ∃ e, constructComp .body kw ex = .error e ∧ e.isValueError = true := by
  rw [constructComp_of_domain .body kw ex hd he]
  by_cases h : ((fieldsOf .body).any (suppliedBad kw) || extraIllegal ex) = true
  · exact ⟨.validationError, by simp [h], rfl⟩
  · exact ⟨.valueError, by simp [h, hnp, hpb], rfl⟩

/-! ## RTFPage -/

/-- RTFPage never raises anything but `ValidationError`, and raises it as soon as one supplied field
fails its rule (unknown orientation / border style / placement keyword, non-positive width, height,
nrow, col_width, margin not of length 6), whatever else was supplied. -/
theorem C19_page_any_bad_field (kw : PageField → Option Raw) (f : PageField) (x : Raw)
    (hk : kw f = some x) (hbad : validatePageField f x = false) :
    constructPage kw = .error .validationError := by
  have hf : f ∈ pageFields := by cases f <;> simp [pageFields]
  have : pageFields.all (pageSuppliedOk kw) = false :=
    List.all_eq_false.mpr ⟨f, hf, by simp [pageSuppliedOk, hk, hbad]⟩
  simp [constructPage, this]

/-- an illegal page configuration — a supplied field outside its rule, or a table width that resolves to a
non-positive value — is refused with a `ValueError` (`ValidationError` for the field rules, a plain `ValueError`
for the resolved width) -/
theorem C19_page_rejects (kw : PageField → Option Raw) (h : specPage kw = .reject) :
    ∃ e, constructPage kw = .error e ∧ e.isValueError = true :=
  (specPage_meets kw).reject h

/-- "a non-positive … col_width" also when the width is DERIVED: a page whose fields all pass their rules but
whose table width (`col_width`, or page width − 2.25 / 2.5 when none is given) is not positive is refused with a
plain `ValueError`; no RTFPage object exists for it. -/
theorem C19_page_resolved_col_width (kw : PageField → Option Raw)
    (hf : pageFields.all (pageSuppliedOk kw) = true) (hw : ¬ 0 < resolvedColWidth kw) :
    constructPage kw = .error .valueError := by
  simp [constructPage, hf, hw]

/-- in particular a portrait page of width `w ≤ 2.25` (landscape: `w ≤ 2.5`) without an explicit `col_width` -/
theorem C19_page_too_narrow (kw : PageField → Option Raw) (w : Rat)
    (hf : pageFields.all (pageSuppliedOk kw) = true)
    (hcw : kw .colWidth = none) (hwd : kw .width = some (.scalar (.rat w)))
    (hnarrow : w ≤ (if pageLandscape kw then 5 / 2 else 9 / 4)) :
    constructPage kw = .error .valueError := by
  apply C19_page_resolved_col_width kw hf
  simp only [resolvedColWidth, pageNum, hcw, hwd, coerce, Option.getD]
  grind

theorem C19_page_accepts (kw : PageField → Option Raw) (h : specPage kw = .accept) :
    constructPage kw = .ok () :=
  (specPage_meets kw).accept h

/-- a margin list whose length is not 6 is refused (list or tuple, any values) -/
theorem C19_page_margin_length (kw : PageField → Option Raw) (vs : List Val) (hlen : vs.length ≠ 6)
    (hk : kw .margin = some (.flat vs) ∨ kw .margin = some (.tuple vs)) :
    constructPage kw = .error .validationError := by
  rcases hk with hk | hk <;>
    exact C19_page_any_bad_field kw .margin _ hk (by simp [validatePageField, hlen])

/-! ## RTFFigure -/

/-- an illegal alignment / position keyword or a non-positive size → ValidationError; otherwise a missing
file → FileNotFoundError; otherwise constructed -/
theorem C19_figure_outcome (a : FigArgs) (h : figInDomain a = true) :
    constructFigure a =
      if figIllegal a then .error .validationError
      else if figMissing a then .error .fileNotFound else .ok () :=
  constructFigure_of_domain a h

theorem C19_figure_meets_spec (a : FigArgs) :
    (specFigure a = .reject → constructFigure a = .error .validationError) ∧
    (specFigure a = .notFound → constructFigure a = .error .fileNotFound) ∧
    (specFigure a = .rejectAny →
      constructFigure a = .error .validationError ∨ constructFigure a = .error .fileNotFound) ∧
    (specFigure a = .accept → constructFigure a = .ok ()) := by
  by_cases hd : figInDomain a = true
  · rw [constructFigure_of_domain a hd]
    simp only [specFigure, hd]
    by_cases hi : figIllegal a = true <;> by_cases hm : figMissing a = true <;> simp [hi, hm]
  · simp [specFigure, hd]

/-- a missing figure file never yields an RTFFigure -/
theorem C19_figure_missing_never_constructed (a : FigArgs) (hm : figMissing a = true) :
    constructFigure a ≠ .ok () := by
  simp only [constructFigure]
  by_cases h : figFieldsOk a = true <;> simp [h, hm]

/-! ## RTFDocument -/

/-- df xor figure: neither, or both, is refused -/
theorem C19_document_df_xor_figure (a : DocArgs)
    (h : (a.df = .none ∧ a.figure = false) ∨ (a.df ≠ .none ∧ a.figure = true)) :
    validateDoc a = .error .validationError := by
  rcases h with ⟨h1, h2⟩ | ⟨h1, h2⟩
  · simp [validateDoc, h1, h2]
  · cases hdf : a.df with
    | none => exact absurd hdf h1
    | single c => simp [validateDoc, hdf, h2]
    | multi s => simp [validateDoc, hdf, h2]

/-- mismatched multi-section list lengths (bodies, or the nested header form) are refused -/
theorem C19_document_list_lengths (a : DocArgs) (secs : List (List String)) (bs : List BodySpec)
    (hdf : a.df = .multi secs) (hfig : a.figure = false) (hb : a.body = .multi bs)
    (h : secs.length ≠ bs.length ∨ headerMismatch a.header secs.length = true) :
    validateDoc a = .error .validationError := by
  by_cases hl : secs.length = bs.length
  · rcases h with h | h
    · exact absurd hl h
    · simp [validateDoc, hdf, hfig, hb, hl, hl ▸ h]
  · simp [validateDoc, hdf, hfig, hb, hl]

/-- a grouping column (group_by / page_by / subline_by) that is not a column of the frame is refused -/
theorem C19_document_missing_column (a : DocArgs) (cols : List String) (b : BodySpec)
    (hdf : a.df = .single cols) (hfig : a.figure = false) (hb : a.body = .single b)
    (h : sectionLegal cols b = false) : validateDoc a = .error .validationError := by
  rw [sectionLegal_eq] at h
  simp [validateDoc, hdf, hfig, hb, h]

/-- a `group_by` column that `subline_by` (always), or `page_by` shown as spanning rows (i.e. unless
`new_page=True` keeps it as a column), takes out of the displayed table is refused when the document is built
(since the repair of D43: before, `rtf_encode()` raised for it) — whatever the frame and the other options. -/
theorem C19_group_by_removed_column (cols : List String) (b : BodySpec) (name : String)
    (hg : name ∈ b.groupBy.getD [])
    (hr : name ∈ b.sublineBy.getD [] ∨
          (¬ (b.newPage = true ∧ b.pagebyColumn = true) ∧ name ∈ b.pageBy.getD [])) :
    sectionLegal cols b = false ∧ sectionOk cols b = false := by
  have hk : groupKept b = false := by
    refine List.all_eq_false.mpr ⟨name, hg, ?_⟩
    simp only [BodySpec.removed]
    rcases hr with hr | ⟨hn, hr⟩
    · simp [hr]
    · cases h1 : b.newPage <;> cases h2 : b.pagebyColumn <;> simp_all
  have : sectionOk cols b = false := by simp [sectionOk, hk]
  exact ⟨(sectionLegal_eq cols b).trans this, this⟩

/-! ## the document rules over real frames: columns decide, the number of rows does not -/

/-- A grouping name that is not a column — at **any position** of **any** of `group_by`, `page_by`,
`subline_by` — makes the section illegal (statement side) and makes `_validate_section_columns` refuse it. -/
theorem C19_missing_name_any_position (cols : List String) (b : BodySpec) (name : String)
    (h : missingName cols b name = true) : sectionLegal cols b = false ∧ sectionOk cols b = false := by
  have := sectionOk_false_of_missing cols b name h
  exact ⟨(sectionLegal_eq cols b).trans this, this⟩

/-- The outcome of `RTFDocument(...)` and the statement's verdict do not depend on the heights of the
frames: replacing the number of rows of any frame (single, or any section of a list) by any other number —
0 for a "no observations" table, 1, many — changes neither. -/
theorem C19_document_rows_irrelevant (d : DfData) (hs : List Nat) (a : DocArgs) :
    validateDocData (d.withRows hs) a = validateDocData d a ∧
    specDocData (d.withRows hs) a = specDocData d a := by
  simp only [validateDocData, specDocData, withRows_toArg, and_self]

/-- A missing grouping column is refused whatever the number of rows of the frame (0 included). -/
theorem C19_document_missing_column_any_rows (a : DocArgs) (cols : List String) (b : BodySpec) (name : String)
    (hfig : a.figure = false) (hb : a.body = .single b) (h : missingName cols b name = true) (n : Nat) :
    validateDocData (.single { cols := cols, nrows := n }) a = .error .validationError := by
  simp [validateDocData, DfData.toArg, validateDoc, hfig, hb, sectionOk_false_of_missing cols b name h]

/-- Multi-section documents: a missing grouping column in **any one** section `i` — the others may be
anything, any frame may have any number of rows, the list lengths may or may not match — is refused. -/
theorem C19_document_missing_column_any_section (a : DocArgs) (fs : List Frame) (bs : List BodySpec)
    (i : Nat) (name : String) (hfig : a.figure = false) (hb : a.body = .multi bs)
    (h1 : i < fs.length) (h2 : i < bs.length) (h : missingName fs[i].cols bs[i] name = true) :
    validateDocData (.multi fs) a = .error .validationError := by
  have h1' : i < (fs.map (·.cols)).length := by simpa using h1
  have hsec : sectionsOk (fs.map (·.cols)) bs = false := by
    apply sectionsOk_false_of_index _ _ i h1' h2
    simpa using sectionOk_false_of_missing _ _ name h
  simp only [validateDocData, DfData.toArg, validateDoc, hfig, hb]
  split
  · rfl
  · split
    · rfl
    · simp [hsec]

/-- the specification verdict on real frames is met by the validator -/
theorem C19_document_data_rejects (d : DfData) (a : DocArgs) (h : specDocData d a = .reject) :
    validateDocData d a = .error .validationError := by
  obtain ⟨e, he, rfl⟩ := (specDoc_meets _).reject h
  exact he

theorem C19_document_data_accepts (d : DfData) (a : DocArgs) (h : specDocData d a = .accept) :
    validateDocData d a = .ok () :=
  (specDoc_meets _).accept h

/-! ## nothing is produced -/

/-- If construction raises, the call `RTFDocument(...).rtf_encode()` raises the same exception: there is
no document object to encode and no string (by typing: `encode` is only ever applied to a constructed
document). -/
theorem C19_no_output {Doc Out : Type} (construct : Except Err Doc) (encode : Doc → Except Err Out) (e : Err)
    (h : construct = .error e) : constructThenEncode construct encode = .error e := by
  subst h
  rfl

/-! ## non-vacuity -/

/-- `RTFBody(border_top=[["single"], ["", "zigzag"]])`: ragged matrix, bad value last -/
example : validateField true .borderTop (.nested [[.str "single"], [.str "", .str "zigzag"]])
    = .error .validationError := by decide +kernel

/-- `RTFTitle(text_font_size=(12, 0))` and `RTFBody(col_rel_width=[1, 2, -1.5])` -/
example : validateField false .textFontSize (.tuple [.int 12, .int 0]) = .error .validationError := by
  decide +kernel
example : validateField true .colRelWidth (.flat [.int 1, .int 2, .rat (-3/2)]) = .error .validationError := by
  decide +kernel

/-- all-legal values in the four shapes are accepted -/
example : validateField true .borderTop (.scalar (.str "dotted")) = .ok () ∧
    validateField true .cellJustification (.flat [.str "l", .str "c", .str ""]) = .ok () ∧
    validateField true .textFont (.tuple [.int 1, .int 10]) = .ok () ∧
    validateField false .textColor (.nested [[.str "red"], [.str "", .str "gray50"]]) = .ok () := by
  -- the two colour names are looked up by row number, one string comparison each, instead of by a search from the top
  have hc : colorNames[551]? = some "red" ∧ colorNames[202]? = some "gray50" := by decide +kernel
  refine ⟨by decide +kernel, by decide +kernel, by decide +kernel, ?_⟩
  rw [validateField_filled _ _ rfl]
  simp [shapeOk, rule, Raw.elems, elemOk, coerce, Pred.holds]
  exact ⟨List.mem_of_getElem? hc.1, List.mem_of_getElem? hc.2⟩

/-- the hypotheses of `C19_component_rejects` / `_accepts` are satisfiable by non-trivial calls:
`RTFBody(border_width=[[15, 15], [15, 0]], text_justification="l", pageby_row="column")` and its legal twin -/
example : specComp .body (fun f => match f with
      | .borderWidth => some (.nested [[.int 15, .int 15], [.int 15, .int 0]])
      | .textJustification => some (.scalar (.str "l"))
      | _ => none) { pagebyRow := some (.str "column") } = .reject := by decide +kernel
example : specComp .body (fun f => match f with
      | .borderWidth => some (.nested [[.int 15, .int 15], [.int 15, .int 30]])
      | .textJustification => some (.scalar (.str "l"))
      | _ => none) { pagebyRow := some (.str "column") } = .accept := by decide +kernel

/-- `RTFBody(cell_justification="j")` (D25) is illegal: "j" is a text, not a row justification -/
example : legal .cellJustification (.str "j") = false ∧ legal .textJustification (.str "j") = true := by
  decide +kernel

/-- document rules fire on concrete calls -/
example : specDoc { df := .single ["a", "b"], body := .single { groupBy := some ["a", "z"] } } = .reject ∧
    specDoc { df := .multi [["a"], ["b"]], body := .multi [{}] } = .reject ∧
    specDoc { df := .multi [["a"], ["b"]], body := .multi [{}, { pageBy := some ["b"] }],
              header := .nested 2 } = .accept := by decide +kernel

/-- `RTFBody(group_by=["a"], page_by=["a"])` is refused, the same with `new_page=True` (column kept) is accepted -/
example : validateDoc { df := .single ["a", "b"], body := .single { groupBy := some ["a"], pageBy := some ["a"] } }
      = .error .validationError ∧
    validateDoc { df := .single ["a", "b"],
                  body := .single { groupBy := some ["a"], pageBy := some ["a"], newPage := true } } = .ok () := by
  decide +kernel

/-- the same on real frames: a zero-row frame with a missing `page_by` column (bad name last), a zero-column
frame, the empty second section of a list — refused; a zero-row frame with existing columns — accepted -/
example : specDocData (.single { cols := ["a", "b"], nrows := 0 }) { body := .single { pageBy := some ["a", "z"] } }
      = .reject ∧
    specDocData (.single { cols := [], nrows := 0 }) { body := .single { groupBy := some ["a"] } } = .reject ∧
    specDocData (.multi [{ cols := ["a"], nrows := 3 }, { cols := ["b"], nrows := 0 }])
      { body := .multi [{}, { sublineBy := some ["z"] }] } = .reject ∧
    missingName ["b"] { sublineBy := some ["z"] } "z" = true ∧
    specDocData (.single { cols := ["a", "b"], nrows := 0 }) { body := .single { pageBy := some ["a"] } }
      = .accept := by decide +kernel

/-- `RTFPage(width=2.25)`: every field passes its rule, the derived table width is 0 → refused; `width=2.3` accepted -/
example : constructPage (fun f => match f with
      | .width => some (.scalar (.rat (9 / 4)))
      | _ => none) = .error .valueError ∧
    constructPage (fun f => match f with
      | .width => some (.scalar (.rat (23 / 10)))
      | _ => none) = .ok () := by decide +kernel

/-- page and figure rules fire on concrete calls -/
example : specPage (fun f => match f with
      | .margin => some (.flat [.int 1, .int 1, .int 1, .int 1, .int 1])
      | _ => none) = .reject ∧
    specFigure { figWidth := some (.flat [.int 5, .int 0]), figures := some [true, true] } = .reject ∧
    specFigure { figures := some [true, false] } = .notFound := by decide +kernel

end Props.C19
