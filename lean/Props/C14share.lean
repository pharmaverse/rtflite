import Model.World
import Props.C14
/-!
# C14 — one component object in several documents and section positions

`Props/C14.lean` proves purity for every history over a heap addressed by identity.  This file says WHEN a document
built by `RTFDocument(...)` holds the caller's own object rather than a width-resolved copy of it — the situation in
which anything an encode wrote into the object it renders from would be seen by every other document built on the
same object, whatever the section position the object has there:

* a body (the single one, or the body of any section of a multi-section document) is held by reference exactly when
  it carries explicit `col_rel_width` that need no broadcasting (`C14share_body_by_reference_iff`);
* a column header (flat, or nested at any section index) exactly when it carries widths of its own
  (`C14share_header_by_reference_iff`);
* what is read through such a reference after ANY history — encodes of multi-section documents that hold the object
  in their first, a middle or their last section included — is the object as the caller created it
  (`C14share_reference_reads_callers_object`), so the outcome of a target is that of the fresh world whichever of its
  sections are references (`C14share_purity_any_position`, an instance of `C14_purity`).

The harness's shared-sections family (`harness/props/c14.py: gen_sharefamily`) drives the real library through exactly
these situations: three body objects and three header objects, with and without explicit widths, in single- and
multi-section documents at every section position, both orders of every pair of documents.
-/
namespace Props.C14
open Model.World

/-- `_resolve_body_widths` returns the caller's object itself iff the body has explicit widths that need no
broadcasting: more or fewer than one entry, or one entry for a one-column frame. -/
theorem C14share_body_by_reference_iff (o : Obj) (i : ObjId) (ncol : Nat) :
    resolveBody o i ncol = .ref i ↔ ∃ w, o.widths = some w ∧ (w.length ≠ 1 ∨ ncol ≤ 1) := by
  unfold resolveBody
  rcases h : o.widths with _ | w
  · simp
  · rcases w with _ | ⟨x, _ | ⟨y, r⟩⟩
    · simp
    · by_cases hn : ncol > 1
      · simp [hn]
      · simp [hn]
        omega
    · simp

/-- the document holds either the caller's object or a copy of its own -/
theorem C14share_body_ref_or_copy (o : Obj) (i : ObjId) (ncol : Nat) :
    resolveBody o i ncol = .ref i ∨ ∃ o', resolveBody o i ncol = .own o' :=
  Proofs.World.resolveBody_cases o i ncol

/-- a copy is out of reach of every heap — hence of every history -/
theorem C14share_body_copy_isolated (o : Obj) (i : ObjId) (ncol : Nat) (h h' : Heap)
    (hown : resolveBody o i ncol ≠ .ref i) :
    (resolveBody o i ncol).get h = (resolveBody o i ncol).get h' := by
  rcases C14share_body_ref_or_copy o i ncol with hr | ⟨o', hr⟩
  · exact absurd hr hown
  · rw [hr]
    rfl

/-- `_inherit_header_widths` keeps the caller's header object iff it has widths of its own -/
theorem C14share_header_by_reference_iff (o : Obj) (i : ObjId) (bw : List Width) :
    inheritHeader o (.ref i) bw = .ref i ↔ o.widths.isSome := by
  unfold inheritHeader
  rcases o.widths with _ | w <;> simp

/-- After any history, what a document reads through a reference is the object the caller created. -/
theorem C14share_reference_reads_callers_object (T : Table) (w : World) (ops : List Op) (i : ObjId) :
    (Comp.ref i).get (run T w ops).1.heap = aget i w.heap := by
  rw [C14_heap_unchanged]
  rfl

/-- Purity does not depend on where the target (or any earlier document) holds a shared object: for every constructor
call — any kind, any number of sections, any of them references — the outcome after any history is the fresh one. -/
theorem C14share_purity_any_position (T : Table) (w₀ : World) (hctx : w₀.ctx = none) (hdocs : w₀.docs = [])
    (ops : List Op) (kind : Kind) (secs : List (FrameId × ObjId)) (hs : HeaderArg) (others : List ObjId) :
    (encodeCtor T (run T w₀ ops).1 { kind := kind, secs := secs, headers := hs, others := others }).2
      = (encodeCtor T w₀ { kind := kind, secs := secs, headers := hs, others := others }).2 :=
  C14_purity T w₀ hctx hdocs ops _

/-- Non-vacuity: over a two-column frame a body with two explicit widths is held by reference; a width-less body and a
body whose single width has to be broadcast are copied. -/
example :
    resolveBody { (default : Obj) with widths := some [2000, 1000] } 7 2 = .ref 7
    ∧ resolveBody { (default : Obj) with widths := none } 7 2 ≠ .ref 7
    ∧ resolveBody { (default : Obj) with widths := some [2000] } 7 2 ≠ .ref 7 := by
  decide

end Props.C14
