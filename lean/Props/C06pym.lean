import Generated.PyPageMargin
import Model.Encode
import Proofs.PyStr
import Proofs.Emit
/-!
# C06 — translator tie for the margin words of a page

`Generated.Py.PageMargin.run` is regenerated on every run from `RTFEncodingService.encode_page_margin`
(`services/encoding_service.py`).  Proved here: for a page with six margins the string is the printed
`Model.Encode.marginNodes` followed by a newline — the margin words both the document start and every page break carry
(C06: a page break restates the paper size and margins the document opened with) — and for any other number of margins
both the function (`zip(…, strict=True)`) and the model raise `ValueError`.
-/
-- the `simp` sets below serve several cases at once, or every way the regenerated function may be cut into steps: a
-- lemma that one of them does not call for is not a defect
set_option linter.unusedSimpArgs false
namespace Props.C06pym
open Model.Rtf Model.Emit Model.Encode Generated.Py Generated.Py.PageMargin Props.C01py Props.C01pyc

theorem loop1_fold (i2t : Rat → Int) (margin : List Rat) : ∀ (ms : List Rat) (s : St),
    ms.foldlM (loop1 i2t margin) s = .ok { s with v1 := s.v1 ++ ms.map i2t }
  | [], s => by simp [List.foldlM, pure, Except.pure]
  | m :: ms, s => by
    simp only [List.foldlM_cons, loop1, bind, Except.bind, pure, Except.pure, loop1_fold i2t margin ms]
    simp

theorem loop2_fold (i2t : Rat → Int) (margin : List Rat) : ∀ (ps : List (List Nat × Int)) (s : St),
    ps.foldlM (loop2 i2t margin) s = .ok { s with v2 := s.v2 ++ ps.map fun p => p.1 ++ strOfInt p.2 }
  | [], s => by simp [List.foldlM, pure, Except.pure]
  | p :: ps, s => by
    simp only [List.foldlM_cons, loop2, bind, Except.bind, pure, Except.pure, loop2_fold i2t margin ps]
    simp

/-- the six code words of `margin_codes` -/
def codes : List (List Nat) :=
  ["margl", "margr", "margt", "margb", "headery", "footery"].map fun n => cps ('\\' :: n.toList)

/-- what the function computes, for every list of margins (through `loop1_fold` / `loop2_fold`, which name the
accumulators `v1`, `v2` of the two comprehensions: only `C06py_page_margin_wrong_length` depends on this) -/
theorem run_eq (i2t : Rat → Int) (margin : List Rat) :
    run i2t margin =
      if margin.length = 6 then
        .ok (((codes.zip (margin.map i2t)).map fun p => p.1 ++ strOfInt p.2).flatten ++ [10])
      else .error .ValueError := by
  have ec : ([([92, 109, 97, 114, 103, 108] : List Nat), [92, 109, 97, 114, 103, 114], [92, 109, 97, 114, 103, 116],
      [92, 109, 97, 114, 103, 98], [92, 104, 101, 97, 100, 101, 114, 121], [92, 102, 111, 111, 116, 101, 114, 121]]
      : List (List Nat)) = codes := by decide
  simp only [PageMargin.run, ec, loop1_fold, loop2_fold, bind, Except.bind, pure, Except.pure, List.nil_append,
    pyJoin_nil]
  have hl : codes.length = 6 := by decide
  by_cases h : margin.length = 6
  · simp [h, hl]
  · have h' : ¬ (6 = margin.length) := fun e => h e.symm
    simp [h, h', hl, throw, throwThe, MonadExceptOf.throw]

/-- the six margin words (without the final newline) -/
def marginStr (i2t : Rat → Int) (a b c d e f : Rat) : List Nat :=
  cps ('\\' :: "margl".toList) ++ strOfInt (i2t a) ++ cps ('\\' :: "margr".toList) ++ strOfInt (i2t b) ++
  cps ('\\' :: "margt".toList) ++ strOfInt (i2t c) ++ cps ('\\' :: "margb".toList) ++ strOfInt (i2t d) ++
  cps ('\\' :: "headery".toList) ++ strOfInt (i2t e) ++ cps ('\\' :: "footery".toList) ++ strOfInt (i2t f)

/-- six margins, by running the function (both loops unfold on the six elements: this proof does not name a local of
the function, so it survives any reordering of its statements that keeps the result) -/
theorem run_six (i2t : Rat → Int) (a b c d e f : Rat) :
    run i2t [a, b, c, d, e, f] = .ok (marginStr i2t a b c d e f ++ [10]) := by
  simp [PageMargin.run, loop1, loop2, List.foldlM, bind, Except.bind, pure, Except.pure, pyJoin_nil, marginStr, cps]

/-- **six margins: the translated `encode_page_margin` prints the model's margin words and a newline** -/
theorem C06py_page_margin_translated (pg : Page) (h6 : pg.margin.length = 6) :
    ∃ ns, marginNodes pg = .ok ns ∧
      run Model.Encode.twip pg.margin = .ok (cps (printNodes ns) ++ [10]) := by
  rcases hm : pg.margin with _ | ⟨a, _ | ⟨b, _ | ⟨c, _ | ⟨d, _ | ⟨e, _ | ⟨f, _ | ⟨g, rest⟩⟩⟩⟩⟩⟩⟩ <;>
    simp only [hm, List.length_cons, List.length_nil] at h6 <;> try omega
  refine ⟨_, by simp [marginNodes, hm, pure, Except.pure, bind, Except.bind]; rfl, ?_⟩
  rw [run_six]
  simp [marginStr, printNodes, printNode, cwi, cps, strOfInt_digits, List.map_append]

/-- **any other number of margins: `ValueError`, in the code and in the model** -/
theorem C06py_page_margin_wrong_length (pg : Page) (h6 : pg.margin.length ≠ 6) :
    marginNodes pg = .error "ValueError" ∧ run Model.Encode.twip pg.margin = .error .ValueError := by
  constructor
  · simp [marginNodes, h6, bind, Except.bind, throw, throwThe, MonadExceptOf.throw]
  · rw [run_eq]; simp [h6]

end Props.C06pym
