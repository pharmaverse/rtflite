import Model.TextInput
import Model.Escape
import Model.Encode
import Proofs.Escape
import Proofs.TextInput
import Proofs.EncodeText
import Props.C10
import Props.C10enc
/-!
# C10 — the text that reaches the escaper is the user's text

`Props/C10.lean` is about the escaper, `Props/C10enc.lean` about the encoder model, which starts from the state AFTER
construction (`Foot.text` is ONE string, `TextComp.text` the lines).  Between the user's `text=` argument and that state
sit the constructors (`Model/TextInput.lean`): a `str` becomes the one line, a sequence of `str` is kept; `RTFFootnote` /
`RTFSource` join their lines with the six characters `\line `.  This file closes the chain for that step:

* `C10in_str_unchanged`, `C10in_lines_unchanged` — title, subline, page header / footer, column header: the lines the
  encoder renders are the user's strings, unchanged; a footnote / source given as `str` is that string.
* `C10in_foot_bytes` — the bytes written for a footnote / source (conversion off) are the bytes of each line, separated
  by `\line ` and by nothing else.
* `C10in_foot_roundtrip`, `C10in_foot_intact`, `C10in_foot_u_escapes` — the reader shows the characters of all lines,
  in order, every one as it was given; the only other thing it meets is one formatting word (the line break) per
  boundary between two lines; every `\u` in range with its one fallback character.
* `C10in_footnote_end_to_end`, `C10in_source_end_to_end` — in the encoder model: the footnote / source block of a
  rendered page holds exactly one text hole, that of `footText a`; with the flag off it reads back as above.

Tie to the code (every run, `harness/props/c10_sweep.py`): the real constructors against `TextArg.lines` / `footTextN`
for every swept scalar value as an item and every risky character at the start / middle / end of an item; documents
written by `write_rtf` with every risky character in every position.
-/
namespace Props.C10in
open Model.Escape Model.TextInput Proofs.Escape Proofs.TextInput Props.C10
open Model.Rtf Model.Emit Model.Encode Model.Broadcast Model.Layout
open Proofs.EncodeLift Proofs.EncodeAttrs Proofs.EncodeColor Proofs.EncodeText

/-- a text given as `str` is the one line of the component, and the whole text of a footnote / source -/
theorem C10in_str_unchanged (s : List Char) : (TextArg.one s).lines = [s] ∧ footText (.one s) = s :=
  ⟨rfl, rfl⟩

/-- a text given as a list of lines: the component's lines are these strings -/
theorem C10in_lines_unchanged (ls : List (List Char)) : (TextArg.many ls).lines = ls := rfl

/-- the code points of the joined text: the code points of the lines, separated by those of `\line ` -/
theorem C10in_foot_text_cps (a : TextArg Char) :
    Props.C10.cps (footText a) = joinWith lineSepN (a.lines.map Props.C10.cps) := by
  unfold footText Props.C10.cps
  rw [map_joinWith, lineSep_codes]

/-- the bytes written for a footnote / source with conversion off: the escaped bytes of every line, separated by the
six bytes `\line ` — nothing of a line is cut, dropped or added -/
theorem C10in_foot_bytes (a : TextArg Char) :
    escape (Props.C10.cps (footText a)) =
      joinWith lineSepN (a.lines.map fun l => escape (Props.C10.cps l)) := by
  rw [C10in_foot_text_cps, escape_joinWith, List.map_map]
  rfl

private theorem lines_readable (a : TextArg Char) (h : ∀ l ∈ a.lines, ∀ c ∈ l, Plain c) :
    ∀ l ∈ a.lines.map Props.C10.cps, ∀ n ∈ l, readable n = true := by
  intro l hl n hn
  obtain ⟨l', hl', rfl⟩ := List.mem_map.mp hl
  obtain ⟨c, hc, rfl⟩ := List.mem_map.mp hn
  exact inDomain_readable _ (h l' hl' c hc)

private theorem cps_flatten (ls : List (List Char)) : (ls.map Props.C10.cps).flatten = Props.C10.cps ls.flatten := by
  unfold Props.C10.cps
  induction ls with
  | nil => rfl
  | cons a r ih => rw [List.map_cons, List.flatten_cons, List.flatten_cons, List.map_append, ih]

private theorem foot_decoded (a : TextArg Char) (hne : a.lines ≠ []) (h : ∀ l ∈ a.lines, ∀ c ∈ l, Plain c) :
    decode (escape (Props.C10.cps (footText a))) =
      { text := Props.C10.cps a.lines.flatten, us := uTrace (Props.C10.cps a.lines.flatten),
        words := a.lines.length - 1, errs := [], depth := 0 } := by
  rw [C10in_foot_text_cps, decode_joined _ (fun h0 => hne (List.map_eq_nil_iff.mp h0)) (lines_readable a h),
    cps_flatten, List.length_map]

private theorem flatten_ok (a : TextArg Char) (h : ∀ l ∈ a.lines, ∀ c ∈ l, Plain c) :
    ∀ e ∈ uTrace (Props.C10.cps a.lines.flatten), uOk e = true ∧ e.uc = 1 := by
  refine uTrace_ok _ fun n hn => ?_
  obtain ⟨c, hc, rfl⟩ := List.mem_map.mp hn
  obtain ⟨l, hl, hcl⟩ := List.mem_flatten.mp hc
  exact readable_lt _ (inDomain_readable _ (h l hl c hcl))

/-- what the reader makes of the bytes written for a footnote / source: the characters of all lines in order, each as
it was given; one formatting word per boundary between two lines (the line break), nothing malformed, all groups
closed; the `\u` escapes it meets are those of the lines' characters -/
theorem C10in_foot_roundtrip (a : TextArg Char) (hne : a.lines ≠ []) (h : ∀ l ∈ a.lines, ∀ c ∈ l, Plain c) :
    (utf8 (escape (Props.C10.cps (footText a)))).map decode =
      some { text := Props.C10.cps a.lines.flatten, us := uTrace (Props.C10.cps a.lines.flatten),
             words := a.lines.length - 1, errs := [], depth := 0 } := by
  rw [utf8_escape, Option.map_some, foot_decoded a hne h]

/-- the decidable oracle used on the implementation's output holds: the reader shows the lines' characters intact -/
theorem C10in_foot_intact (a : TextArg Char) (hne : a.lines ≠ []) (h : ∀ l ∈ a.lines, ∀ c ∈ l, Plain c) :
    intact (Props.C10.cps a.lines.flatten) (decode (escape (Props.C10.cps (footText a)))) = true := by
  rw [foot_decoded a hne h]
  simp only [intact, beq_self_eq_true, List.isEmpty_nil, Bool.true_and, Bool.and_true, List.all_eq_true]
  exact fun e he => (flatten_ok a h e he).1

/-- every `\uN` the reader meets in a footnote / source has `N` in the signed 16-bit range, is governed by `\uc1` and
followed by exactly that one fallback character -/
theorem C10in_foot_u_escapes (a : TextArg Char) (hne : a.lines ≠ []) (h : ∀ l ∈ a.lines, ∀ c ∈ l, Plain c) :
    ∀ e ∈ (decode (escape (Props.C10.cps (footText a)))).us,
      -32768 ≤ e.arg ∧ e.arg ≤ 32767 ∧ e.uc = 1 ∧ e.skipped = e.uc := by
  rw [foot_decoded a hne h]
  intro e he
  have := flatten_ok a h e he
  simp only [Model.Escape.uOk, Bool.and_eq_true, decide_eq_true_eq, beq_iff_eq] at this
  exact ⟨this.1.1.1, this.1.1.2, this.2, this.1.2⟩

/-! ## in the encoder model -/

/-- the one text hole of a rendered footnote / source: the cell of its one-cell row (as table) or its paragraph -/
def FootHole (f : Foot) (es : List Elem) (hole : List Node) : Prop :=
  (f.asTable = true ∧ ∃ fmt cf, es = [rowElem fmt] ∧ fmt.cells = [cf] ∧ cf.body = hole) ∨
  (f.asTable = false ∧ ∃ tf, es = [[BlockG.plain [paragraph tf hole]]])

/-- what the reader shows for the hole of `footText a` written with the flag off -/
theorem C10in_foot_hole_decoded (a : TextArg Char) (hne : a.lines ≠ []) (h : ∀ l ∈ a.lines, ∀ c ∈ l, Plain c) :
    decode (holeBytes (textNodes (convText false (footText a)))) =
      { text := Props.C10.cps a.lines.flatten, us := uTrace (Props.C10.cps a.lines.flatten),
        words := a.lines.length - 1, errs := [], depth := 0 } := by
  rw [holeBytes_eq]
  exact foot_decoded a hne h

theorem C10in_footOf_end_to_end (f : Foot) (es : List Elem) (hF : Props.C10enc.FootOf f es) (a : TextArg Char)
    (ht : f.text = some (footText a)) (hne : footText a ≠ []) :
    ∃ A conv, f.attrs.mapM Attr.toNested = .ok A ∧ FlagAt A.convert 0 0 conv ∧
      FootHole f es (textNodes (convText conv (footText a))) ∧
      (conv = false → (∀ l ∈ a.lines, ∀ c ∈ l, Plain c) →
        decode (holeBytes (textNodes (convText conv (footText a)))) =
          { text := Props.C10.cps a.lines.flatten, us := uTrace (Props.C10.cps a.lines.flatten),
            words := a.lines.length - 1, errs := [], depth := 0 }) := by
  obtain ⟨A, hA, hpar, htab⟩ := hF
  have hget : f.text.getD [] = footText a := by rw [ht]; rfl
  have hlines : a.lines ≠ [] := by
    intro h0
    apply hne
    unfold footText
    rw [h0]
    rfl
  rw [hget] at hpar htab
  cases hb : f.asTable with
  | true =>
    obtain ⟨fmt, cf, conv, h1, h2, h3, h4⟩ := htab hb
    refine ⟨A, conv, hA, h3, Or.inl ⟨hb, fmt, cf, h1, h2, h4⟩, ?_⟩
    intro hc hp
    subst hc
    exact C10in_foot_hole_decoded a hlines hp
  | false =>
    rcases hpar hb with ⟨h0, _⟩ | ⟨_, tf, conv, h3, h4⟩
    · exact absurd h0 hne
    · refine ⟨A, conv, hA, h3, Or.inr ⟨hb, tf, h4⟩, ?_⟩
      intro hc hp
      subst hc
      exact C10in_foot_hole_decoded a hlines hp

/-- **footnote, end to end.**  A footnote constructed from `a` (`f.text = footText a`, not empty): every footnote block
of a rendered page is one row of one cell (as table) or one paragraph, whose text hole is that of `footText a` under the
flag at `(0, 0)` of the footnote's `text_convert`; with the flag off and the lines' characters in C10's domain, the
reader shows the lines' characters in order, every one as given, and one line break per boundary. -/
theorem C10in_footnote_end_to_end (k : ColorCtx) (d : Doc) (pl : Plan) (R : Trace) (hR : Renders k d pl R)
    (x : PageCtx × List (Block × List Elem)) (hx : x ∈ R) (y : Block × List Elem) (hy : y ∈ x.2)
    (b : Bool) (hb : y.1 = Block.footnote b) (f : Foot) (hf : d.footnote = some f)
    (a : TextArg Char) (ht : f.text = some (footText a)) (hne : footText a ≠ []) :
    ∃ A conv, f.attrs.mapM Attr.toNested = .ok A ∧ FlagAt A.convert 0 0 conv ∧
      FootHole f y.2 (textNodes (convText conv (footText a))) ∧
      (conv = false → (∀ l ∈ a.lines, ∀ c ∈ l, Plain c) →
        decode (holeBytes (textNodes (convText conv (footText a)))) =
          { text := Props.C10.cps a.lines.flatten, us := uTrace (Props.C10.cps a.lines.flatten),
            words := a.lines.length - 1, errs := [], depth := 0 }) :=
  C10in_footOf_end_to_end f y.2 (Props.C10enc.C10enc_footnote_hole k d pl R hR x hx y hy b hb f hf) a ht hne

/-- **source, end to end** -/
theorem C10in_source_end_to_end (k : ColorCtx) (d : Doc) (pl : Plan) (R : Trace) (hR : Renders k d pl R)
    (x : PageCtx × List (Block × List Elem)) (hx : x ∈ R) (y : Block × List Elem) (hy : y ∈ x.2)
    (b : Bool) (hb : y.1 = Block.source b) (f : Foot) (hf : d.source = some f)
    (a : TextArg Char) (ht : f.text = some (footText a)) (hne : footText a ≠ []) :
    ∃ A conv, f.attrs.mapM Attr.toNested = .ok A ∧ FlagAt A.convert 0 0 conv ∧
      FootHole f y.2 (textNodes (convText conv (footText a))) ∧
      (conv = false → (∀ l ∈ a.lines, ∀ c ∈ l, Plain c) →
        decode (holeBytes (textNodes (convText conv (footText a)))) =
          { text := Props.C10.cps a.lines.flatten, us := uTrace (Props.C10.cps a.lines.flatten),
            words := a.lines.length - 1, errs := [], depth := 0 }) :=
  C10in_footOf_end_to_end f y.2 (Props.C10enc.C10enc_source_hole k d pl R hR x hx y hy b hb f hf) a ht hne

/-! Non-vacuity: three lines holding U+2028 LINE SEPARATOR, U+2029 PARAGRAPH SEPARATOR, a no-break space, a Latin-1
letter and an astral character are in the domain; the joined text is the lines with two `\line ` between them; the
reader shows all fourteen characters and two formatting words. -/
example :
    let a : TextArg Char := .many [['a', ' ', 'b'], [' '], [' ', 'é', '😀', ' ', 'x']]
    (∀ l ∈ a.lines, ∀ c ∈ l, Plain c) ∧ a.lines ≠ [] ∧
    footText a = "a b\\line  \\line  é😀 x".toList ∧
    (decode (escape (Props.C10.cps (footText a)))).text = [97, 0x2028, 98, 0x2029, 0xA0, 233, 0x1F600, 32, 120] ∧
    (decode (escape (Props.C10.cps (footText a)))).words = 2 := by
  decide +kernel

/-- the reader is not trivial: had the constructor cut the text at U+2028 (`str.splitlines`), the bytes written for
`"a b"` would be those of `a\line b`, which are not read back as the text -/
example : intact [97, 0x2028, 98] (decode (escape (Props.C10.cps "a\\line b".toList))) = false := by
  decide +kernel

end Props.C10in
