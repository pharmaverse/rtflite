import Model.InterleaveLru
import Proofs.Interleave
/-!
# C15 — a bounded, content-keyed cache on a process-wide service: who can be hurt

`Model.InterleaveLru`: the check-then-act "insert, trim, read again" on a least-recently-used
store of capacity `cap` shared by all threads.
-/
namespace Props.C15lru
open Model.InterleaveLru Proofs.InterleaveLru

/-- **Atomic use is safe**: a lookup whose three steps run without another thread in between
finds its entry, whatever the cache held (any capacity ≥ 1) — sequential use, and every
schedule that does not preempt inside a lookup. -/
theorem C15lru_atomic_lookup_hits (cap : Nat) (hcap : 1 ≤ cap) (c : Cache) (k : Nat) :
    (trim cap (touch c k)).contains k = true := by
  unfold trim touch
  have hlen : (c.filter (· ≠ k) ++ [k]).length - cap ≤ (c.filter (· ≠ k)).length := by
    simp only [List.length_append, List.length_singleton]
    omega
  rw [List.drop_append_of_le_length hlen]
  simp

/-- **Two threads cannot hurt each other** (capacity 2, the two palettes different or equal,
any leftover cache content over the keys in play): under EVERY schedule — all 64 interleavings
and partial executions of the two lookups' six steps — no read fails.  (Instances of
`Proofs.InterleaveLru.two_lookups_safe`: any cache, any two keys, any schedule.) -/
theorem C15lru_two_threads_safe :
    ∀ c₀ ∈ [[], [1], [2], [1, 2], [2, 1], [7, 8], [7, 1], [2, 7]],
    ∀ progs ∈ [[lookupProg 1, lookupProg 2], [lookupProg 1, lookupProg 1]],
    ∀ sched ∈ allScheds 2 6, allHits (run 2 sched (init c₀ progs)) = true := by
  intro c₀ _ progs hp sched _
  rcases List.mem_cons.mp hp with rfl | hp
  · exact two_lookups_safe c₀ 1 2 sched
  · rw [List.mem_singleton.mp hp]
    exact two_lookups_safe c₀ 1 1 sched

/-- **Three threads with three different palettes: one preemption breaks it.**  Thread 0 is
stopped right after inserting its entry (before `trim`), threads 1 and 2 each resolve a colour,
thread 0 resumes: its own entry is the least recently used one, `trim` evicts it, the re-read
fails (`KeyError` out of `rtf_encode()`).  From an empty cache and from the history "the two
other documents were encoded last" alike; both orders of the others; the others are unharmed. -/
theorem C15lru_three_threads_witness :
    let progs := [encodeProg 1 1, encodeProg 2 1, encodeProg 3 1]
    (∀ c₀ ∈ [[], [2, 3], [3, 2]], ∀ sched ∈ [[0, 1, 1, 1, 2, 2, 2, 0, 0], [0, 2, 2, 2, 1, 1, 1, 0, 0]],
      (run 2 sched (init c₀ progs)).outs = [[false], [true], [true]]) ∧
    -- the same threads one after the other, in any order: no read fails
    (∀ sched ∈ [[0, 0, 0, 1, 1, 1, 2, 2, 2], [1, 1, 1, 2, 2, 2, 0, 0, 0], [2, 2, 2, 0, 0, 0, 1, 1, 1]],
      allHits (run 2 sched (init [] progs)) = true) ∧
    -- (in the model the victim is as exposed between `trim` and `read`; in the code the re-read
    -- follows the trim without a function-call boundary, so the scheduler has no such point)
    (run 2 [0, 0, 1, 1, 1, 2, 2, 2, 0] (init [] progs)).outs = [[false], [true], [true]] ∧
    -- with room for all three palettes nothing is ever evicted
    (∀ sched ∈ [[0, 1, 1, 1, 2, 2, 2, 0, 0], [0, 2, 2, 2, 1, 1, 1, 0, 0]],
      allHits (run 3 sched (init [] progs)) = true) := by
  decide

end Props.C15lru
