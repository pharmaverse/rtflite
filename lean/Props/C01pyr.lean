import Generated.PyRowAsRtf
import Props.C01pyc
import Model.Encode
/-!
# C01 — translator tie for the row emitter

`Generated.Py.RowAsRtf.run` is regenerated on every run from the source of `Row._as_rtf` (`row.py`); it calls the
translated `Cell._as_rtf` (which calls the translated `Border._as_rtf`); the emitter of the cell texts,
`cell.text._as_rtf(method="cell")`, is a parameter.  The function returns a LIST of strings which its callers join with
newlines.  Proved here: that concatenation is the printed form of `Model.Emit.rowNodesFull r` — the `BlockG.row` of the
grammar (`Model/RtfDoc.lean`) that C01's well-formedness theorems are about, followed by `\pard` — for every row
whose justification has a code, whose cells are related to the model's cells (`CellRel`) and whose `\trgaph` argument
is `int(inch_to_twip(height) / 2)`: truncation toward zero of the exact quotient (`Model.Encode.pyInt`), which for the
non-negative twips of a row height is the floor `n / 2` (`pyInt_half`) and for `inch_to_twip := Model.Encode.twip` is
the encoder model's `gaphOf` (`gaph_encoder`).  An unknown justification raises `ValueError`.
-/
namespace Props.C01pyr
open Model.Rtf Model.Emit Generated.Py Generated.Py.RowAsRtf Props.C01py Props.C01pyc

/-- a cell of the Python row against a cell of the model row: the borders are related (`BorderRel`), the vertical
alignment has the model's control words, the right edge is the model's `\cellx`, and the text emitter, asked for
method "cell", returns the printed cell content (`\pard … \cell`, without the newline the caller's join puts in
front) -/
def CellRel (bc : List Nat → Option (List Nat)) (gci : List Nat → Except Exc Int)
    (vac : List Nat → Option (List Nat)) (i2t : Rat → Int) (temit : Text → List Nat → Except Exc (List Nat))
    (pc : Cell) (m : CellFmt) : Prop :=
  BorderRel bc gci pc.border_left m.left ∧ BorderRel bc gci pc.border_top m.top ∧
  BorderRel bc gci pc.border_right m.right ∧ BorderRel bc gci pc.border_bottom m.bottom ∧
  (match pc.vertical_justification with
    | none => m.valign = []
    | some v => vac v = some (m.valign.flatMap fun w => cps ('\\' :: w))) ∧
  i2t pc.width = m.cellx ∧
  temit pc.text (cps "cell".toList) =
    .ok (cps (printNodes ((cellContent m.text m.body).tail ++ [cw0 "cell"])))

/-- the cells of the Python row against the cells of the model row, one to one -/
def CellsRel (bc : List Nat → Option (List Nat)) (gci : List Nat → Except Exc Int)
    (vac : List Nat → Option (List Nat)) (i2t : Rat → Int) (temit : Text → List Nat → Except Exc (List Nat)) :
    List Cell → List CellFmt → Prop
  | [], [] => True
  | pc :: pcs, m :: ms => CellRel bc gci vac i2t temit pc m ∧ CellsRel bc gci vac i2t temit pcs ms
  | _, _ => False

/-- the string of one cell definition / one cell content of the model -/
def defnStr (m : CellFmt) : List Nat := cps (printNodes ((cellDefn m).tail ++ [cwi "cellx" m.cellx]))
def contentStr (m : CellFmt) : List Nat := cps (printNodes ((cellContent m.text m.body).tail ++ [cw0 "cell"]))

/-- the first generator, `rtf.extend(cell._as_rtf() for cell in self.row_cells)`, appends the cell definitions -/
theorem loop1_fold (bc gci vac i2t rjc keys temit) (cells0 : List Cell) (just : List Nat) (height : Rat) :
    ∀ (cells : List Cell) (ms : List CellFmt), CellsRel bc gci vac i2t temit cells ms → ∀ s : St,
      cells.foldlM (loop1 bc gci vac i2t rjc keys temit cells0 just height) s =
        .ok { s with v3 := s.v3 ++ ms.map defnStr } := by
  intro cells
  induction cells with
  | nil =>
    intro ms h s
    cases ms <;> simp [CellsRel] at h
    simp [List.foldlM, pure, Except.pure]
  | cons pc pcs ih =>
    intro ms h s
    rcases ms with _ | ⟨m, ms⟩ <;> simp only [CellsRel] at h
    obtain ⟨⟨hl, ht, hr, hb, hv, hx, _⟩, hrest⟩ := h
    have ih := ih ms hrest
    simp only [List.foldlM_cons, loop1, C01py_cell_translated bc gci vac i2t _ _ _ _ _ _ _ hl ht hr hb hv hx,
      bind, Except.bind, pure, Except.pure, ih]
    simp [defnStr]

/-- the second generator appends the cell contents -/
theorem loop2_fold (bc gci vac i2t rjc keys temit) (cells0 : List Cell) (just : List Nat) (height : Rat) :
    ∀ (cells : List Cell) (ms : List CellFmt), CellsRel bc gci vac i2t temit cells ms → ∀ s : St,
      cells.foldlM (loop2 bc gci vac i2t rjc keys temit cells0 just height) s =
        .ok { s with v3 := s.v3 ++ ms.map contentStr } := by
  intro cells
  induction cells with
  | nil =>
    intro ms h s
    cases ms <;> simp [CellsRel] at h
    simp [List.foldlM, pure, Except.pure]
  | cons pc pcs ih =>
    intro ms h s
    rcases ms with _ | ⟨m, ms⟩ <;> simp only [CellsRel] at h
    obtain ⟨⟨_, _, _, _, _, _, htx⟩, hrest⟩ := h
    have ih := ih ms hrest
    have e : ([99, 101, 108, 108] : List Nat) = cps "cell".toList := by decide +kernel
    simp only [List.foldlM_cons, loop2, e, htx, bind, Except.bind, pure, Except.pure, ih]
    simp [contentStr]

/-- `"\n".join(x :: xs)` puts a newline in front of every element but the first -/
theorem pyJoin_cons (sep x : List Nat) (xs : List (List Nat)) :
    pyJoin sep (x :: xs) = x ++ xs.flatMap (sep ++ ·) := by
  induction xs generalizing x with
  | nil => simp [pyJoin]
  | cons y ys ih => simp only [pyJoin, ih, List.flatMap_cons, List.append_assoc]

theorem cps_flatMap {α : Type} (f : α → List Char) (l : List α) :
    cps (l.flatMap f) = l.flatMap fun a => cps (f a) := by
  induction l with
  | nil => rfl
  | cons a l ih => simp only [List.flatMap_cons, cps_append, ih]

/-- an unknown justification: `ValueError` (whatever the cells are) -/
theorem C01py_row_unknown_justification (bc gci vac i2t rjc keys temit) (cells : List Cell) (just : List Nat)
    (height : Rat) (h : rjc just = none) :
    run bc gci vac i2t rjc keys temit cells just height = .error .ValueError := by
  simp [RowAsRtf.run, h, throw, throwThe, MonadExceptOf.throw]

/-- **the strings of the translated `Row._as_rtf`, joined by newlines, print the model's row** (followed by `\pard`) -/
theorem C01py_row_translated (bc gci vac) (i2t : Rat → Int) (rjc) (keys : List (List Nat)) (temit)
    (cells : List Cell) (just : List Nat) (height : Rat) (r : RowFmt)
    (hj : rjc just = some (codeText r.just))
    (hg : r.gaph = Model.Encode.pyInt ((i2t height : Rat) / 2))
    (hc : CellsRel bc gci vac i2t temit cells r.cells) :
    (run bc gci vac i2t rjc keys temit cells just height).map (pyJoin [10]) =
      .ok (cps (printNodes (rowNodesFull r))) := by
  have eh : ([92, 116, 114, 111, 119, 100, 92, 116, 114, 103, 97, 112, 104] : List Nat) =
      cps ('\\' :: "trowd".toList) ++ cps ('\\' :: "trgaph".toList) := by decide +kernel
  have el : ([92, 116, 114, 108, 101, 102, 116, 48] : List Nat) = cps ('\\' :: "trleft".toList) ++ strOfInt 0 := by
    decide +kernel
  have et : ([92, 105, 110, 116, 98, 108, 92, 114, 111, 119, 92, 112, 97, 114, 100] : List Nat) =
      cps ('\\' :: "intbl".toList) ++ cps ('\\' :: "row".toList) ++ cps ('\\' :: "pard".toList) := by decide +kernel
  have e2 : (((2 : Int) : Int) : Rat) = 2 := rfl
  have hp : Generated.Py.pyInt ((i2t height : Rat) / 2) = r.gaph := by rw [hg]; rfl
  rcases r with ⟨gaph, rj, ms⟩
  simp only at hj hg hc hp
  simp only [RowAsRtf.run, hj, Option.isNone_some, Bool.false_eq_true, if_false, pyDictGet, bind, Except.bind, pure,
    Except.pure, e2, hp, loop1_fold bc gci vac i2t rjc keys temit cells just height cells ms hc,
    loop2_fold bc gci vac i2t rjc keys temit cells just height cells ms hc, Except.map, List.append_assoc,
    List.singleton_append]
  simp only [rowNodesFull, rowBlock, blockNodes, rowNodes, List.flatMap_map, List.cons_append, List.nil_append,
    List.append_assoc, eh, el, et]
  have hd : ∀ m : CellFmt, ([10] : List Nat) ++ defnStr m =
      cps (printNodes (cellDefn m ++ [Node.cw "cellx".toList (some m.cellx) false])) := by
    intro m; simp [defnStr, cellDefn, cwi, printNodes, printNode, cps]
  have hx : ∀ m : CellFmt, ([10] : List Nat) ++ contentStr m =
      cps (printNodes (cellContent m.text m.body ++ [cw0 "cell"])) := by
    intro m; simp [contentStr, cellContent, printNodes, printNode, cps]
  have hcons : ∀ (n : Node) (ns : List Node), printNodes (n :: ns) = printNode n ++ printNodes ns := fun _ _ => rfl
  simp only [pyJoin_cons, List.flatMap_append, List.flatMap_map, List.flatMap_cons, List.flatMap_nil, hd, hx,
    List.append_nil, hcons, Proofs.Emit.printNodes_append, Proofs.EscNodes.printNodes_flatMap, cps_append, cps_flatMap,
    List.append_assoc]
  simp only [cps_optCw, cw0, cwi, cps_cw, cps_printNodes_nil, List.append_nil, List.append_assoc, List.cons_append,
    List.nil_append]
  rfl

/-- `k ≤ n / 2` on exact rationals is `2 k ≤ n` -/
theorem le_half_iff (n k : Int) : (k : Rat) ≤ (n : Rat) / 2 ↔ k * 2 ≤ n := by
  have h2 : (0 : Rat) < 2 := by decide
  rw [← Rat.not_lt, Rat.div_lt_iff h2, Rat.not_lt]
  rw [show ((k:Rat) * 2) = ((k * 2 : Int) : Rat) by simp [Rat.intCast_mul]]
  exact Rat.intCast_le_intCast

/-- the domain of `int(n / 2)`: for a non-negative int (the twips of a row height) it is the floor `n / 2` -/
theorem pyInt_half (n : Int) (h : 0 ≤ n) : Model.Encode.pyInt ((n : Rat) / 2) = n / 2 := by
  have h0 : (0 : Rat) ≤ (n : Rat) / 2 := by
    have := (le_half_iff n 0).mpr (by omega)
    simpa using this
  simp only [Model.Encode.pyInt, h0, if_true]
  apply Int.le_antisymm
  · have := (le_half_iff n ((n : Rat) / 2).floor).mp (Rat.le_floor_iff.mp (Int.le_refl _))
    omega
  · exact Rat.le_floor_iff.mpr ((le_half_iff n (n / 2)).mpr (by omega))

/-- for every int, `int(n / 2)` is the quotient truncated toward zero -/
theorem pyInt_half_tdiv (n : Int) : Model.Encode.pyInt ((n : Rat) / 2) = Int.tdiv n 2 := by
  by_cases h : 0 ≤ n
  · rw [pyInt_half n h, Int.tdiv_eq_ediv_of_nonneg h]
  · have hneg : ¬ (0 : Rat) ≤ (n : Rat) / 2 := by
      intro h0
      have := (le_half_iff n 0).mp (by simpa using h0)
      omega
    have e : -((n : Rat) / 2) = ((-n : Int) : Rat) / 2 := by
      simp [Rat.div_def, Rat.neg_mul, Rat.intCast_neg]
    have := pyInt_half (-n) (by omega)
    have h0 : (0 : Rat) ≤ ((-n : Int) : Rat) / 2 := by
      have := (le_half_iff (-n) 0).mpr (by omega)
      simpa using this
    simp only [Model.Encode.pyInt, h0, if_true] at this
    simp only [Model.Encode.pyInt, hneg, if_false, e, this]
    rw [← Int.tdiv_eq_ediv_of_nonneg (by omega : 0 ≤ -n), Int.neg_tdiv, Int.neg_neg]

/-- with `inch_to_twip` the model's `twip`, the `\trgaph` argument is the encoder model's `gaphOf` -/
theorem gaph_encoder (height : Rat) :
    Model.Encode.pyInt (((Model.Encode.twip height : Int) : Rat) / 2) = Model.Encode.gaphOf height := rfl

end Props.C01pyr
