import Model.Encode
import Model.GroupBy
import Model.GroupBySpec
import Proofs.EncodeLift
import Proofs.EncodeGroup
import Props.C13
import Props.C02enc
/-!
# C13 for the whole-encoder model: group_by blanks only true repeats and restores context on each page

`Props/C13.lean` proves the property about `Model.GroupBy` for EVERY frame, EVERY list of group columns and EVERY list
of page heights.  Here it is stated about the ENCODER model `Model.Encode.encode` (byte-exact against `rtf_encode()`),
in the vocabulary of `Proofs/EncodeLift.lean` (`plan`, `Plan.pageBlocks`, `Renders`):

* the frame handed to the grouping service is `gframe pl` = the displayed columns (by name) of the processed frame
  (`C13enc_frame`), i.e. the original frame without the subline_by / page_by columns;
* the page heights handed to it are the heights of the encoder's pages; the rows it restores
  (`pageStarts (pageHeights pl)`) are EXACTLY the first rows of the encoder's pages (`C13enc_page_starts`), and a page's
  data blocks are the rows `start … start+height-1` (`C13enc_page_rows`);
* the rows the encoder renders (`pl.rows`) are the post-processing of `Model.GroupBy` read back row by row
  (`C13enc_post_processing`), page by page the frames `postProcess` produces (`C13enc_pages_are_slices`);
* cell clause (`C13enc_cells`), blank iff true repeat not at a page's first row (`C13enc_blank_iff`,
  `C13enc_isRepeat_iff`), shown otherwise (`C13enc_shown_otherwise`), every page's first row carries all its group
  values (`C13enc_page_first_row`), fill-down per page (`C13enc_filldown_page`, `C13enc_filldown_exact`), the other
  columns untouched (`C13enc_others_untouched`);
* what is rendered: the text hole of cell `j` of data row `i` is the display text of that cell of `pl.rows`
  (`C13enc_rendered_cell`);
* rejection: `finalRows` fails — always with `ValueError` — exactly for the non-contiguous key sequences
  (`C13enc_rejects_exactly_noncontiguous`), the failure reaches `encode` (`C13enc_encode_rejects`), and every accepted
  document has contiguous keys at every level (`C13enc_accepted_contiguous`).

Hypotheses: `d.cols.Nodup` (a polars frame has unique column names; the service addresses columns by name, the encoder
by position) and `gb.Nodup` (the hypothesis of `Props.C13`).
-/
namespace Props.C13enc
open Model.Rtf Model.Emit Model.Encode Model.Broadcast Model.Layout Model.GroupBy Proofs.GroupBy
open Proofs.EncodeLift Proofs.EncodeGroup
open Props.C02 (dataIdx)
open Props.C02enc (Rect)

/-- the original group columns of the frame handed to the service, in level order -/
def gcols (pl : Plan) (gb : List Model.Encode.Str) : List Col := gb.map (getCol (gframe pl))

/-- row `i` is the first data row of one of the encoder's pages -/
def FirstRowOfPage (pl : Plan) (i : Nat) : Prop := ∃ (n : Nat) (pg : PageCtx), pl.ld.pages[n]? = some pg ∧ pg.start = i

/-! ## what the grouping service is given -/

/-- The frame handed to the service has the displayed column names (unique), every column of the frame's height; the
column named `c = dispCols[j]` holds the `j`-th cell of every processed row, which — for a rectangular frame — is the
value of column `c` of the ORIGINAL frame; the displayed columns are the original columns that are not removed. -/
theorem C13enc_frame (measure : Measure) (d : Doc) (pl : Plan) (hp : plan measure d = .ok pl) (hnd : d.cols.Nodup) :
    names (gframe pl) = pl.p.dispCols ∧ WF (gframe pl) ∧ pl.p.dispCols.Nodup ∧
    ∀ (j : Nat) (c : Model.Encode.Str), pl.p.dispCols[j]? = some c →
      (c ∈ d.cols ∧ c ∉ removedNames d.body) ∧
      height (gframe pl) = d.rows.length ∧
      getCol (gframe pl) c = pl.p.dispRows.map (fun (r : List (Option Model.Encode.Str)) => (r[j]?).join) ∧
      (Rect d → getCol (gframe pl) c =
        d.rows.map fun (r : List (Option Model.Encode.Str)) => (r[d.cols.idxOf c]?).join) := by
  have hndD := dispCols_nodup hp hnd
  refine ⟨names_toFrame _ _, wf_toFrame _ _, hndD, ?_⟩
  intro j c hj
  have hmem := ((Props.C02enc.C02enc_kept_cols measure d pl hp hnd).2.2 c).mp (List.mem_of_getElem? hj)
  have hcol : getCol (gframe pl) c = pl.p.dispRows.map (fun (r : List (Option Model.Encode.Str)) => (r[j]?).join) :=
    getCol_toFrame _ hndD hj
  refine ⟨hmem, height_gframe hp hj, hcol, ?_⟩
  intro hrect
  rw [hcol]
  obtain ⟨hprep, _, _, _⟩ := plan_ok hp
  obtain ⟨removed, _, ⟨hrem, _, hcols⟩, _, _, _, hrows, _⟩ := Proofs.Encode.prepare_facts hprep
  obtain ⟨h1, _⟩ := removedIdx_ok hrem
  rw [hrows, List.map_map]
  apply List.map_congr_left
  intro r hr
  simp only [Function.comp]
  rw [hcols, h1] at hj
  rw [h1, dropCols_by_name hnd _ r (Nat.le_of_eq (hrect r hr)) hj]

/-- the page-start rows the service restores are exactly the first rows of the encoder's pages -/
theorem C13enc_page_starts (pl : Plan) (i : Nat) :
    isPageStart (pageStarts (pageHeights pl)) i = true ↔ FirstRowOfPage pl i :=
  isPageStart_pages_iff pl.ld i

/-- page `n` starts at the sum of the heights of the pages before it; the data rows the encoder renders on it are
`start, start+1, …, start+height-1`, in this order (so `start` IS the page's first data row) -/
theorem C13enc_page_rows (pl : Plan) (n : Nat) (x : PageCtx × List Block) (hx : pl.pageBlocks[n]? = some x) :
    x.1.start = ((pageHeights pl).take n).sum ∧ (pageHeights pl)[n]? = some x.1.height ∧
    dataIdx x.2 = List.range' x.1.start x.1.height ∧ x.1.start + x.1.height ≤ pl.ld.rows.length := by
  obtain ⟨hpg, hbs⟩ := pageBlocks_getElem? hx
  obtain ⟨h1, h2⟩ := pages_start_eq pl.ld n x.1 hpg
  have hb := (Proofs.Layout.pages_bound pl.ld x.1 (List.mem_of_getElem? hpg)).2
  refine ⟨h1, by unfold pageHeights; rw [List.getElem?_map, hpg]; rfl, ?_, hb⟩
  rw [hbs]
  show Proofs.Layout.dataIdx _ = _
  rw [Proofs.Layout.renderPage_dataIdx pl.ld x.1 hb, h2]

/-! ## the rows the encoder renders are the post-processing of `Model.GroupBy` -/

/-- The final frame of an accepted document with group_by is the suppressed frame with the page context restored at
the first rows of the encoder's pages, read back row by row; it has the frame's shape. -/
theorem C13enc_post_processing (measure : Measure) (d : Doc) (pl : Plan) (hp : plan measure d = .ok pl)
    (gb : List Model.Encode.Str) (hgb : d.body.groupBy = some gb) (hne : gb ≠ []) :
    ∃ s, enhanceGroupBy (gframe pl) gb = .ok s ∧
      restored (gframe pl) gb (pageHeights pl) = .ok (restoredFrame pl gb s) ∧
      pl.rows = ofFrame (restoredFrame pl gb s) d.rows.length ∧
      names (restoredFrame pl gb s) = pl.p.dispCols ∧
      pl.rows.length = d.rows.length ∧ ∀ r ∈ pl.rows, r.length = pl.p.dispCols.length := by
  obtain ⟨s, hs, hrows, hnames, _⟩ := group_setup hp hgb hne
  refine ⟨s, hs, by simp [restored, hs, restoredFrame], hrows, hnames, (plan_rows_length hp).1, ?_⟩
  intro r hr
  rw [hrows] at hr
  unfold ofFrame at hr
  obtain ⟨i, _, rfl⟩ := List.mem_map.mp hr
  rw [List.length_map, ← hnames, names, List.length_map]

/-- without group_by the encoder renders the processed frame itself -/
theorem C13enc_no_groupby (measure : Measure) (d : Doc) (pl : Plan) (hp : plan measure d = .ok pl)
    (h0 : d.body.groupByL = []) : pl.rows = pl.p.dispRows := by
  obtain ⟨_, _, _, hfin⟩ := plan_ok hp
  rw [finalRows_no_groupby h0] at hfin
  exact (Except.ok.inj hfin).symm

/-! ## (a) the cell clause -/

/-- Every cell of every group_by level of the rows the encoder renders is the cell the specification demands:
blank (`none`) iff the hierarchical key up to this level equals the previous row's and the row does not start one of
the encoder's pages; the processed frame's cell otherwise. -/
theorem C13enc_cells (measure : Measure) (d : Doc) (pl : Plan) (hp : plan measure d = .ok pl)
    (gb : List Model.Encode.Str) (hgb : d.body.groupBy = some gb) (hgnd : gb.Nodup) (hnd : d.cols.Nodup)
    (l : Nat) (hl : l < gb.length) (j : Nat) (hj : pl.p.dispCols[j]? = some gb[l]) (i : Nat) (hi : i < d.rows.length) :
    cellRC pl.rows i j = expectedCell (gcols pl gb) (pageStarts (pageHeights pl)) l i := by
  obtain ⟨s, hs, hrows, hnames, _⟩ := group_setup hp hgb (List.ne_nil_of_length_pos (Nat.zero_lt_of_lt hl))
  have hndD := dispCols_nodup hp hnd
  rw [final_cell hrows hnames hndD hj hi]
  exact Props.C13.C13_cells (gframe pl) (wf_gframe pl) gb hgnd _ s hs l hl i (by rw [height_gframe hp hj]; exact hi)

/-- the repeat test in terms of the processed frame: row `i` repeats row `i-1` at level `l` iff it is not the first
row and agrees with the row above in the columns of levels `0 … l` -/
theorem C13enc_isRepeat_iff (measure : Measure) (d : Doc) (pl : Plan) (hp : plan measure d = .ok pl)
    (gb : List Model.Encode.Str) (hnd : d.cols.Nodup) (l : Nat) (hl : l < gb.length)
    (hsub : ∀ g ∈ gb, g ∈ pl.p.dispCols) (i : Nat) :
    isRepeat (gcols pl gb) l i = true ↔
      (0 < i ∧ ∀ l' j', l' ≤ l → pl.p.dispCols[j']? = gb[l']? →
        cellRC pl.p.dispRows i j' = cellRC pl.p.dispRows (i - 1) j') := by
  have hndD := dispCols_nodup hp hnd
  unfold isRepeat gcols
  simp only [Bool.and_eq_true, decide_eq_true_eq]
  rw [hkey_map, hkey_map]
  constructor
  · rintro ⟨h0, hk⟩
    refine ⟨h0, ?_⟩
    intro l' j' hl' hj'
    have hl'' : l' < gb.length := by omega
    rw [List.getElem?_eq_getElem hl''] at hj'
    have := congrArg (fun xs => xs[l']?) hk
    simp only [List.getElem?_map, List.getElem?_take, show l' < l + 1 by omega, if_true,
      List.getElem?_eq_getElem hl'', Option.map_some, Option.some.injEq] at this
    rw [frame_cell hndD hj', frame_cell hndD hj'] at this
    exact this
  · rintro ⟨h0, hk⟩
    refine ⟨h0, ?_⟩
    apply List.map_congr_left
    intro g hg
    obtain ⟨l', hl', hgl⟩ := List.getElem_of_mem hg
    rw [List.length_take] at hl'
    rw [List.getElem_take] at hgl
    obtain ⟨j', hjlt, hj'⟩ := List.getElem_of_mem (hsub g (List.mem_of_mem_take hg))
    have hj'' : pl.p.dispCols[j']? = some g := by rw [List.getElem?_eq_getElem hjlt, hj']
    rw [frame_cell hndD hj'', frame_cell hndD hj'']
    exact hk l' j' (by omega) (by rw [hj'', List.getElem?_eq_getElem (by omega), hgl])

/-- A group cell whose text in the processed frame is not empty is rendered blank iff it is a true repeat and its row
is not the first data row of one of the encoder's pages. -/
theorem C13enc_blank_iff (measure : Measure) (d : Doc) (pl : Plan) (hp : plan measure d = .ok pl)
    (gb : List Model.Encode.Str) (hgb : d.body.groupBy = some gb) (hgnd : gb.Nodup) (hnd : d.cols.Nodup)
    (l : Nat) (hl : l < gb.length) (j : Nat) (hj : pl.p.dispCols[j]? = some gb[l]) (i : Nat) (hi : i < d.rows.length)
    (hne : display (cellRC pl.p.dispRows i j) ≠ []) :
    display (cellRC pl.rows i j) = [] ↔ (isRepeat (gcols pl gb) l i = true ∧ ¬ FirstRowOfPage pl i) := by
  obtain ⟨s, hs, hrows, hnames, _⟩ := group_setup hp hgb (List.ne_nil_of_length_pos (Nat.zero_lt_of_lt hl))
  have hndD := dispCols_nodup hp hnd
  rw [final_cell hrows hnames hndD hj hi, ← C13enc_page_starts, Bool.not_eq_true]
  exact Props.C13.C13_blank_iff (gframe pl) (wf_gframe pl) gb hgnd _ s hs l hl i
    (by rw [height_gframe hp hj]; exact hi) (by rw [frame_cell hndD hj]; exact hne)

/-- … and in every other case (not a repeat, or the first row of a page) the cell is the processed frame's cell. -/
theorem C13enc_shown_otherwise (measure : Measure) (d : Doc) (pl : Plan) (hp : plan measure d = .ok pl)
    (gb : List Model.Encode.Str) (hgb : d.body.groupBy = some gb) (hgnd : gb.Nodup) (hnd : d.cols.Nodup)
    (l : Nat) (hl : l < gb.length) (j : Nat) (hj : pl.p.dispCols[j]? = some gb[l]) (i : Nat) (hi : i < d.rows.length)
    (hno : ¬ (isRepeat (gcols pl gb) l i = true ∧ ¬ FirstRowOfPage pl i)) :
    cellRC pl.rows i j = cellRC pl.p.dispRows i j := by
  obtain ⟨s, hs, hrows, hnames, _⟩ := group_setup hp hgb (List.ne_nil_of_length_pos (Nat.zero_lt_of_lt hl))
  have hndD := dispCols_nodup hp hnd
  rw [final_cell hrows hnames hndD hj hi, ← frame_cell hndD hj]
  apply Props.C13.C13_shown_otherwise (gframe pl) (wf_gframe pl) gb hgnd _ s hs l hl i
    (by rw [height_gframe hp hj]; exact hi)
  rw [← C13enc_page_starts, Bool.not_eq_true] at hno
  exact hno

/-- Every page's first data row carries all its group values: at the first row of every page of the encoder, every
group cell is the processed frame's cell. -/
theorem C13enc_page_first_row (measure : Measure) (d : Doc) (pl : Plan) (hp : plan measure d = .ok pl)
    (gb : List Model.Encode.Str) (hgb : d.body.groupBy = some gb) (hgnd : gb.Nodup) (hnd : d.cols.Nodup)
    (n : Nat) (x : PageCtx × List Block) (hx : pl.pageBlocks[n]? = some x) (hlt : x.1.start < d.rows.length)
    (l : Nat) (hl : l < gb.length) (j : Nat) (hj : pl.p.dispCols[j]? = some gb[l]) :
    cellRC pl.rows x.1.start j = cellRC pl.p.dispRows x.1.start j := by
  apply C13enc_shown_otherwise measure d pl hp gb hgb hgnd hnd l hl j hj _ hlt
  rintro ⟨_, h2⟩
  exact h2 ⟨n, x.1, (pageBlocks_getElem? hx).1, rfl⟩

/-! ## (b) the other columns are untouched -/

/-- a displayed column that is not named in group_by is rendered as the processed frame holds it -/
theorem C13enc_others_untouched (measure : Measure) (d : Doc) (pl : Plan) (hp : plan measure d = .ok pl)
    (gb : List Model.Encode.Str) (hgb : d.body.groupBy = some gb) (hnd : d.cols.Nodup)
    (j : Nat) (c : Model.Encode.Str) (hj : pl.p.dispCols[j]? = some c) (hc : c ∉ gb) (i : Nat) :
    cellRC pl.rows i j = cellRC pl.p.dispRows i j := by
  by_cases hne : gb = []
  · rw [C13enc_no_groupby measure d pl hp (by rw [groupByL_of_some hgb, hne])]
  · obtain ⟨s, hs, hrows, hnames, hlen⟩ := group_setup hp hgb hne
    have hndD := dispCols_nodup hp hnd
    by_cases hi : i < d.rows.length
    · rw [final_cell hrows hnames hndD hj hi, ← frame_cell hndD hj]
      unfold restoredFrame
      rw [Props.C13.C13_others_untouched (gframe pl) gb _ s hs c hc]
    · have h1 : pl.rows[i]? = none := by
        rw [List.getElem?_eq_none]; rw [(plan_rows_length hp).1]; omega
      have h2 : pl.p.dispRows[i]? = none := by
        rw [List.getElem?_eq_none]; rw [hlen]; omega
      simp [cellRC, h1, h2]

/-! ## (c) fill-down within every page of the encoder -/

/-- the cells of column `j` that page `pg` shows, top to bottom -/
def pageCol (rows : List (List (Option Model.Encode.Str))) (pg : PageCtx) (j : Nat) : Col :=
  (List.range' pg.start pg.height).map fun i => cellRC rows i j

/-- the cells of the displayed column `c` that a page shows are the page's slice of the restored frame's column `c` -/
theorem pageCol_rows {measure : Measure} {d : Doc} {pl : Plan} {gb : List Model.Encode.Str} {s : Frame}
    (hp : plan measure d = .ok pl) (hs : enhanceGroupBy (gframe pl) gb = .ok s) (hgnd : gb.Nodup)
    (hrows : pl.rows = ofFrame (restoredFrame pl gb s) d.rows.length)
    (hnames : names (restoredFrame pl gb s) = pl.p.dispCols) (hndD : pl.p.dispCols.Nodup)
    {j : Nat} {c : Model.Encode.Str} (hj : pl.p.dispCols[j]? = some c) {pg : PageCtx}
    (hb : pg.start + pg.height ≤ d.rows.length) :
    pageCol pl.rows pg j = ((getCol (restoredFrame pl gb s) c).drop pg.start).take pg.height := by
  rw [map_range'_cellAt _ _ _ (by rw [length_getCol_restored hp hs hgnd hj]; exact hb)]
  unfold pageCol
  apply List.map_congr_left
  intro i hi
  rw [List.mem_range'_1] at hi
  exact final_cell hrows hnames hndD hj (by omega)

/-- Per page of the encoder, per level: filling the blanks of the rendered slice downward gives back every non-null
cell of the processed frame's slice (nothing is carried over from the page before). -/
theorem C13enc_filldown_page (measure : Measure) (d : Doc) (pl : Plan) (hp : plan measure d = .ok pl)
    (gb : List Model.Encode.Str) (hgb : d.body.groupBy = some gb) (hgnd : gb.Nodup) (hnd : d.cols.Nodup)
    (l : Nat) (hl : l < gb.length) (j : Nat) (hj : pl.p.dispCols[j]? = some gb[l])
    (n : Nat) (x : PageCtx × List Block) (hx : pl.pageBlocks[n]? = some x) :
    (fillDown (pageCol pl.rows x.1 j)).length = (pageCol pl.p.dispRows x.1 j).length ∧
    ∀ k, cellAt (pageCol pl.p.dispRows x.1 j) k ≠ none →
      cellAt (fillDown (pageCol pl.rows x.1 j)) k = cellAt (pageCol pl.p.dispRows x.1 j) k := by
  obtain ⟨s, hs, hrows, hnames, _⟩ := group_setup hp hgb (List.ne_nil_of_length_pos (Nat.zero_lt_of_lt hl))
  have hndD := dispCols_nodup hp hnd
  obtain ⟨hstart, hh, _, hb⟩ := C13enc_page_rows pl n x hx
  rw [(plan_rows_length hp).2] at hb
  have hlen0 := length_getCol_gframe hp hj
  have e2 : pageCol pl.p.dispRows x.1 j = ((getCol (gframe pl) gb[l]).drop x.1.start).take x.1.height := by
    rw [map_range'_cellAt _ _ _ (by rw [hlen0]; exact hb)]
    unfold pageCol
    apply List.map_congr_left
    intro i _
    exact (frame_cell hndD hj i).symm
  rw [pageCol_rows hp hs hgnd hrows hnames hndD hj hb, e2]
  apply segment_fill (gframe pl) (wf_gframe pl) gb hgnd _ s hs l hl
  cases n with
  | zero => left; rw [hstart]; simp
  | succ n =>
    right
    rw [hstart]
    have hlt : n + 1 < (pageHeights pl).length := (List.getElem?_eq_some_iff.mp hh).1
    exact Props.C13.C13_page_first_rows_are_starts (pageHeights pl) (n + 1) hlt (Nat.succ_pos _)

/-- "reconstructs the column exactly": when the group column holds no null on the page, fill-down of the page's
rendered slice IS the processed frame's slice. -/
theorem C13enc_filldown_exact (measure : Measure) (d : Doc) (pl : Plan) (hp : plan measure d = .ok pl)
    (gb : List Model.Encode.Str) (hgb : d.body.groupBy = some gb) (hgnd : gb.Nodup) (hnd : d.cols.Nodup)
    (l : Nat) (hl : l < gb.length) (j : Nat) (hj : pl.p.dispCols[j]? = some gb[l])
    (n : Nat) (x : PageCtx × List Block) (hx : pl.pageBlocks[n]? = some x)
    (hnn : ∀ v ∈ pageCol pl.p.dispRows x.1 j, v ≠ none) :
    fillDown (pageCol pl.rows x.1 j) = pageCol pl.p.dispRows x.1 j := by
  have := C13enc_filldown_page measure d pl hp gb hgb hgnd hnd l hl j hj n x hx
  exact fill_all_nonnull _ _ this.1 this.2 hnn

/-! ## (e) the per-page frames of `_apply_data_post_processing` are the encoder's pages -/

/-- `postProcess` on the frame, the group columns and the page heights of the encoder succeeds, and the frame it
produces for page `n` holds, in every displayed column, the cells the encoder renders on page `n`. -/
theorem C13enc_pages_are_slices (measure : Measure) (d : Doc) (pl : Plan) (hp : plan measure d = .ok pl)
    (gb : List Model.Encode.Str) (hgb : d.body.groupBy = some gb) (hne : gb ≠ []) (hgnd : gb.Nodup)
    (hnd : d.cols.Nodup) :
    ∃ pages, postProcess (gframe pl) gb (pageHeights pl) = .ok pages ∧ pages.length = pl.pageBlocks.length ∧
      ∀ n x, pl.pageBlocks[n]? = some x → ∀ j c, pl.p.dispCols[j]? = some c →
        getCol (pages.getD n []) c = pageCol pl.rows x.1 j := by
  obtain ⟨s, hs, hrows, hnames, _⟩ := group_setup hp hgb hne
  have hndD := dispCols_nodup hp hnd
  have hpp : postProcess (gframe pl) gb (pageHeights pl) =
      .ok (splitFrameAux (restoredFrame pl gb s) 0 (pageHeights pl)) := by
    simp [postProcess, restored, hne, hs, restoredFrame]
  refine ⟨_, hpp, ?_, ?_⟩
  · rw [pageBlocks_length]
    have : ∀ (hs' : List Nat) (cur : Nat) (f : Frame), (splitFrameAux f cur hs').length = hs'.length := by
      intro hs'
      induction hs' with
      | nil => intro cur f; rfl
      | cons h t ih => intro cur f; simp [splitFrameAux, ih]
    rw [this]
    unfold pageHeights
    rw [List.length_map]
  · intro n x hx j c hj
    obtain ⟨hstart, hh, _, hb⟩ := C13enc_page_rows pl n x hx
    rw [(plan_rows_length hp).2] at hb
    have hlt : n < (pageHeights pl).length := (List.getElem?_eq_some_iff.mp hh).1
    obtain ⟨s', hs', hcol⟩ := Props.C13.C13_pages_are_slices (gframe pl) gb hne (pageHeights pl) _ hpp n hlt c
    rw [hs] at hs'
    cases hs'
    rw [hcol, Props.C13.pageOf]
    simp only [List.getD, splitCol_getElem? (pageHeights pl) _ n hlt, Option.getD_some]
    have hhn : (pageHeights pl)[n] = x.1.height := by
      have := List.getElem?_eq_getElem hlt
      rw [hh] at this
      exact (Option.some.inj this).symm
    rw [hhn, ← hstart]
    exact (pageCol_rows hp hs hgnd hrows hnames hndD hj hb).symm

/-! ## what is rendered -/

/-- Every `.data i` block of the trace is one table row whose `j`-th cell's text hole is the converted, escaped
display text (`""` for a blank / null) of cell `(i, j)` of the final frame — so the clauses above speak about what
the reader of the RTF sees. -/
theorem C13enc_rendered_cell (k : ColorCtx) (d : Doc) (pl : Plan) (R : Trace) (hR : Renders k d pl R)
    (x : PageCtx × List (Block × List Elem)) (hx : x ∈ R) (y : Block × List Elem) (hy : y ∈ x.2)
    (i : Nat) (hb : y.1 = Block.data i) :
    ∃ cells fmt, pl.rows[i]? = some cells ∧ y.2 = [rowElem fmt] ∧ fmt.cells.length = cells.length ∧
      ∀ j, j < cells.length → ∃ cf conv, fmt.cells[j]? = some cf ∧
        cf.body = textNodes (convText conv (display (cellRC pl.rows i j))) := by
  obtain ⟨cells, fmt, h1, _, h3, _, h5, h6⟩ := Props.C02enc.C02enc_data_row k d pl R hR x hx y hy i hb
  refine ⟨cells, fmt, h1, h3, h5, ?_⟩
  intro j hj
  obtain ⟨cf, _, _, conv, _, g1, _, _, _, _, _, g7⟩ := h6 j cells[j] (List.getElem?_eq_getElem hj)
  refine ⟨cf, conv, g1, ?_⟩
  rw [g7]
  simp [cellRC, h1, List.getElem?_eq_getElem hj, display]

/-! ## (d) non-contiguous keys are rejected with ValueError (and only those) -/

/-- whatever goes wrong in the group_by post-processing is reported as `ValueError` -/
theorem C13enc_only_valueError (d : Doc) (p : Prep) (heights : List Nat) (e : String)
    (h : finalRows d p heights = .error e) : e = "ValueError" := by
  by_cases h0 : d.body.groupByL = []
  · rw [finalRows_no_groupby h0] at h; cases h
  · exact ((finalRows_error_iff h0 e).mp h).1

/-- For a non-empty processed frame and group columns that are displayed columns: the post-processing of the encoder
raises `ValueError` iff at some level the hierarchical keys (null a value of its own) are not contiguous — whatever
the page heights are. -/
theorem C13enc_rejects_exactly_noncontiguous (d : Doc) (p : Prep) (gb : List Model.Encode.Str)
    (hgb : d.body.groupBy = some gb) (hgnd : gb.Nodup) (hne : gb ≠ []) (hsub : ∀ g ∈ gb, g ∈ p.dispCols)
    (hrows : p.dispRows ≠ []) (heights : List Nat) :
    finalRows d p heights = .error "ValueError" ↔
      ¬ ∀ l, l < gb.length → Contiguous (keysAt (toFrame p.dispCols p.dispRows) gb l) := by
  have hL := groupByL_of_some hgb
  have hcols : p.dispCols ≠ [] := by
    cases gb with
    | nil => exact absurd rfl hne
    | cons g _ => exact List.ne_nil_of_mem (hsub g List.mem_cons_self)
  have hh := height_toFrame_ne_zero hcols hrows
  rw [finalRows_error_iff (by rw [hL]; exact hne), hL,
    ← enhance_error_iff _ (wf_toFrame _ _) gb hgnd (by rw [names_toFrame]; exact hsub) hne hh]
  constructor
  · rintro ⟨_, e', he⟩
    cases e'
    exact he
  · intro h
    exact ⟨rfl, _, h⟩

/-- a group_by name that is not a displayed column (a typo, or a page_by / subline_by column that was removed) is
refused with `ValueError` too -/
theorem C13enc_missing_group_column (d : Doc) (p : Prep) (gb : List Model.Encode.Str)
    (hgb : d.body.groupBy = some gb) (g : Model.Encode.Str) (hg : g ∈ gb) (hmiss : g ∉ p.dispCols)
    (hcols : p.dispCols ≠ []) (hrows : p.dispRows ≠ []) (heights : List Nat) :
    finalRows d p heights = .error "ValueError" := by
  have hL := groupByL_of_some hgb
  have hne : gb ≠ [] := List.ne_nil_of_mem hg
  rw [finalRows_error_iff (by rw [hL]; exact hne), hL]
  refine ⟨rfl, .valueError, ?_⟩
  have hh := height_toFrame_ne_zero hcols hrows
  unfold enhanceGroupBy
  have h0 : (decide (gb = []) || decide (height (toFrame p.dispCols p.dispRows) = 0)) = false := by simp [hne, hh]
  have h1 : (gb.any fun c => !(names (toFrame p.dispCols p.dispRows)).contains c) = true := by
    rw [List.any_eq_true]
    exact ⟨g, hg, by rw [names_toFrame]; simpa using hmiss⟩
  simp only [h0, h1, Bool.false_eq_true, if_false, if_true]

/-- the refusal reaches `encode`: when everything before the post-processing succeeds (`prepare`, the normalisation
of the body attributes, `mkLDoc`), a non-contiguous key sequence makes `rtf_encode()` raise `ValueError` -/
theorem C13enc_encode_rejects (measure : Measure) (d : Doc) (p : Prep) (bodyA : TblAttrsOf MatV) (ld : LDoc)
    (near : Nat) (gb : List Model.Encode.Str)
    (hprep : prepare d = .ok p) (hA : d.body.attrs.mapM Attr.toNested = .ok bodyA)
    (hld : mkLDoc measure d p = .ok (ld, near))
    (hgb : d.body.groupBy = some gb) (hgnd : gb.Nodup) (hne : gb ≠ []) (hsub : ∀ g ∈ gb, g ∈ p.dispCols)
    (hrows : d.rows ≠ [])
    (hnc : ¬ ∀ l, l < gb.length → Contiguous (keysAt (toFrame p.dispCols p.dispRows) gb l)) :
    plan measure d = .error "ValueError" ∧ encode measure d = .error "ValueError" ∧
      encodeText measure d = .error "ValueError" := by
  have hdr : p.dispRows ≠ [] := by
    intro h0
    have := prepare_dispRows_length hprep
    rw [h0] at this
    exact hrows (List.eq_nil_of_length_eq_zero this.symm)
  have hfin := (C13enc_rejects_exactly_noncontiguous d p gb hgb hgnd hne hsub hdr (ld.pages.map (·.height))).mpr hnc
  have hplan : plan measure d = .error "ValueError" := by
    unfold plan
    rw [hprep]; dsimp only [bind, Except.bind]
    rw [hA]; dsimp only
    rw [hld]; dsimp only
    rw [hfin]
  have hpages : ∀ k, encodePages measure k d = .error "ValueError" := by
    intro k
    rw [encodePages_eq, hplan]; rfl
  have henc : encode measure d = .error "ValueError" := by
    unfold encode encodeWith
    dsimp only
    rw [hpages]; rfl
  refine ⟨hplan, henc, ?_⟩
  unfold encodeText
  rw [henc]; rfl

/-- conversely: every document the encoder accepts has contiguous hierarchical keys at every group_by level -/
theorem C13enc_accepted_contiguous (measure : Measure) (d : Doc) (pl : Plan) (hp : plan measure d = .ok pl)
    (gb : List Model.Encode.Str) (hgb : d.body.groupBy = some gb) (hgnd : gb.Nodup) (l : Nat) (hl : l < gb.length) :
    Contiguous (keysAt (gframe pl) gb l) := by
  have hne : gb ≠ [] := List.ne_nil_of_length_pos (Nat.zero_lt_of_lt hl)
  obtain ⟨s, hs, _, _, _⟩ := group_setup hp hgb hne
  rcases enhance_ok _ _ _ hs with ⟨h0, _⟩ | ⟨_, hh, hsub, hv, _⟩
  · rcases h0 with h0 | h0
    · exact absurd h0 hne
    · unfold keysAt
      rw [h0]
      intro pre mid post a he
      simp at he
  · exact (validate_ok_iff _ (wf_gframe pl) gb hgnd hsub hne hh).mp hv l hl

/-- … and (non-empty frame, at least one displayed column) all its group_by names are displayed columns -/
theorem C13enc_group_columns_displayed (measure : Measure) (d : Doc) (pl : Plan) (hp : plan measure d = .ok pl)
    (gb : List Model.Encode.Str) (hgb : d.body.groupBy = some gb) (hrows : d.rows ≠ []) (hcols : pl.p.dispCols ≠ []) :
    ∀ g ∈ gb, g ∈ pl.p.dispCols := by
  intro g hg
  have hne : gb ≠ [] := List.ne_nil_of_mem hg
  obtain ⟨s, hs, _, _, hlen⟩ := group_setup hp hgb hne
  rcases enhance_ok _ _ _ hs with ⟨h0, _⟩ | ⟨_, _, hsub, _, _⟩
  · rcases h0 with h0 | h0
    · exact absurd h0 hne
    · unfold gframe at h0
      rw [height_toFrame _ hcols, hlen] at h0
      exact absurd (List.eq_nil_of_length_eq_zero h0) hrows
  · rw [← names_gframe]; exact hsub g hg

/-! ## non-vacuity -/

open Props.C01enc in
/-- five rows on two pages (`0,1,2 | 3,4`), grouped by column `a` whose value changes only at the last row -/
def exGrouped : Doc :=
  { exDoc [1, 2] with
    rows := [[some "x".toList, some "1".toList], [some "x".toList, some "2".toList], [some "x".toList, none],
             [some "x".toList, some "é".toList], [some "y".toList, some "5".toList]],
    page := { exPage with nrow := 5 },
    body := { (exDoc [1, 2]).body with groupBy := some ["a".toList] } }

open Props.C01enc in
/-- the same frame with a non-contiguous key sequence `x, y, x, …` -/
def exUnsorted : Doc :=
  { exGrouped with
    rows := [[some "x".toList, some "1".toList], [some "y".toList, some "2".toList], [some "x".toList, none],
             [some "x".toList, some "é".toList], [some "y".toList, some "5".toList]] }

set_option maxRecDepth 100000

open Props.C01enc in
/-- The encoder accepts the grouped example and renders it on two pages starting with rows 0 and 3; the rows it
renders blank the repeats of `x` on page 1 (rows 1, 2) and show `x` again at the first row of page 2 (row 3); the
hypotheses of the theorems (group_by present, unique names, rectangular frame) hold. -/
example :
    (match encode exMeasure exGrouped with | .ok _ => true | .error _ => false) = true ∧
    (match plan exMeasure exGrouped with
     | .ok pl => pl.ld.pages.map (fun pg => (pg.start, pg.height)) == [(0, 3), (3, 2)] &&
         pl.rows == [[some "x".toList, some "1".toList], [none, some "2".toList], [none, none],
                     [some "x".toList, some "é".toList], [some "y".toList, some "5".toList]] &&
         pl.p.dispCols == ["a".toList, "b".toList]
     | .error _ => false) = true ∧
    exGrouped.body.groupBy = some ["a".toList] ∧ ["a".toList].Nodup ∧ exGrouped.cols.Nodup ∧ Rect exGrouped := by
  refine ⟨by decide +kernel, by decide +kernel, rfl, by decide, by decide, ?_⟩
  intro r hr
  revert r
  decide

open Props.C01enc in
/-- the unsorted example is refused with `ValueError`, by the post-processing and by nothing before it -/
example :
    (match encode exMeasure exUnsorted with | .ok _ => false | .error e => e == "ValueError") = true ∧
    (match prepare exUnsorted with
     | .ok p => (match mkLDoc exMeasure exUnsorted p with | .ok _ => true | .error _ => false) &&
         !contigB (keysAt (toFrame p.dispCols p.dispRows) ["a".toList] 0)
     | .error _ => false) = true := by
  refine ⟨by decide +kernel, by decide +kernel⟩

end Props.C13enc
