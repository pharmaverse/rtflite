import Model.Encode
import Model.Layout
import Proofs.EncodeLift
import Proofs.EncodeLiftRows
import Props.C03
import Props.C01enc
/-!
# C03 for the whole-encoder model: no page exceeds the `nrow` row budget

`Props/C03.lean` proves the budget for `Layout.renderPage ld pg` of EVERY role-level document satisfying `LinesPos`.
Here the statement is about the pages the ENCODER renders (`Plan.pageBlocks` of `Proofs/EncodeLift.lean`: `encodePages`
renders exactly these block lists, `encodePages_eq` / `encodePages_trace`), with `nrow = d.page.nrow` and the deviations
D3 / D4 expressed on the document:

* `C03enc_lines_pos`   the `LDoc` of the encoder always satisfies `LinesPos` (`dataLines` starts from 1 and takes maxima),
                       so the hypothesis of C03 disappears;
* `C03enc_lines`       the line estimate of row `i` in `tableRows` is the encoder's own `dataLines` of the displayed cells
                       of row `i` against the body's cumulative widths;
* `C03enc_load`, `C03enc_budget`, `C03enc_partial`   the lifted theorems;
* `C03enc`             from `encode measure d = .ok g`;
* `C03enc_physical_rows`   on every page of the trace, the number of table rows actually written (`\trowd … \row`
                       elements, `Proofs.EncodeLiftRows.rowElems`) is at most `tableRows` of the page's blocks, hence
                       within the same budget.
-/
namespace Props.C03enc
open Model.Rtf Model.Emit Model.Encode Model.Broadcast Model.Layout Model.Paginate Proofs.EncodeLift
open Proofs.EncodeLiftRows (isRowElem rowElems weight rowElems_page)
open Props.C03 (tableRows dataIdx headingCount headingExcess autoHeaderExcess reservedHeadingRows LinesPos)

/-- D3 on the document: header objects without text, rendered from the column names, for which no row is reserved -/
def autoHeaderExcessDoc (d : Doc) : Nat :=
  if d.body.asColheader then (d.headers.filter (fun h => !headerHasText h)).length else 0

/-- `calculate_additional_rows_per_page` on the document: the subline_by heading, one row per header object with text,
footnote, source -/
def additionalDoc (d : Doc) : Nat :=
  (if !d.body.sublineByL.isEmpty then 1 else 0) + (d.headers.filter headerHasText).length +
  (if footComp d.footnote != .absent then 1 else 0) + (if footComp d.source != .absent then 1 else 0)

/-- every line estimate of the encoder is at least 1: C03's hypothesis always holds -/
theorem C03enc_lines_pos (measure : Measure) (d : Doc) (pl : Plan) (hp : plan measure d = .ok pl) :
    LinesPos pl.ld :=
  (plan_facts hp).lines_pos

/-- what `tableRows` counts for a data row is the encoder's own estimate: `dataLines` of the displayed cells of row `i`
with the processed attributes at row `i` against the cumulative widths, started from `(1, false)` -/
theorem C03enc_lines (measure : Measure) (d : Doc) (pl : Plan) (hp : plan measure d = .ok pl) (i : Nat)
    (hi : i < d.rows.length) :
    ∃ cells nr, pl.p.dispRows[i]? = some cells ∧
      dataLines measure pl.p.attrs i cells pl.p.cum 0 0 (1, false) = .ok (Props.C03.linesOf pl.ld i, nr) ∧
      1 ≤ Props.C03.linesOf pl.ld i := by
  have hf := plan_facts hp
  have hi' : i < pl.ld.rows.length := by rw [hf.length]; exact hi
  have hr : pl.ld.rows[i]? = some pl.ld.rows[i] := List.getElem?_eq_getElem hi'
  obtain ⟨_, cells, nr, _, h2, h3, _, _, h6⟩ := hf.row i _ hr
  refine ⟨cells, nr, h2, ?_, ?_⟩ <;> simp only [Props.C03.linesOf, hr, Option.map_some, Option.getD_some]
  · exact h3
  · exact h6

theorem C03enc_autoHeaderExcess (measure : Measure) (d : Doc) (pl : Plan) (hp : plan measure d = .ok pl) :
    autoHeaderExcess pl.ld = autoHeaderExcessDoc d := by
  have hf := plan_facts hp
  unfold autoHeaderExcess autoHeaderExcessDoc
  rw [hf.asColheader, hf.headers, List.filter_map, List.length_map]
  rfl

theorem C03enc_additional (measure : Measure) (d : Doc) (pl : Plan) (hp : plan measure d = .ok pl) :
    pl.ld.additional = additionalDoc d := by
  have hf := plan_facts hp
  unfold LDoc.additional additionalDoc
  rw [hf.hasSubline, hf.headers, hf.footnote, hf.source, List.filter_map, List.length_map]
  rfl

/-- greedy fill: the rows reserved for the data rows of a page the encoder renders fit the available rows
(`nrow` minus the per-page components), unless the page holds a single data row -/
theorem C03enc_load (measure : Measure) (d : Doc) (pl : Plan) (hp : plan measure d = .ok pl)
    (x : PageCtx × List Block) (hx : x ∈ pl.pageBlocks) :
    (((dataIdx x.2).map fun i => (pl.ld.meta[i]?.map (·.total)).getD 0).sum ≤
        availRows d.page.nrow (additionalDoc d)) ∨ (dataIdx x.2).length ≤ 1 := by
  obtain ⟨hpg, hbs⟩ := pageBlocks_mem hx
  have := Props.C03.C03_load pl.ld (C03enc_lines_pos measure d pl hp) x.1 hpg
  rw [hbs, ← C03enc_additional measure d pl hp, ← (plan_facts hp).nrow]
  exact this

/-- **the budget with the explained deviations**, for every page the encoder renders: the table rows of the page
(headers, headings, data rows with their line estimate, footnote / source as table) are at most `nrow` plus the D3 excess
(auto-populated headers) plus the D4 excess (heading rows beyond those reserved), unless the page holds one data row -/
theorem C03enc_budget (measure : Measure) (d : Doc) (pl : Plan) (hp : plan measure d = .ok pl)
    (x : PageCtx × List Block) (hx : x ∈ pl.pageBlocks) :
    tableRows pl.ld x.2 ≤ d.page.nrow + autoHeaderExcessDoc d + headingExcess pl.ld x.2 ∨
      (dataIdx x.2).length ≤ 1 := by
  obtain ⟨hpg, hbs⟩ := pageBlocks_mem hx
  have := Props.C03.C03_budget pl.ld (C03enc_lines_pos measure d pl hp) x.1 hpg
  rw [hbs, ← C03enc_autoHeaderExcess measure d pl hp, ← (plan_facts hp).nrow]
  exact this

/-- with explicit header texts (or no auto-population) and no spanning rows the full budget holds -/
theorem C03enc_partial (measure : Measure) (d : Doc) (pl : Plan) (hp : plan measure d = .ok pl)
    (hh : autoHeaderExcessDoc d = 0) (hsp : spanningDoc d = false)
    (x : PageCtx × List Block) (hx : x ∈ pl.pageBlocks) :
    tableRows pl.ld x.2 ≤ d.page.nrow ∨ (dataIdx x.2).length ≤ 1 := by
  obtain ⟨hpg, hbs⟩ := pageBlocks_mem hx
  have hf := plan_facts hp
  have := Props.C03.C03_partial pl.ld (C03enc_lines_pos measure d pl hp)
    (by rw [C03enc_autoHeaderExcess measure d pl hp]; exact hh) (by rw [spanning_eq hf]; exact hsp) x.1 hpg
  rw [hbs, ← hf.nrow]
  exact this

/-- sufficient conditions on the document for `C03enc_partial` -/
theorem C03enc_partial_hyps (d : Doc)
    (hh : d.body.asColheader = false ∨ ∀ h ∈ d.headers, headerHasText h = true)
    (hsp : d.body.pageByL = [] ∨ (d.body.newPage = true ∧ d.body.pagebyColumn = true)) :
    autoHeaderExcessDoc d = 0 ∧ spanningDoc d = false := by
  constructor
  · unfold autoHeaderExcessDoc
    rcases hh with h | h
    · simp [h]
    · split
      · rw [List.length_eq_zero_iff, List.filter_eq_nil_iff]
        intro a ha
        simp [h a ha]
      · rfl
  · unfold spanningDoc Body.pageByRemoved
    rcases hsp with h | ⟨h1, h2⟩
    · simp [h]
    · simp [h1, h2]

/-! ## the rows actually written -/

/-- `tableRows` is the sum of the blocks' weights (`Proofs.EncodeLiftRows.weight`) -/
theorem tableRows_eq (ld : LDoc) (bs : List Block) : tableRows ld bs = (bs.map (weight ld)).sum := by
  unfold tableRows
  congr 1

/-- **the rows actually written**: on every page of the trace, the number of table-row elements (`\trowd … \row`) is at
most `tableRows` of the page's blocks — every estimate counts at least the rows that are written -/
theorem C03enc_physical_rows (measure : Measure) (k : ColorCtx) (d : Doc) (pl : Plan) (R : Trace)
    (hp : plan measure d = .ok pl) (hR : Renders k d pl R) (x : PageCtx × List (Block × List Elem)) (hx : x ∈ R) :
    rowElems (pageElems x.2) ≤ tableRows pl.ld (x.2.map Prod.fst) := by
  rw [tableRows_eq]
  exact rowElems_page hp hR x hx

/-! ## from `encode measure d = .ok g` -/

/-- **C03 for the encoder model.**  For every accepted document there are a plan and a trace (the output is the
trace's elements joined by newlines) such that on every page of the trace the table rows written are at most
`tableRows` of the page's blocks, and `tableRows` is within `nrow` plus the two explained excess terms (D3, D4) unless
the page holds a single data row. -/
theorem C03enc (measure : Measure) (d : Doc) (g : DocG) (h : encode measure d = .ok g) :
    ∃ pl R, plan measure d = .ok pl ∧ Renders (mkColorCtx d) d pl R ∧
      g.blocks = joinElems R.elems ++ [BlockG.plain [Node.nl, Node.nl, Node.nl, Node.nl]] ∧
      ∀ x ∈ R,
        rowElems (pageElems x.2) ≤ tableRows pl.ld (x.2.map Prod.fst) ∧
        (tableRows pl.ld (x.2.map Prod.fst) ≤
            d.page.nrow + autoHeaderExcessDoc d + headingExcess pl.ld (x.2.map Prod.fst) ∨
          (dataIdx (x.2.map Prod.fst)).length ≤ 1) := by
  obtain ⟨pl, R, hp, hR, hg⟩ := encode_trace h
  refine ⟨pl, R, hp, hR, hg, ?_⟩
  intro x hx
  exact ⟨C03enc_physical_rows measure _ d pl R hp hR x hx, C03enc_budget measure d pl hp _ (hR.page_mem hx)⟩

/-- the same without excess terms when every header has its text and there are no spanning rows: at most `nrow` table
rows are written on every page that holds more than one data row -/
theorem C03enc_full_of_partial (measure : Measure) (d : Doc) (g : DocG) (h : encode measure d = .ok g)
    (hh : autoHeaderExcessDoc d = 0) (hsp : spanningDoc d = false) :
    ∃ pl R, plan measure d = .ok pl ∧ Renders (mkColorCtx d) d pl R ∧
      g.blocks = joinElems R.elems ++ [BlockG.plain [Node.nl, Node.nl, Node.nl, Node.nl]] ∧
      ∀ x ∈ R, rowElems (pageElems x.2) ≤ d.page.nrow ∨ (dataIdx (x.2.map Prod.fst)).length ≤ 1 := by
  obtain ⟨pl, R, hp, hR, hg⟩ := encode_trace h
  refine ⟨pl, R, hp, hR, hg, ?_⟩
  intro x hx
  rcases C03enc_partial measure d pl hp hh hsp _ (hR.page_mem hx) with h1 | h1
  · exact Or.inl (Nat.le_trans (C03enc_physical_rows measure _ d pl R hp hR x hx) h1)
  · exact Or.inr h1

/-! ## non-vacuity, and the known deviation D3 on the encoder -/

/-- the table-row elements the encoder writes on every page (the same calls as `encodePages`, `encodePages_eq`) -/
def pageRowCounts (measure : Measure) (d : Doc) : Except String (List Nat) := do
  let pl ← plan measure d
  pl.pageBlocks.mapM fun x => rowElems <$> Model.Encode.renderPage (mkColorCtx d) d pl.bodyA pl.p pl.rows x.1 x.2

open Props.C01enc in
/-- header with text, no page_by: the hypotheses of `C03enc_full_of_partial` hold; 7 rows, `nrow = 5` -/
def exDocFull : Doc :=
  { exDoc [1, 2] with
    rows := (List.range 7).map fun i => [some "x".toList, some (toString i).toList],
    headers := [some { text := some ["A".toList, "B".toList], colRelWidth := none, attrs := exTbl }],
    page := { exPage with nrow := 5, pageFootnote := .all, pageSource := .all },
    source := some { text := some "src".toList, asTable := true, colRelWidth := some [1], attrs := exTbl } }

open Props.C01enc in
/-- the same with the header auto-populated from the column names (D3: rendered but not reserved) -/
def exDocAuto : Doc :=
  { exDocFull with headers := [some { text := none, colRelWidth := none, attrs := exTbl }] }

set_option maxRecDepth 100000

open Props.C01enc in
/-- the encoder accepts `exDocFull`, its hypotheses hold, and every page is within `nrow = 5`:
header + 2 data rows + footnote + source -/
example :
    (match encode exMeasure exDocFull with | .ok _ => true | .error _ => false) = true ∧
    autoHeaderExcessDoc exDocFull = 0 ∧ spanningDoc exDocFull = false ∧
    (match pageRowCounts exMeasure exDocFull with | .ok l => l == [5, 5, 5, 4] | .error _ => false) = true := by
  refine ⟨by decide +kernel, by decide, by decide, by decide +kernel⟩

open Props.C01enc in
/-- D3 on the encoder (known finding, cf. `Props.C03.witnessAutoHeader_overflow`): with the header auto-populated
from the column names no row is reserved for it, three data rows are placed per page and the encoder WRITES six table
rows on a page with `nrow = 5` (header + 3 data rows + footnote + source); the excess term of `C03enc_budget` is 1 -/
theorem C03enc_witness_auto_header :
    (match encode exMeasure exDocAuto with | .ok _ => true | .error _ => false) = true ∧
    autoHeaderExcessDoc exDocAuto = 1 ∧ exDocAuto.page.nrow = 5 ∧
    (match pageRowCounts exMeasure exDocAuto with | .ok l => l == [6, 6, 4] | .error _ => false) = true := by
  refine ⟨by decide +kernel, by decide, rfl, by decide +kernel⟩

end Props.C03enc
