import Model.Widths
import Model.WidthsHist
import Proofs.Widths
import Generated.Constants
/-!
# C08 — all rows of a table share one right edge and proportional columns

Model: `Model.Widths` (`Utils._col_widths`, `inch_to_twip`, width resolution in
`RTFDocument.__init__`, slicing in `prepare_dataframe_for_body_encoding`, header widths in
`PageRenderer._render_column_headers` **as repaired** by commit e330431 (D9, DESIGN.md §8),
spanning rows, footnote/source rows).  Floats are exact rationals; `twip x = round(1440·x)`, ties to even.

All statements hold for width lists of any length and every positive table width.
-/
namespace Props.C08
open Model.Widths Model.WidthsHist Proofs.Widths

/-- the constant the model hard-wires is the one in `core/constants.py` (regenerated every run) -/
theorem C08_twips_per_inch : Generated.twipsPerInch = 1440 := by decide

/-! ## one right edge -/

/-- In exact arithmetic the last cumulative width IS the table width … -/
theorem C08_last_is_W (w : List Rat) (W : Rat) (hne : w ≠ []) (hp : AllPos w) :
    (colWidths w W).getLast? = some W :=
  colWidths_last w W hne hp

/-- … so the last `\cellx` of a row built from `colWidths w W` is `twip W`. -/
theorem C08_right_edge (w : List Rat) (W : Rat) (hne : w ≠ []) (hp : AllPos w) :
    ((colWidths w W).map twip).getLast? = some (twip W) :=
  getLast?_map_twip _ _ (C08_last_is_W w W hne hp)

/-! ## proportional columns -/

/-- Boundary `k` sits exactly at `W·(Σ_{i≤k} w_i)/Σw` inches, and its `\cellx` value is at most
half a twip away from `1440·W·(Σ_{i≤k} w_i)/Σw`. -/
theorem C08_boundary_proportional (w : List Rat) (W : Rat) (k : Nat) (c : Rat)
    (h : (colWidths w W)[k]? = some c) :
    c = sumQ (w.take (k + 1)) * W / sumQ w ∧
    ((twip c : Int) : Rat) - 1440 * W * sumQ (w.take (k + 1)) / sumQ w ≤ 1 / 2 ∧
    1440 * W * sumQ (w.take (k + 1)) / sumQ w - ((twip c : Int) : Rat) ≤ 1 / 2 := by
  have hc := colWidths_getElem? w W k c h
  have e : 1440 * W * sumQ (w.take (k + 1)) / sumQ w = c * 1440 := by
    rw [hc]; simp only [Rat.div_def]; grind
  rw [e]
  exact ⟨hc, round_near (c * 1440)⟩

/-- Boundaries in inches are strictly positive and strictly increasing; in twips they are never
negative and never decrease. -/
theorem C08_monotone (w : List Rat) (W : Rat) (hW : 0 < W) (hp : AllPos w) :
    (∀ c ∈ colWidths w W, 0 < c) ∧ List.Pairwise (· < ·) (colWidths w W) ∧
    (∀ t ∈ (colWidths w W).map twip, 0 ≤ t) ∧ List.Pairwise (· ≤ ·) ((colWidths w W).map twip) :=
  ⟨(colWidths_increasing w W hW hp).1, (colWidths_increasing w W hW hp).2,
   (twips_monotone w W hW hp).1, (twips_monotone w W hW hp).2⟩

/-- A boundary lying more than half a twip from the left edge has a strictly positive `\cellx`
(on C08's domain in `properties.jsonl` — relative widths in [0.2,10], ≤ 12 columns, W ≥ 2 in — the first boundary is at
least `2 · 0.2 / (0.2 + 11 · 10)` in, more than 5 twips). -/
theorem C08_positive (c : Rat) (h : 1 / 2 < c * 1440) : 0 < twip c :=
  round_pos h

/-! ## spanning rows, footnote / source rows -/

theorem C08_spanning_row (W : Rat) (hW : 0 < W) : spanRow W = [twip W] := by
  have : W ≠ 0 := by grind
  simp [spanRow, spanRowQ, this]

/-- footnote / source rendered as table, with ANY non-empty vector of positive widths (repo fix 'one cell spanning
the table': the cell ends at the last boundary; it used to end at the first one, see `C08enc`) -/
theorem C08_footnote_row_any (w : List Rat) (W : Rat) (hne : w ≠ []) (hp : AllPos w) : footRow w W = .ok [twip W] := by
  have hs : sumQ w ≠ 0 := by have := sumQ_pos w hne hp; grind
  simp [footRow, toTwips, footRowQ_eq w W hs]

/-- … in particular with a one-entry width vector (default `[1.0]`) -/
theorem C08_footnote_row (x W : Rat) (hx : 0 < x) : footRow [x] W = .ok [twip W] :=
  C08_footnote_row_any [x] W (List.cons_ne_nil _ _) fun _ hy => List.mem_singleton.mp hy ▸ hx

/-! ## headers line up with the data columns — after page_by / subline_by column removal -/

/-- A header that inherited the body's widths (one text cell per displayed column) has exactly the
data rows' boundary vector, for every body vector, every removal mask and every width (the two
computations are the same function, error cases included). -/
theorem C08_header_inherited_aligns (uw : Option (List Rat)) (ncol : Nat) (keep : List Bool) (W : Rat) :
    headerRow (inheritHeader none (resolveBody uw ncol)) keep (nDisplayed keep) W =
      dataRow (resolveBody uw ncol) keep W := by
  simp only [headerRow, dataRow, headerRowQ_inherited]

/-- The code before the repair (header keeps the pre-removal vector) violates this: 3 equal columns,
the first removed by page_by, W = 6.25 in: header `\cellx3000,6000`, data `\cellx4500,9000` (D9). -/
theorem C08_unrepaired_header_witness :
    headerRowOld (inheritHeader none (resolveBody none 3)) [false, true, true] 2 (25 / 4) = .ok [3000, 6000] ∧
    dataRow (resolveBody none 3) [false, true, true] (25 / 4) = .ok [4500, 9000] := by
  decide +kernel

/-! ## the whole section: every row kind, and the oracle used on the implementation -/

/-- For every well-formed section (consistent shapes, positive widths, ≥ 1 displayed column, W > 0)
the model produces rows, every one of them ends at `twip W`, and the decidable specification
`checkRows` (the oracle the harness evaluates on rtflite's real output, here with zero tolerance)
reports no violated clause: right edge, proportionality within one twip for data rows, alignment
of inherited headers. -/
theorem C08_section (s : Section) (h : WFSection s) :
    ∃ rows, sectionRows s = .ok rows ∧
      (∀ r ∈ rows, r.2.getLast? = some (twip s.W)) ∧
      checkRows 0 s.W (bodyProcessed (resolveBody s.userW s.ncol) s.keep) rows = [] := by
  obtain ⟨hs, f, g, e, hall, hkind⟩ := sectionRowsQ_ok s h
  let pw := bodyProcessed (resolveBody s.userW s.ncol) s.keep
  refine ⟨_, sectionRows_eq s _ e, ?_, ?_⟩
  · intro r hr
    simp only [twipRows, List.mem_map] at hr
    obtain ⟨q, hq, rfl⟩ := hr
    exact getLast?_map_twip _ _ (goodQ_last (hall q hq))
  · unfold checkRows
    have hdv : dataVecOf (twipRows (hs ++ [(Kind.span, [s.W]), (Kind.data, colWidths pw s.W)] ++ f ++ g))
        = some ((colWidths pw s.W).map twip) := by
      simp only [twipRows, List.map_append, List.append_assoc]
      rw [dataVecOf_append]
      · simp [dataVecOf]
      · intro r hr
        simp only [List.mem_map] at hr
        obtain ⟨q, hq, rfl⟩ := hr
        obtain ⟨j, b, hk⟩ := hkind q hq
        simp [hk]
    rw [hdv]
    apply checkFrom_nil_of_all
    intro r hr
    simp only [twipRows, List.mem_map] at hr
    obtain ⟨q, hq, rfl⟩ := hr
    exact rowViol_good 0 s.W pw q (hall q hq)

/-! ## history: configuration objects used by an earlier document -/

/-- A caller-owned body object is never written by a construction, so the widths each document gets
depend only on the object as the user configured it and on that document's own column count —
not on which documents were built with the object before. -/
theorem C08_history (obj : Option (List Rat)) (ns : List Nat) :
    constructMany obj ns = (ns.map (resolveBody obj), obj) := by
  induction ns with
  | nil => rfl
  | cons n ns ih => simp [constructMany, construct, ih]

/-- The code before 6e822b0 wrote the resolved vector back: a width-less body used for a 3-column and
then a 2-column frame gave the second document three widths, whose data rows stop at two thirds of W. -/
theorem C08_history_old_witness :
    let (_, obj') := constructOld none 3
    let (w2, _) := constructOld obj' 2
    w2 = [1, 1, 1] ∧ dataRow w2 [true, true] (25 / 4) = .ok [3000, 6000] := by
  decide +kernel

/-! ## sharing: one configuration object listed for several sections of one document -/

/-- Whatever body objects the sections of a multi-section document share (`rtf_body=[body] * n`, any pattern of
references into the store `objs`), every section holds the widths resolved from ITS object as the user configured it
and ITS OWN column count, and no object of the store is written. -/
theorem C08_sections_shared (objs : List (Option (List Rat))) (secs : List (Nat × Nat)) :
    constructSections objs secs = (secs.map fun s => resolveBody (objAt objs s.1) s.2, objs) := by
  induction secs generalizing objs with
  | nil => rfl
  | cons s rest ih =>
    obtain ⟨r, n⟩ := s
    have hset : objs.set r (objAt objs r) = objs := by
      by_cases hr : r < objs.length
      · simp [objAt, List.getD, hr]
      · exact List.set_eq_of_length_le (by omega)
    simp [constructSections, construct, hset, ih]

/-- … so the widths of section `j` depend only on that section's own object and column count: not on the other
sections, their column counts, or on which of them list the same object. -/
theorem C08_section_widths_own (objs : List (Option (List Rat))) (secs : List (Nat × Nat)) (j r n : Nat)
    (h : secs[j]? = some (r, n)) :
    (constructSections objs secs).1[j]? = some (resolveBody (objAt objs r) n) := by
  rw [C08_sections_shared]
  simp [List.getElem?_map, h]

/-- and every row kind of every such section ends at `twip W`: `C08_section` applies to each section with the widths the
construction hands it (`Section.userW` = the shared object's vector, `Section.ncol` = the section's own count). -/
theorem C08_sections_shared_rows (objs : List (Option (List Rat))) (secs : List (Nat × Nat)) (j r n : Nat)
    (h : secs[j]? = some (r, n)) (s : Section) (hu : s.userW = objAt objs r) (hn : s.ncol = n) (hwf : WFSection s) :
    (constructSections objs secs).1[j]? = some (resolveBody s.userW s.ncol) ∧
    ∃ rows, sectionRows s = .ok rows ∧ (∀ row ∈ rows, row.2.getLast? = some (twip s.W)) ∧
      checkRows 0 s.W (bodyProcessed (resolveBody s.userW s.ncol) s.keep) rows = [] := by
  refine ⟨?_, C08_section s hwf⟩
  rw [hu, hn]
  exact C08_section_widths_own objs secs j r n h

/-- What resolving once per DISTINCT object would do (not the code): one width-less body listed for a 4-column and a
2-column section hands the second section four widths; its data rows stop at half of W. -/
theorem C08_sections_memo_witness :
    constructSectionsMemo [none] [] [(0, 4), (0, 2)] = [[1, 1, 1, 1], [1, 1, 1, 1]] ∧
    dataRow [1, 1, 1, 1] [true, true] (25 / 4) = .ok [2250, 4500] ∧
    (constructSections [none] [(0, 4), (0, 2)]).1 = [[1, 1, 1, 1], [1, 1]] ∧
    dataRow [1, 1] [true, true] (25 / 4) = .ok [4500, 9000] := by
  decide +kernel

/-! ## history: a page object that was used, then re-configured -/

/-- Whatever a page object went through — documents encoded with it, `col_width` written or copy-updated, other options
written, plain copies — it holds the table width configured last, and the encoder has kept nothing on it: … -/
theorem C08_page_history (p : PageObj) (ops : List PageOp) :
    (pageRun p ops).colWidth = configuredWidth p.colWidth ops ∧ (pageRun p ops).kept = p.kept := by
  induction ops generalizing p with
  | nil => exact ⟨rfl, rfl⟩
  | cons o ops ih =>
    cases o with
    | setWidth w =>
      have := ih { p with colWidth := w }
      simpa [pageRun, pageStep, configuredWidth] using this
    | other => simpa [pageRun, pageStep, configuredWidth] using ih p
    | encode => simpa [pageRun, pageStep, configuredWidth] using ih p

/-- … so every row kind of the document encoded next (group spanning rows included) ends at the twips of the width
configured THEN, not of a width the object had when an earlier document used it. -/
theorem C08_page_history_rows (w0 : Rat) (ops : List PageOp) (s : Section)
    (hW : s.W = widthUsed (pageRun { colWidth := w0 } ops)) (hwf : WFSection s) :
    ∃ rows, sectionRows s = .ok rows ∧
      (∀ r ∈ rows, r.2.getLast? = some (twip (configuredWidth w0 ops))) ∧
      checkRows 0 (configuredWidth w0 ops) (bodyProcessed (resolveBody s.userW s.ncol) s.keep) rows = [] := by
  have hc : s.W = configuredWidth w0 ops := by
    rw [hW]; exact (C08_page_history { colWidth := w0 } ops).1
  rw [← hc]
  exact C08_section s hwf

/-- What keeping the table width on the object would do (not the code): a landscape page (8.5 in) encoded once, then
copy-updated to 9.5 in and encoded again lays the group spanning rows of the second document out at 12240 twips while
the configured width is 13680. -/
theorem C08_page_keep_witness :
    let ops := [PageOp.encode, PageOp.setWidth (19 / 2), PageOp.encode]
    spanRow (widthUsedKeep (pageRunKeep { colWidth := 17 / 2 } ops)) = [12240] ∧
    twip (configuredWidth (17 / 2) ops) = 13680 ∧
    spanRow (widthUsed (pageRun { colWidth := 17 / 2 } ops)) = [13680] ∧
    widthsAtEncodes (17 / 2) ops = [17 / 2, 19 / 2] := by
  decide +kernel

/-! ## non-vacuity -/

/-- 4 columns `[2, 1, 1.5, 0.5]`, the first removed by page_by, default header + explicit spanning
header with own widths, footnote and source as tables, portrait `col_width` 6.25. -/
example :
    sectionRows { ncol := 4, keep := [false, true, true, true], userW := some [2, 1, 3 / 2, 1 / 2],
                  headers := [⟨2, some [1, 2]⟩, ⟨3, none⟩], footW := some [1], srcW := some [1], W := 25 / 4 }
      = .ok [(Kind.header 0 false, [3000, 9000]), (Kind.header 1 true, [3000, 7500, 9000]),
             (Kind.span, [9000]), (Kind.data, [3000, 7500, 9000]),
             (Kind.foot, [9000]), (Kind.source, [9000])] := by
  decide +kernel

example : WFSection { ncol := 4, keep := [false, true, true, true], userW := some [2, 1, 3 / 2, 1 / 2],
                      headers := [⟨2, some [1, 2]⟩, ⟨3, none⟩], footW := some [1], srcW := some [1],
                      W := 25 / 4 } where
  keepLen := rfl
  disp := by decide
  Wpos := by decide +kernel
  user := by
    refine ⟨?_, Or.inr (Or.inl rfl)⟩
    intro x hx; simp at hx; rcases hx with rfl | rfl | rfl | rfl <;> decide +kernel
  headers := by
    intro h hh
    simp at hh
    rcases hh with rfl | rfl
    · refine ⟨?_, rfl, by decide⟩
      intro x hx; simp at hx; rcases hx with rfl | rfl <;> decide +kernel
    · rfl
  foot := fun fw h => ⟨1, by simpa using h.symm, by decide +kernel⟩
  src := fun fw h => ⟨1, by simpa using h.symm, by decide +kernel⟩

end Props.C08
