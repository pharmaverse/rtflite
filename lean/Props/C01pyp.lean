import Generated.PyParagraphFormatting
import Proofs.PyStr
import Proofs.Emit
import Model.Emit
import Model.Widths
/-!
# C01 — translator tie for the paragraph-formatting emitter

`Generated.Py.ParagraphFormatting.run` is regenerated on every run from the source of
`TextContent._get_paragraph_formatting` (`row.py`).  Proved here: the string it builds is the printed form of
`Model.Emit.paraFormat t` — the paragraph control words inside every `\pard …` the model emits — for every text whose
model format `t` records the hyphenation flag, the spacings, `int(space * 240)` when `space != 1`, the three indents
after their round trip through inches (`inch_to_twip(indent / 1440)`; `twip_of_twips`: with the model's `twip` on exact
rationals that round trip is the identity, which is why `Model.Encode.resolveText` passes the indents on unchanged) and
the control word of the justification code.  An unknown justification raises `ValueError`.
-/
namespace Props.C01pyp
open Model.Rtf Model.Emit Generated.Py Generated.Py.ParagraphFormatting Props.C01py Props.C01pyc

/-- an unknown justification: `ValueError` -/
theorem C01py_paragraph_unknown_justification (i2t tjc keys) (hyph : Bool) (sb sa space fi li ri : Int)
    (just : List Nat) (h : tjc just = none) :
    run i2t tjc keys hyph sb sa space fi li ri just = .error .ValueError := by
  simp only [ParagraphFormatting.run, h, Option.isNone_none, if_true, pure, Except.pure, bind, Except.bind]
  split <;> split <;> rfl

/-- **the translated `_get_paragraph_formatting` prints the model's paragraph format** -/
theorem C01py_paragraph_formatting_translated (i2t : Rat → Int) (tjc) (keys : List (List Nat)) (hyph : Bool)
    (sb sa space fi li ri : Int) (just : List Nat) (t : TextFmt)
    (hh : t.hyph = hyph) (hsb : t.sb = sb) (hsa : t.sa = sa)
    (hsl : t.sl = if space ≠ 1 then some (space * 240) else none)
    (hfi : t.fi = i2t ((fi : Rat) / 1440)) (hli : t.li = i2t ((li : Rat) / 1440))
    (hri : t.ri = i2t ((ri : Rat) / 1440))
    (hj : tjc just = some (codeText t.just)) :
    run i2t tjc keys hyph sb sa space fi li ri just = .ok (cps (printNodes (paraFormat t))) := by
  have e1 : cps "hyphpar".toList = [104, 121, 112, 104, 112, 97, 114] := by decide +kernel
  have e2 : cps "sb".toList = [115, 98] := by decide +kernel
  have e3 : cps "sa".toList = [115, 97] := by decide +kernel
  have e4 : cps "sl".toList = [115, 108] := by decide +kernel
  have e5 : cps "slmult".toList = [115, 108, 109, 117, 108, 116] := by decide +kernel
  have e6 : cps "fi".toList = [102, 105] := by decide +kernel
  have e7 : cps "li".toList = [108, 105] := by decide +kernel
  have e8 : cps "ri".toList = [114, 105] := by decide +kernel
  have e0 : strOfInt 0 = [48] := by decide +kernel
  have e9 : strOfInt 1 = [49] := by decide +kernel
  have ek : (((1440 : Int) : Int) : Rat) = 1440 := rfl
  rcases t with ⟨thyph, tsb, tsa, tsl, tfi, tli, tri, tjust, thp, tfont, tcol, tbg, tfmts⟩
  simp only at hh hsb hsa hsl hfi hli hri hj
  subst hh hsb hsa hsl hfi hli hri
  -- the two `if`s of the function: four paths, each a list of strings
  simp only [ParagraphFormatting.run, hj, Option.isNone_some, Bool.false_eq_true, if_false, pyDictGet, ek, pure,
    Except.pure, bind, Except.bind, pyJoin_nil]
  cases thyph <;> by_cases hs : space = 1 <;>
    simp only [hs, ne_eq, not_true_eq_false, not_false_eq_true, decide_true, decide_false, Bool.false_eq_true,
      if_false, if_true, paraFormat, cw0, cwi, cps_printNodes_cons, cps_cw, cps_optCw, e0, e1, e2, e3, e4, e5, e6, e7,
      e8, e9, List.flatten_cons, List.flatten_nil, List.nil_append, List.append_nil, List.append_assoc, List.cons_append]

/-- the model's `inch_to_twip` (`round(x * 1440)` on exact rationals) undoes the division by `TWIPS_PER_INCH`: the
indents arrive in the output as they are -/
theorem twip_of_twips (n : Int) : Model.Widths.twip ((n : Rat) / 1440) = n := by
  have h : (n : Rat) / 1440 * 1440 = n := Rat.div_mul_cancel (by decide)
  simp only [Model.Widths.twip, h, Model.Widths.roundHalfEven, Rat.floor_intCast, Rat.sub_self, Rat.mul_zero]
  have : (0 : Rat) < 1 := by decide
  simp [this]

end Props.C01pyp
