import Model.EncodeFigure
import Model.Figure
import Model.FigureSpec
import Proofs.EncodeFigure
import Proofs.EncodeFigureLift
import Proofs.RoundDouble
import Proofs.Figure
import Props.C16
import Props.C01encmore
/-!
# C16 for the figure-only encoder: figures are embedded byte-exactly, one per page, at the configured size

`Props/C16.lean` proves the property about the abstract model `Model/Figure.lean` (`encodeFigure`, `figureLoop`).  Here
it is stated about the ENCODER model `Model.EncodeFigure.encodeWithF` (byte-exact against `rtf_encode()` of a figure-only
document): for every `FDoc` the encoder accepts (`encodeWithF d = .ok (some g, n)`)

* `C16enc_structure`     the blocks of the document are the rendering (`renderPiece`: the encodings of the document's
                         own title / subline / footnote / source, the picture group, `\par`, `generate_page_break`) of
                         the abstract page loop `figureLoop (cfgOf d) picts`, followed by the closing newlines;
                         `picts[j] = pictOf fmt_j bytes_j (getDim widths j) (getDim heights j)` (`PictsOf`);
* `C16enc_blocks_by_page`  the same page by page: page `j` is the rendering of `pageBody`, followed by the page break
                         unless it is the last;
* `C16enc_pages`, `C16enc_page_count`, `C16enc_breaks`, `C16enc_page_j`, `C16enc_one_pict_in_order`
                         `figs.length` pages, figure `j` on page `j`, one picture per page, a page break between
                         consecutive figures and none after the last;
* `C16enc_pict`          the picture group of figure `j`: blip word of the format of its suffix, payload `hexLines bytes_j`
                         whose reader-side decoding is the file's bytes, `\picw\pich` from the header or the 96-dpi
                         fallback, `\picwgoal\pichgoal = ⌊roundDouble (inches · 1440)⌋`;
* `C16enc_pict_depends_only_on_position`  locality: the picture group of a position is a function of the format, bytes,
                         width and height of that position alone (two positions agreeing in these carry the same group;
                         nothing else listed, in particular no other occurrence of the same file, enters);
* `C16enc_pict_group`    how the picture is written: `\q? {\pict\<fmt>blip\picwN\pichN\picwgoalN\pichgoalN <hex lines>}`;
* `C16enc_goal_*`        the goal in doubles vs. the floor of the exact product (`Props.C16.C16_goal_floor`): equal or one
                         more; equal whenever the exact product is further than `q / 2^53` below the next integer
                         (`farBelow`), in particular whenever the oracle's `nearBelow` is false; always accepted by the
                         oracle's tolerance `goalOkTol`;
* `C16enc_dim_*`         sizes positional, last value reused;
* `C16enc_placement`     the title slot / subline / footnote / source are on page `j` exactly when their placement
                         selects it;
* `C16enc_doc_ok`        the complete C16 oracle `docOk` holds of what a reader observes of the encoder's piece sequence.
-/
namespace Props.C16enc
open Model.Rtf Model.Emit Model.Encode Model.EncodeFigure
open Model.Figure (Pict Piece Cfg figureLoop loopFrom pageParts pageBody getDim fmtOfSuffix blipWord hexLines unhex
  imageDims splitPages truncMul HeaderStates wantBlip goalOkTol nearBelow obsOfPict observe)
open Proofs.EncodeFigureLift
open Proofs.Figure (bodiesFrom)
open Proofs.RoundDouble (farBelow)

/-! ## the document as a rendering of the abstract page loop -/

/-- **structure of the figure-only document**: there is a figure, and the blocks are the pieces of the abstract page
loop — for the pictures `picts` (`PictsOf`: one per file in order, `pictOf` of the file's format and bytes at the size
`getDim` selects) — rendered with the document's own components, followed by the closing newlines -/
theorem C16enc_structure (d : FDoc) (g : DocG) (n : Nat) (h : encodeWithF d = .ok (some g, n)) :
    d.figs ≠ [] ∧ ∃ picts, PictsOf d picts ∧
      g.blocks = (figureLoop (cfgOf d) picts).flatMap (renderPiece d) ++ [BlockG.plain [Node.nl, Node.nl]] := by
  obtain ⟨h1, picts, h2, _, h4⟩ := encodeWithF_render h
  exact ⟨h1, picts, h2, h4⟩

theorem loopFrom_eq_flatMap (cfg : Cfg) (num : Nat) : ∀ (i : Nat) (ps : List Pict),
    loopFrom cfg num i ps = (ps.zipIdx i).flatMap fun x => pageParts cfg num x.2 x.1
  | _, [] => rfl
  | i, p :: ps => by
    rw [loopFrom, List.zipIdx_cons, List.flatMap_cons, loopFrom_eq_flatMap cfg num (i + 1) ps]

/-- page by page: the blocks of page `j` are the rendering of `pageBody … j picts[j]`, followed by the page break
(`generate_page_break`) unless `j` is the last page -/
theorem C16enc_blocks_by_page (d : FDoc) (g : DocG) (n : Nat) (h : encodeWithF d = .ok (some g, n)) :
    ∃ picts, PictsOf d picts ∧
      g.blocks = (picts.zipIdx.flatMap fun x =>
          (pageBody (cfgOf d) d.figs.length x.2 x.1).flatMap (renderPiece d) ++
            (if x.2 + 1 == d.figs.length then [] else breakBlocks d)) ++
        [BlockG.plain [Node.nl, Node.nl]] := by
  obtain ⟨_, picts, hP, hb⟩ := C16enc_structure d g n h
  refine ⟨picts, hP, ?_⟩
  rw [hb, figureLoop, loopFrom_eq_flatMap, hP.length, List.flatMap_assoc]
  congr 2
  funext x
  unfold pageParts
  rw [List.flatMap_append]
  congr 1
  cases (x.2 + 1 == d.figs.length) <;> simp [renderPiece]

/-! ## one figure per page, in order -/

/-- reading the piece sequence back page by page (pages = maximal page-break-free stretches) gives exactly the
per-figure page bodies -/
theorem C16enc_pages (d : FDoc) (picts : List Pict) (hP : PictsOf d picts) (hne : d.figs ≠ []) :
    splitPages (figureLoop (cfgOf d) picts) = bodiesFrom (cfgOf d) d.figs.length 0 picts := by
  rw [Props.C16.C16_pages (cfgOf d) picts (hP.ne_nil hne), hP.length]

/-- as many pages as figures -/
theorem C16enc_page_count (d : FDoc) (picts : List Pict) (hP : PictsOf d picts) (hne : d.figs ≠ []) :
    (splitPages (figureLoop (cfgOf d) picts)).length = d.figs.length := by
  rw [C16enc_pages d picts hP hne, Proofs.Figure.bodiesFrom_length, hP.length]

/-- `n` figures, `n − 1` page breaks: one between consecutive figures, none after the last -/
theorem C16enc_breaks (d : FDoc) (picts : List Pict) (hP : PictsOf d picts) (hne : d.figs ≠ []) :
    (figureLoop (cfgOf d) picts).count Piece.pageBreak + 1 = d.figs.length := by
  rw [Props.C16.C16_breaks (cfgOf d) picts (hP.ne_nil hne), hP.length]

/-- page `j` is the body built for figure `j` -/
theorem C16enc_page_j (d : FDoc) (picts : List Pict) (hP : PictsOf d picts) (j : Nat) (p : Pict)
    (hp : picts[j]? = some p) :
    (splitPages (figureLoop (cfgOf d) picts))[j]? = some (pageBody (cfgOf d) d.figs.length j p) := by
  obtain ⟨hj, rfl⟩ := List.getElem?_eq_some_iff.mp hp
  rw [Props.C16.C16_page_j (cfgOf d) picts j hj, hP.length]

/-- exactly one picture on page `j`, and it is the picture of figure `j` -/
theorem C16enc_one_pict_in_order (d : FDoc) (picts : List Pict) (hP : PictsOf d picts) (j : Nat) (f : FigFile)
    (hf : d.figs[j]? = some f) :
    ∃ fmt w h page, fmtOfSuffix f.suffix = some fmt ∧ getDim d.widths j = some w ∧ getDim d.heights j = some h ∧
      (splitPages (figureLoop (cfgOf d) picts))[j]? = some page ∧
      page = pageBody (cfgOf d) d.figs.length j (pictOf fmt f.bytes w h) ∧
      page.filterMap Model.Figure.pictOf = [obsOfPict (pictOf fmt f.bytes w h)] := by
  obtain ⟨fmt, w, h, h1, h2, h3, h4⟩ := hP.each j f hf
  refine ⟨fmt, w, h, _, h1, h2, h3, C16enc_page_j d picts hP j _ h4, rfl, ?_⟩
  have := Proofs.Figure.picts_pageBody (cfgOf d) d.figs.length j (pictOf fmt f.bytes w h)
  simpa [Model.Figure.obsPage] using this

/-! ## the picture group -/

/-- how a picture is written: the alignment word, then the group
`{\pict\<fmt>blip\picwN\pichN\picwgoalN\pichgoalN <hex lines>}` -/
theorem C16enc_pict_group (d : FDoc) (p : Pict) :
    renderPiece d (.pict p) =
      [BlockG.plain [cwSp (alignWord d.align),
        Node.grp ([cw0 "pict", Node.cw (blipWord p.fmt) none false, cwi "picw" p.picw, cwi "pich" p.pich,
                   cwi "picwgoal" p.wgoal, Node.cw "pichgoal".toList (some p.hgoal) true] ++ textNodes p.payload)]] :=
  rfl

/-- **the picture of figure `j`**: tagged with the blip word of the format of its suffix (the one the specification's
table `wantBlip` demands), payload = `hexLines` of the file's bytes — which an RTF reader decodes to exactly these
bytes —, pixel size from the image header when there is one and `int(inches * 96)` otherwise, display size
`int(inches * 1440)` with the products taken in IEEE doubles -/
theorem C16enc_pict (d : FDoc) (picts : List Pict) (hP : PictsOf d picts) (j : Nat) (f : FigFile)
    (hf : d.figs[j]? = some f) :
    ∃ fmt w h p, fmtOfSuffix f.suffix = some fmt ∧ getDim d.widths j = some w ∧ getDim d.heights j = some h ∧
      picts[j]? = some p ∧ p = pictOf fmt f.bytes w h ∧
      p.fmt = fmt ∧ wantBlip f.suffix = some (blipWord p.fmt) ∧
      p.payload = hexLines f.bytes ∧ ((∀ b ∈ f.bytes, b < 256) → unhex p.payload = some f.bytes) ∧
      (∀ t, imageDims fmt f.bytes = some t → p.picw = t.1 ∧ p.pich = t.2) ∧
      (imageDims fmt f.bytes = none → p.picw = truncFMul w 96 ∧ p.pich = truncFMul h 96) ∧
      p.wgoal = truncFMul w 1440 ∧ p.hgoal = truncFMul h 1440 := by
  obtain ⟨fmt, w, h, h1, h2, h3, h4⟩ := hP.each j f hf
  refine ⟨fmt, w, h, _, h1, h2, h3, h4, rfl, pictOf_fmt _ _ _ _, ?_, Proofs.EncodeFigure.pictOf_payload _ _ _ _, ?_,
    fun t ht => pictOf_pixels_some _ _ _ _ t ht, fun ht => pictOf_pixels_none _ _ _ _ ht,
    (pictOf_goals _ _ _ _).1, (pictOf_goals _ _ _ _).2⟩
  · rw [pictOf_fmt]; exact Proofs.Figure.wantBlip_of_fmt f.suffix fmt h1
  · intro hb
    rw [Proofs.EncodeFigure.pictOf_payload]
    exact Props.C16.C16_hex_roundtrip f.bytes hb

/-- **locality**: the picture group of a position depends on the format, the bytes, the width and the height of THAT
position only — not on what else is listed, not on whether the same file (path) stands at another position, not on the
number of figures.  Two positions, of one document (`d' = d`) or of two, that agree in these four carry the same picture
`p`; with the same `fig_align` the blocks written for it are identical.  (So a file listed twice with different sizes is
written twice, differently; a memo of picture groups under the path is not an instance of this model —
`Props.C16pos.C16_path_memo_not_positional`.) -/
theorem C16enc_pict_depends_only_on_position (d d' : FDoc) (picts picts' : List Pict) (hP : PictsOf d picts)
    (hP' : PictsOf d' picts') (j j' : Nat) (f f' : FigFile) (hf : d.figs[j]? = some f) (hf' : d'.figs[j']? = some f')
    (hfmt : fmtOfSuffix f.suffix = fmtOfSuffix f'.suffix) (hbytes : f.bytes = f'.bytes)
    (hw : getDim d.widths j = getDim d'.widths j') (hh : getDim d.heights j = getDim d'.heights j') :
    ∃ p, picts[j]? = some p ∧ picts'[j']? = some p ∧
      (d.align = d'.align → renderPiece d (.pict p) = renderPiece d' (.pict p)) := by
  obtain ⟨fmt, w, h, e1, e2, e3, e4⟩ := hP.each j f hf
  obtain ⟨fmt', w', h', e1', e2', e3', e4'⟩ := hP'.each j' f' hf'
  rw [hfmt, e1'] at e1
  rw [hw, e2'] at e2
  rw [hh, e3'] at e3
  injection e1 with e1
  injection e2 with e2
  injection e3 with e3
  subst e1 e2 e3
  refine ⟨_, e4, by rw [e4', hbytes], fun ha => ?_⟩
  rw [C16enc_pict_group, C16enc_pict_group, ha]

/-- pixel size when the file's header is valid for the format of its suffix and states `t` -/
theorem C16enc_pixels_from_header (sfx : List Char) (fmt : Model.Figure.Fmt) (bytes : List Nat) (t : Nat × Nat)
    (w h : Rat) (hf : fmtOfSuffix sfx = some fmt) (hs : HeaderStates sfx bytes t) :
    (pictOf fmt bytes w h).picw = t.1 ∧ (pictOf fmt bytes w h).pich = t.2 :=
  pictOf_pixels_some fmt bytes w h t (Proofs.Figure.imageDims_of_header sfx fmt bytes t hf hs)

/-- the encoder's picture, both cases at once: the pair written is the pair READ from the header — whatever its values,
`0` included — or, ONLY when the parser returns nothing, the 96-dpi estimate `int(inches * 96)` -/
theorem C16enc_pixels_read_or_fallback (fmt : Model.Figure.Fmt) (bytes : List Nat) (w h : Rat) :
    (∃ t, imageDims fmt bytes = some t ∧ (pictOf fmt bytes w h).picw = t.1 ∧ (pictOf fmt bytes w h).pich = t.2) ∨
    (imageDims fmt bytes = none ∧ (pictOf fmt bytes w h).picw = truncFMul w 96 ∧
      (pictOf fmt bytes w h).pich = truncFMul h 96) := by
  cases ht : imageDims fmt bytes with
  | none => exact Or.inr ⟨rfl, pictOf_pixels_none fmt bytes w h ht⟩
  | some t => exact Or.inl ⟨t, rfl, pictOf_pixels_some fmt bytes w h t ht⟩

/-- **the fallback is used only when the parser returns nothing**: if either number written differs from the number
read on that axis, nothing was read at all -/
theorem C16enc_fallback_only_when_unreadable (fmt : Model.Figure.Fmt) (bytes : List Nat) (w h : Rat)
    (hne : ∀ t, imageDims fmt bytes = some t → (pictOf fmt bytes w h).picw ≠ t.1 ∨ (pictOf fmt bytes w h).pich ≠ t.2) :
    imageDims fmt bytes = none := by
  cases ht : imageDims fmt bytes with
  | none => rfl
  | some t =>
    have := pictOf_pixels_some fmt bytes w h t ht
    rcases hne t ht with h1 | h2
    · exact absurd this.1 h1
    · exact absurd this.2 h2

/-- a header that states a zero dimension (JPEG frame header with `Y = 0` and the line count in a DNL segment; a PNG
IHDR with a zero field): the zero is written, next to the other axis' stated value -/
theorem C16enc_zero_height_stated (sfx : List Char) (fmt : Model.Figure.Fmt) (bytes : List Nat) (tw : Nat)
    (w h : Rat) (hf : fmtOfSuffix sfx = some fmt) (hs : HeaderStates sfx bytes (tw, 0)) :
    (pictOf fmt bytes w h).picw = tw ∧ (pictOf fmt bytes w h).pich = 0 :=
  C16enc_pixels_from_header sfx fmt bytes (tw, 0) w h hf hs

theorem C16enc_zero_width_stated (sfx : List Char) (fmt : Model.Figure.Fmt) (bytes : List Nat) (th : Nat)
    (w h : Rat) (hf : fmtOfSuffix sfx = some fmt) (hs : HeaderStates sfx bytes (0, th)) :
    (pictOf fmt bytes w h).picw = 0 ∧ (pictOf fmt bytes w h).pich = th :=
  C16enc_pixels_from_header sfx fmt bytes (0, th) w h hf hs

/-! ## the display size: IEEE doubles vs. the exact floor -/

/-- what the model computes: the exact product rounded to the nearest double (ties to even), then truncated -/
theorem C16enc_goal_def (w : Rat) (k : Nat) : truncFMul w k = (roundDouble (w * (k : Rat))).floor.toNat := rfl

/-- the exact floor `⌊w · k⌋` is `truncMul` on the exact value of the float — the value `Props.C16.C16_goal_floor`
characterises — for every positive size -/
theorem C16enc_goal_exact_floor (w : Rat) (hw : 0 < w) (k : Nat) :
    (w * (k : Rat)).floor = ((truncMul (Model.EncodeFigure.sizeOf w) k : Nat) : Int) ∧
    truncMul (Model.EncodeFigure.sizeOf w) k * w.den ≤ w.num.toNat * k ∧
    w.num.toNat * k < (truncMul (Model.EncodeFigure.sizeOf w) k + 1) * w.den :=
  ⟨Proofs.RoundDouble.floor_mul_eq_truncMul w hw k,
    Proofs.Figure.truncMul_floor (Model.EncodeFigure.sizeOf w) k w.den_pos⟩

/-- **the goal is the exact floor or one more** (positive size, product below `2^52`) -/
theorem C16enc_goal_bounds (w : Rat) (hw : 0 < w) (k : Nat) (hk : 0 < k) (hlt : w * (k : Rat) < pow2 52) :
    truncMul (Model.EncodeFigure.sizeOf w) k ≤ truncFMul w k ∧
      truncFMul w k ≤ truncMul (Model.EncodeFigure.sizeOf w) k + 1 :=
  Proofs.RoundDouble.truncFMul_bounds w hw k hk hlt

/-- **the goal IS the exact floor** `⌊inches · k⌋` whenever the exact product `q` is further than `q / 2^53` below the
next integer (`farBelow`, on natural numbers: `num·k < ((⌊q⌋ + 1)·den − num·k) · 2^53`) -/
theorem C16enc_goal_floor (w : Rat) (hw : 0 < w) (k : Nat) (hk : 0 < k) (hlt : w * (k : Rat) < pow2 52)
    (hfar : farBelow (Model.EncodeFigure.sizeOf w) k) :
    truncFMul w k = truncMul (Model.EncodeFigure.sizeOf w) k :=
  Proofs.RoundDouble.truncFMul_eq_of_far w hw k hk hlt hfar

/-- in particular whenever the oracle's `nearBelow` (within `2^-30` below an integer) is false and `q < 2^23` -/
theorem C16enc_goal_floor_of_not_near (w : Rat) (hw : 0 < w) (k : Nat) (hk : 0 < k) (hlt : w * (k : Rat) < pow2 23)
    (hnb : nearBelow (Model.EncodeFigure.sizeOf w) k = false) :
    truncFMul w k = truncMul (Model.EncodeFigure.sizeOf w) k :=
  Proofs.RoundDouble.truncFMul_eq_of_not_nearBelow w hw k hk hlt hnb

/-- the oracle's tolerance accepts the goal the encoder writes -/
theorem C16enc_goal_ok (w : Rat) (hw : 0 < w) (k : Nat) (hk : 0 < k) (hlt : w * (k : Rat) < pow2 23) :
    goalOkTol (Model.EncodeFigure.sizeOf w) k (truncFMul w k) = true :=
  Proofs.RoundDouble.goalOkTol_truncFMul w hw k hk hlt

/-- FINDING (known, DESIGN §6 float boundary): the goal is NOT always the floor of the exact product.  The double
nearest to `6.1` is `6.0999999999999996447…`; its exact product with 1440 is `8783.99999999999948…`, whose floor is
8783, but the double product is `8784.0` and `int()` gives 8784 -/
theorem C16enc_goal_finding :
    let w : Rat := 3433994715870003 / 562949953421312
    0 < w ∧ truncMul (Model.EncodeFigure.sizeOf w) 1440 = 8783 ∧ truncFMul w 1440 = 8784 ∧
      nearBelow (Model.EncodeFigure.sizeOf w) 1440 = true := by
  decide +kernel

/-! ## per-figure sizes -/

theorem C16enc_dim_positional (d : FDoc) (j : Nat) (h : j < d.widths.length) : getDim d.widths j = some d.widths[j] :=
  Props.C16.C16_dim_positional d.widths j h

theorem C16enc_dim_last_reused (d : FDoc) (j : Nat) (h : d.widths.length ≤ j) (hne : d.widths ≠ []) :
    getDim d.widths j = some (d.widths.getLast hne) :=
  Props.C16.C16_dim_last_reused d.widths j h hne

/-- an accepted document has at least one width and one height -/
theorem C16enc_dims_nonempty (d : FDoc) (g : DocG) (n : Nat) (h : encodeWithF d = .ok (some g, n)) :
    d.widths ≠ [] ∧ d.heights ≠ [] := by
  obtain ⟨hne, picts, hP, _⟩ := C16enc_structure d g n h
  obtain ⟨f, hf⟩ : ∃ f, d.figs[0]? = some f := by
    cases hfig : d.figs with
    | nil => exact absurd hfig hne
    | cons f _ => exact ⟨f, rfl⟩
  obtain ⟨_, w, hh, _, h2, h3, _⟩ := hP.each 0 f hf
  constructor
  · intro h0; rw [h0, Proofs.Figure.getDim_nil] at h2; cases h2
  · intro h0; rw [h0, Proofs.Figure.getDim_nil] at h3; cases h3

/-! ## placement of title, subline, footnote, source -/

/-- the title slot (title text and newline), the subline, the footnote and the source are on page `j` of `N` exactly
when their placement selects it: `first` ↔ `j = 0`, `last` ↔ `j + 1 = N`, `all` ↔ always; the subline follows
`page_title` -/
theorem C16enc_placement (d : FDoc) (N j : Nat) (p : Pict) :
    (Piece.title ∈ pageBody (cfgOf d) N j p ↔ d.page.pageTitle.shows (j == 0) (j + 1 == N) = true) ∧
    (Piece.subline ∈ pageBody (cfgOf d) N j p ↔
      (d.subline.isSome && d.page.pageTitle.shows (j == 0) (j + 1 == N)) = true) ∧
    (Piece.footnote ∈ pageBody (cfgOf d) N j p ↔
      (d.footnote.isSome && d.page.pageFootnote.shows (j == 0) (j + 1 == N)) = true) ∧
    (Piece.source ∈ pageBody (cfgOf d) N j p ↔
      (d.source.isSome && d.page.pageSource.shows (j == 0) (j + 1 == N)) = true) := by
  have := Props.C16.C16_placement (cfgOf d) N j p
  simpa only [cfgOf, shows_figPl, Bool.true_and] using this

/-- what the placed pieces are rendered to: the encodings of the document's own components (paragraph-style footnote
whatever `as_table` says), `\par` after the picture, `generate_page_break` between pages -/
theorem C16enc_render (d : FDoc) :
    renderPiece d .title = titleBlocks d ∧ renderPiece d .subline = sublineBlocks d ∧
    renderPiece d .footnote = footnoteBlocks d ∧ renderPiece d .source = sourceBlocks d ∧
    renderPiece d .par = [BlockG.plain [cwSp "par"]] ∧ renderPiece d .pageBreak = breakBlocks d :=
  ⟨rfl, rfl, rfl, rfl, rfl, rfl⟩

/-! ## the whole document against the oracle -/

/-- **the complete C16 oracle on the encoder**: for every accepted figure document with byte-valued files and positive
sizes below `2^23 / 1440` inches, what a reader observes of the piece sequence the encoder renders satisfies `docOk` —
as many pages as figures, on page `j` exactly one picture with the payload, blip word, pixel size (claimed when the
header is valid: `truths`) and display size (with the oracle's float tolerance) of figure `j`, and title / footnote /
source on exactly the pages selected -/
theorem C16enc_doc_ok (d : FDoc) (g : DocG) (n : Nat) (h : encodeWithF d = .ok (some g, n))
    (truths : List (Option (Nat × Nat))) (hlen : truths.length = d.figs.length)
    (hbytes : ∀ f ∈ d.figs, ∀ b ∈ f.bytes, b < 256)
    (hw : ∀ w ∈ d.widths, 0 < w ∧ w * ((1440 : Nat) : Rat) < pow2 23)
    (hh : ∀ h ∈ d.heights, 0 < h ∧ h * ((1440 : Nat) : Rat) < pow2 23)
    (htruth : ∀ (j : Nat) (f : FigFile) (t : Nat × Nat), d.figs[j]? = some f → truths[j]? = some (some t) →
      HeaderStates f.suffix f.bytes t) :
    ∃ picts, PictsOf d picts ∧
      g.blocks = (figureLoop (cfgOf d) picts).flatMap (renderPiece d) ++ [BlockG.plain [Node.nl, Node.nl]] ∧
      Model.Figure.docOk (cfgOf d) (wantsOf d truths) (observe (figureLoop (cfgOf d) picts)) = true := by
  obtain ⟨hne, picts, hP, hb⟩ := C16enc_structure d g n h
  refine ⟨picts, hP, hb, ?_⟩
  have hmain := pagesOk_encoder (cfgOf d) d.figs.length d.widths d.heights hw hh d.figs truths picts 0 hlen hP.length
    (fun j f hf => by rw [Nat.zero_add]; exact hP.each j f hf) hbytes htruth
  have hwl : (wantsOf d truths).length = d.figs.length := by
    have := Proofs.Figure.pagesOkFrom_length _ _ _ _ _ hmain
    rwa [List.length_map, Proofs.Figure.bodiesFrom_length, hP.length] at this
  unfold Model.Figure.docOk observe
  rw [C16enc_pages d picts hP hne, hwl]
  exact hmain

/-- **C16 for the figure-only encoder, all at once.**  For every accepted figure document: the blocks are the rendering
of the abstract page loop for the pictures `picts`; read back page by page there are as many pages as figures, with one
page break fewer; page `j` is the body of figure `j` and holds exactly one picture, `pictOf` of the format of the `j`-th
suffix, the `j`-th file's bytes (payload `hexLines`, decoded by a reader to the bytes) and the size `getDim` selects -/
theorem C16enc (d : FDoc) (g : DocG) (n : Nat) (h : encodeWithF d = .ok (some g, n)) :
    ∃ picts, PictsOf d picts ∧
      g.blocks = (figureLoop (cfgOf d) picts).flatMap (renderPiece d) ++ [BlockG.plain [Node.nl, Node.nl]] ∧
      (splitPages (figureLoop (cfgOf d) picts)).length = d.figs.length ∧
      (figureLoop (cfgOf d) picts).count Piece.pageBreak + 1 = d.figs.length ∧
      ∀ j f, d.figs[j]? = some f → ∃ fmt w h page, fmtOfSuffix f.suffix = some fmt ∧
        getDim d.widths j = some w ∧ getDim d.heights j = some h ∧
        (splitPages (figureLoop (cfgOf d) picts))[j]? = some page ∧
        page = pageBody (cfgOf d) d.figs.length j (pictOf fmt f.bytes w h) ∧
        page.filterMap Model.Figure.pictOf = [obsOfPict (pictOf fmt f.bytes w h)] ∧
        (pictOf fmt f.bytes w h).payload = hexLines f.bytes ∧
        ((∀ b ∈ f.bytes, b < 256) → unhex (pictOf fmt f.bytes w h).payload = some f.bytes) := by
  obtain ⟨hne, picts, hP, hb⟩ := C16enc_structure d g n h
  refine ⟨picts, hP, hb, C16enc_page_count d picts hP hne, C16enc_breaks d picts hP hne, ?_⟩
  intro j f hf
  obtain ⟨fmt, w, hh, page, h1, h2, h3, h4, h5, h6⟩ := C16enc_one_pict_in_order d picts hP j f hf
  refine ⟨fmt, w, hh, page, h1, h2, h3, h4, h5, h6, Proofs.EncodeFigure.pictOf_payload _ _ _ _, ?_⟩
  intro hbytes
  rw [Proofs.EncodeFigure.pictOf_payload]
  exact Props.C16.C16_hex_roundtrip f.bytes hbytes

/-! ## non-vacuity: two figures (a valid 3×2 PNG and a JPEG with a 5×4 frame header), sizes `[2.5]` × `[1, 3]`, title on
every page, footnote on the last page -/

open Props.C01enc in
def exFigDoc : FDoc :=
  { figs := [{ suffix := ".Png".toList, bytes := Props.C16.exPng }, { suffix := ".jpeg".toList, bytes := Props.C16.exJpeg }],
    widths := [5 / 2], heights := [1, 3], align := "center", page := { exPage with pageFootnote := .last },
    pageHeader := none, pageFooter := none,
    title := some { text := some ["Figure x^2".toList], attrs := exText }, subline := none,
    footnote := some { text := some "note é".toList, asTable := true, colRelWidth := some [1], attrs := exTbl },
    source := none, body := some exTbl, headers := [] }

/-- the encoder accepts the example; its pictures: pixel sizes from the two headers, goals `2.5·1440`, `1·1440`,
`3·1440`; two pages with one page break; the title on both pages, the footnote on the last -/
example :
    (match encodeWithF exFigDoc with
     | .ok (some g, _) =>
       g.blocks.length == 11 &&
       (g.blocks.filterMap fun b => match b with
          | BlockG.plain [_, Node.grp (_ :: Node.cw blip none false :: Node.cw _ (some pw) _ :: Node.cw _ (some ph) _ ::
              Node.cw _ (some wg) _ :: Node.cw _ (some hg) _ :: _)] => some (String.ofList blip, pw, ph, wg, hg)
          | _ => none) == [("pngblip", 3, 2, 3600, 1440), ("jpegblip", 5, 4, 3600, 4320)]
     | _ => false) = true ∧
    (figureLoop (cfgOf exFigDoc) [pictOf .png Props.C16.exPng (5 / 2) 1, pictOf .jpeg Props.C16.exJpeg (5 / 2) 3]).map
        (fun x => match x with
          | .title => 0 | .subline => 1 | .pict _ => 2 | .par => 3 | .footnote => 4 | .source => 5 | .pageBreak => 6) =
      [0, 2, 3, 6, 0, 2, 3, 4] := by
  refine ⟨by decide +kernel, by decide +kernel⟩

/-- the hypotheses of `C16enc_doc_ok` are satisfiable: the theorem applied to the example with the header truths
`3 × 2` and `5 × 4` -/
example : ∀ g n, encodeWithF exFigDoc = .ok (some g, n) →
    ∃ picts, PictsOf exFigDoc picts ∧
      g.blocks = (figureLoop (cfgOf exFigDoc) picts).flatMap (renderPiece exFigDoc) ++
        [BlockG.plain [Node.nl, Node.nl]] ∧
      Model.Figure.docOk (cfgOf exFigDoc) (wantsOf exFigDoc [some (3, 2), some (5, 4)])
        (observe (figureLoop (cfgOf exFigDoc) picts)) = true := by
  intro g n h
  apply C16enc_doc_ok exFigDoc g n h [some (3, 2), some (5, 4)] rfl
  · decide +kernel
  · decide +kernel
  · decide +kernel
  · intro j f t hf ht
    match j, hf, ht with
    | 0, hf, ht =>
      cases hf
      cases ht
      exact Or.inl ⟨by decide, Props.C16.exPng_valid⟩
    | 1, hf, ht =>
      cases hf
      cases ht
      exact Or.inr ⟨by decide, Props.C16.exJpeg_valid⟩
    | j + 2, hf, _ => simp [exFigDoc] at hf

end Props.C16enc
