import Model.Export
import Model.ExportSpec
import Proofs.Export
import Props.C18
/-!
# C18 — names as data: where the HTML resource folder goes, for an arbitrary target name

`Props/C18.lean` proves the success clause for an arbitrary converter answer `p`: the folder
`<p.name>_files` produced next to `p` ends up at `target.parent/<p.name>_files`.  Here the chain of
names is closed: the export names the intermediate RTF `<target stem>.rtf` (`rtfNameOf`), a converter
that names its output after its input (LibreOffice, `LibreOfficeConverter`, the harness stubs: `stubN`)
answers `<stem>.<fmt>`, hence for **every** target name `tname` — whatever its suffix, `.html`, `.htm`,
`.XHTML`, none, several, a hidden file — the folder is `target.parent/<stem tname>.<fmt>_files`.  The
folder's name is a function of the *converted* file's name; it is `<tname>_files` only when
`tname = <stem>.<fmt>` (`C18names_folder_is_tname_files_iff`).
-/
namespace Props.C18names
open Model.Export Proofs.Export

/-! ## `stem` -/

/-- `PurePath(x + "." + s).stem == x` for a non-empty `x` and a non-empty dot-free `s` -/
theorem C18names_stem_append (x s : Name) (hx : x ≠ []) (hs : s ≠ []) (h : '.' ∉ s) :
    stem (x ++ '.' :: s) = x := by
  simp [stem, splitLastDot_append x s h, hx, hs]

/-- the stem of a non-empty name is non-empty -/
theorem C18names_stem_ne_nil (n : Name) (h : n ≠ []) : stem n ≠ [] := by
  unfold stem
  split
  · split
    · rename_i h'
      exact h'.1
    · exact h
  · exact h

/-- the converter is handed `<stem>.rtf` and its stem is the target's stem again: whatever the target's
suffix was, the converted file is called `<target stem>.<fmt>` -/
theorem C18names_converted_name (tname : Name) (fmt : List Char) (dir : Path) (h : tname ≠ []) :
    convName fmt (dir ++ [rtfNameOf tname]) = stem tname ++ '.' :: fmt := by
  have : stem (rtfNameOf tname) = stem tname :=
    C18names_stem_append (stem tname) ['r', 't', 'f'] (C18names_stem_ne_nil tname h) (by simp) (by decide)
  simp [convName, this]

/-- … and the resource folder is named after the *converted* file -/
theorem C18names_folder_name (tname : Name) (fmt : List Char) (tA out dir : Path) (h : tname ≠ []) :
    resourcesOf (out ++ [convName fmt (tA ++ [rtfNameOf tname])])
      = out ++ [stem tname ++ '.' :: fmt ++ filesSuffix]
    ∧ resDst dir (out ++ [convName fmt (tA ++ [rtfNameOf tname])])
      = dir ++ [stem tname ++ '.' :: fmt ++ filesSuffix] := by
  rw [C18names_converted_name tname fmt tA h]
  simp [resourcesOf, resDst]

/-- the folder is called `<target name>_files` exactly when the target's name is `<stem>.<fmt>` — for
`report.htm`, `report.HTML`, `report` … it is *not* -/
theorem C18names_folder_is_tname_files_iff (tname : Name) (fmt : List Char) :
    stem tname ++ '.' :: fmt ++ filesSuffix = tname ++ filesSuffix ↔ tname = stem tname ++ '.' :: fmt := by
  constructor
  · intro h
    exact (List.append_cancel_right h).symm
  · intro h
    rw [← h]

example : stem "report.htm".toList = "report".toList ∧ stem "report".toList = "report".toList
    ∧ stem ".html".toList = ".html".toList ∧ stem "report.".toList = "report.".toList
    ∧ stem "a.b.HTML".toList = "a.b".toList ∧ stem "..html".toList = ".".toList := by decide +kernel

/-! ## the stub that names its output after its input -/

theorem C18names_stubN_confined (beh : Beh) (fmt : List Char) : Confined (stubN beh fmt) :=
  ⟨fun fs inp out => (Props.C18.C18_stub_confined beh fmt (convName fmt inp)).frame fs inp out,
    fun fs inp out => (Props.C18.C18_stub_confined beh fmt (convName fmt inp)).ret fs inp out⟩

/-! ## the success clause for an arbitrary target name -/

/-- **Success of `write_html` with a converter that names its output after its input, for every target
name.**  Let the intermediate RTF be named as the code names it (`P.Named`) and the converter be the
stub producing a resource folder.  If the call returns then, with `out := <stem tname>.<fmt>`:
1. the target holds the converter's bytes for the encoder's string (unless the target was a directory,
   or is itself called `out_files`);
2. `target.parent/out_files` — named after the **converted** file, next to the **target** — is a directory
   holding the converter's entries, and is at every relative path equal to the converter's folder
   (nothing stale, nothing nested);
3. every other path outside the two (removed) temporary directories is unchanged or a created ancestor
   directory: the folder is nowhere else;
4. both temporary directories are gone. -/
theorem C18names_html_success (k : Nat) (P : Params) (fs : Fs) (fmt : List Char)
    (hconv : P.conv = .ok (stubN .okRes fmt)) (hnamed : P.Named) (hhtml : P.html = true)
    (hne : P.tname ≠ []) (hN : NoClash P)
    (h : (writeConv k P fs).1 = .ok ()) :
    ∃ b fsc, P.enc = .ok b
      ∧ (fget fs P.target ≠ some .dir → stem P.tname ++ '.' :: fmt ++ filesSuffix ≠ P.tname →
          fget (writeConv k P fs).2.fs P.target = some (.file (stubBytes fmt b)))
      ∧ fget (writeConv k P fs).2.fs (P.dir ++ [stem P.tname ++ '.' :: fmt ++ filesSuffix]) = some .dir
      ∧ fget (writeConv k P fs).2.fs (P.dir ++ [stem P.tname ++ '.' :: fmt ++ filesSuffix, ['r', '.', 't', 'x', 't']])
          = some (.file ['r', 'e', 's', 'o', 'u', 'r', 'c', 'e'])
      ∧ fget (writeConv k P fs).2.fs (P.dir ++ [stem P.tname ++ '.' :: fmt ++ filesSuffix, ['s', 'u', 'b'], ['s', '.', 't', 'x', 't']])
          = some (.file ['n', 'e', 's', 't', 'e', 'd'])
      ∧ (∀ r, fget (writeConv k P fs).2.fs (P.dir ++ [stem P.tname ++ '.' :: fmt ++ filesSuffix] ++ r)
          = fget fsc (P.tmpRoot ++ [P.tB] ++ [stem P.tname ++ '.' :: fmt ++ filesSuffix] ++ r))
      ∧ (∀ q, under (P.tmpRoot ++ [P.tA]) q = false → under (P.tmpRoot ++ [P.tB]) q = false →
          under P.target q = false → under (P.dir ++ [stem P.tname ++ '.' :: fmt ++ filesSuffix]) q = false →
          Same fs P.dir (writeConv k P fs).2.fs q)
      ∧ (∀ q, (under (P.tmpRoot ++ [P.tA]) q = true ∨ under (P.tmpRoot ++ [P.tB]) q = true) →
          fget (writeConv k P fs).2.fs q = none) := by
  have hconf := confined_of_conv hconv (C18names_stubN_confined _ fmt)
  obtain ⟨c, b, p, fsIn, fsc, hC, hT, hR, hF, htemps⟩ := Props.C18.C18_conv_success k P fs hconf hN h
  obtain rfl := hC.conv_eq hconv
  have hrun := hC.run
  rw [hnamed] at hrun
  have hin := hC.input
  rw [hnamed] at hin
  obtain ⟨hp, hpf, hres⟩ := stubN_ok_run (Or.inr rfl) hin hrun
  obtain ⟨hrd, hr1, _, hr3⟩ := hres rfl
  obtain ⟨hres', hdst'⟩ := C18names_folder_name P.tname fmt (P.tmpRoot ++ [P.tA]) (P.tmpRoot ++ [P.tB]) P.dir hne
  rw [← hp] at hres' hdst'
  have key : ∀ r, fget (writeConv k P fs).2.fs (P.dir ++ [stem P.tname ++ '.' :: fmt ++ filesSuffix] ++ r)
      = fget fsc (P.tmpRoot ++ [P.tB] ++ [stem P.tname ++ '.' :: fmt ++ filesSuffix] ++ r) := by
    intro r
    rw [← hdst', ← hres']
    exact hR hhtml hrd r
  rw [hres'] at hrd hr1 hr3
  refine ⟨b, fsc, hC.enc, ?_, ?_, ?_, ?_, key, ?_, ?_⟩
  · intro hnd hcoll
    refine hT _ hpf hnd (fun _ => ?_)
    rw [hdst', Params.target]
    intro e
    exact hcoll (by simpa using e)
  · have := key []
    rw [List.append_nil, List.append_nil, hrd] at this
    exact this
  · have := key [['r', '.', 't', 'x', 't']]
    rw [hr1] at this
    simpa using this
  · have := key [['s', 'u', 'b'], ['s', '.', 't', 'x', 't']]
    rw [hr3] at this
    simpa using this
  · intro q hA hB hTq hRq
    exact hF q hA hB hTq (fun _ _ => by rw [hdst']; exact hRq)
  · intro q hq
    have hgone := Props.C18.C18_conv_temps_gone k P fs hconf hN
    rw [htemps] at hgone
    rcases hq with hq | hq
    · exact (hgone (P.tmpRoot ++ [P.tA]) (by simp)).2.2 q hq
    · exact (hgone (P.tmpRoot ++ [P.tB]) (by simp)).2.2 q hq

/-- the same for the target itself with any of the two succeeding stubs and any of the three converter
functions: the target holds the converter's output, whatever the target is called -/
theorem C18names_target_success (k : Nat) (P : Params) (fs : Fs) (fmt : List Char) (beh : Beh)
    (hbeh : beh = .okPlain ∨ beh = .okRes)
    (hconv : P.conv = .ok (stubN beh fmt)) (hN : NoClash P)
    (hnd : fget fs P.target ≠ some .dir)
    (hcoll : P.html = true → P.dir ++ [convName fmt (P.tmpRoot ++ [P.tA] ++ [P.rtfName]) ++ filesSuffix] ≠ P.target)
    (h : (writeConv k P fs).1 = .ok ()) :
    ∃ b, P.enc = .ok b ∧ fget (writeConv k P fs).2.fs P.target = some (.file (stubBytes fmt b)) := by
  have hconf := confined_of_conv hconv (C18names_stubN_confined _ fmt)
  obtain ⟨c, b, p, fsIn, fsc, hC, hT, _, _, _⟩ := Props.C18.C18_conv_success k P fs hconf hN h
  obtain rfl := hC.conv_eq hconv
  obtain ⟨hp, hpf, _⟩ := stubN_ok_run hbeh hC.input hC.run
  refine ⟨b, hC.enc, hT _ hpf hnd (fun hh => ?_)⟩
  rw [hp]
  simpa [resDst] using hcoll hh

/-! ## non-vacuity: a target called `o.htm` -/

section Examples
def w : Name := ['w']
def t : Name := ['t']
def oHtm : Name := ['o', '.', 'h', 't', 'm']
def html : List Char := ['h', 't', 'm', 'l']

/-- an old export at `w/o.htm`, its stale resource folder `w/o.html_files`, and an unrelated `w/o.htm_files` -/
def fsHtm : Fs :=
  [([t], .dir), ([w], .dir), ([w, oHtm], .file ['O']),
   ([w, ['o', '.', 'h', 't', 'm', 'l'] ++ filesSuffix], .dir),
   ([w, ['o', '.', 'h', 't', 'm', 'l'] ++ filesSuffix, ['s']], .file ['x']),
   ([w, oHtm ++ filesSuffix], .dir), ([w, oHtm ++ filesSuffix, ['m']], .file ['y'])]

def pHtm : Params where
  dir := [w]
  tname := oHtm
  tmpRoot := [t]
  tA := ['a']
  tB := ['b']
  rtfName := rtfNameOf oHtm
  enc := .ok ['R']
  explicitConv := true
  conv := .ok (stubN .okRes html)
  html := true

example : pHtm.Named := rfl

/-- `write_html("w/o.htm")` without fault (index 100 is past the last effect): the HTML is at `w/o.htm`, the folder at `w/o.html_files` (fresh: the stale entry is
gone), the bystander `w/o.htm_files` is untouched, no temporaries remain -/
example :
    isOk (writeConv 100 pHtm fsHtm).1 = true
    ∧ fget (writeConv 100 pHtm fsHtm).2.fs [w, oHtm] = some (.file ['h', 't', 'm', 'l', '<', 'R', '>'])
    ∧ fget (writeConv 100 pHtm fsHtm).2.fs [w, ['o', '.', 'h', 't', 'm', 'l'] ++ filesSuffix, ['r', '.', 't', 'x', 't']]
        = some (.file ['r', 'e', 's', 'o', 'u', 'r', 'c', 'e'])
    ∧ fget (writeConv 100 pHtm fsHtm).2.fs [w, ['o', '.', 'h', 't', 'm', 'l'] ++ filesSuffix, ['s']] = none
    ∧ fget (writeConv 100 pHtm fsHtm).2.fs [w, oHtm ++ filesSuffix, ['m']] = some (.file ['y'])
    ∧ fget (writeConv 100 pHtm fsHtm).2.fs [w, oHtm ++ filesSuffix, ['r', '.', 't', 'x', 't']] = none
    ∧ fget (writeConv 100 pHtm fsHtm).2.fs [t, ['a']] = none
    ∧ fget (writeConv 100 pHtm fsHtm).2.fs [t, ['b']] = none := by decide +kernel
end Examples

end Props.C18names
