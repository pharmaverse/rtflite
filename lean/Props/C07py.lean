import Generated.PyBorderDecision
import Props.C06py
import Model.Borders
import Model.Encode
/-!
# C07 — translator tie for the decisions of the border hierarchy

Two pieces of `pagination/processor.py` are regenerated from their source on every run (harness/pytranslate.py):

* `Generated.Py.BorderDecision.run` — the statements of `_apply_pagination_borders` from `has_footnote_on_page = …` to
  the end of `if not page.is_last_page: … elif document.rtf_page.border_last: …`: is a footnote / source shown on this
  page as a table row, and which style closes the page's table;
* `Generated.Py.FootnoteSourceBorders.run` — `_apply_footnote_source_borders`: which component takes that style
  (tied in `Props/C07pyc.lean`, so that either piece can leave the translated subset without taking the other's tie along).

This file proves that they are the decisions of `Model.Borders.applyBorders`, the function all C07 theorems are about:
`fnTableHere` / `srcTableHere` (as `Model.Encode.footTableHere` computes them), `closingStyle`, and the
`fnOverride` / `srcOverride` of the branch "a table-rendered component ends the page".  What lies between the two
pieces in the source — `if border_style:` and `if not (footnote_table_on_page or source_table_on_page):` — and the
matrix edits are NOT translated; they stay tied by C07's correspondence only.
-/
namespace Props.C07py
open Model.Borders Model.Layout Generated.Py

/-- code points of a model string -/
def codes (s : String) : List Nat := s.toList.map Char.toNat

theorem codes_eq_nil (s : String) : codes s = [] ↔ s = "" := by
  simp [codes, String.toList_eq_nil_iff]

/-- `bool(t)` for `t : Sequence[str] | None` -/
def seqTruthy (t : Option (List (List Nat))) : Bool :=
  match t with
  | some l => !l.isEmpty
  | none => false

/-! ## the decision fragment -/
open Generated.Py.BorderDecision

/-- `Model.Encode.footTableHere` in the vocabulary of the typed Python inputs: the component has text, is shown on this
page, and is rendered as a table -/
def tableHere (f : Option Foot) (pl : Placement) (isFirst isLast : Bool) : Bool :=
  match f with
  | some f => seqTruthy f.text && pl.shows isFirst isLast && f.as_table
  | none => false

/-- the style the fragment leaves in `border_style` (`v4`), before the `if border_style:` that follows it -/
def rawStyle (isLast : Bool) (bodyLast : List (List (List Nat))) (pageLast : Option (List Nat)) :
    Option (List Nat) :=
  if !isLast then (match bodyLast with
    | [] => none
    | r :: _ => r.head?)
  else (match pageLast with
    | none => none
    | some st => if st.isEmpty then none else some st)

/-- **the translated decision fragment**: for the three documented placements, every pair of components and every
border setting.  `v2` = `footnote_table_on_page`, `v3` = `source_table_on_page`, `v4` = `border_style` (side file
`Generated/PyBorderDecision.source.txt`).  The only exception is the `IndexError` of `border_last[0][0]` on an empty first
row (not constructible through `RTFBody`, whose `border_last` is a non-empty matrix). -/
theorem C07py_decision_translated (isFirst isLast : Bool) (fn src : Option Foot) (pf ps : Placement)
    (bodyLast : List (List (List Nat))) (pageLast : Option (List Nat))
    (hrow : isLast = false → bodyLast.head? ≠ some []) :
    ∃ s, run isFirst isLast fn src (C06py.name pf) (C06py.name ps) bodyLast pageLast = .ok s ∧
      s.v2 = tableHere fn pf isFirst isLast ∧ s.v3 = tableHere src ps isFirst isLast ∧
      s.v4 = rawStyle isLast bodyLast pageLast := by
  have hshow : ∀ p : Placement, ShouldShow.run (C06py.name p) isFirst isLast = p.shows isFirst isLast :=
    fun p => C06py.C06py_should_show_translated p isFirst isLast
  -- `v2`, `v3` depend on the components only and `v4` on the border settings only: the function is run once per
  -- border setting, with the components left as they are
  cases isLast with
  | false =>
    rcases bodyLast with _ | ⟨r, rest⟩
    · refine ⟨_, by simp only [run, hshow, bind, Except.bind, pure, Except.pure]; rfl, ?_, ?_, by simp [rawStyle]⟩
      · rcases fn with _ | ⟨_ | t, a⟩ <;> simp [tableHere, seqTruthy]
      · rcases src with _ | ⟨_ | t, a⟩ <;> simp [tableHere, seqTruthy]
    · rcases r with _ | ⟨x, xs⟩
      · exact absurd rfl (hrow rfl)
      · have hi : pyIndex (x :: xs) 0 = .ok x := by simp [pyIndex]
        refine ⟨_, by simp only [run, hshow, hi, bind, Except.bind, pure, Except.pure]; rfl, ?_, ?_,
          by simp [rawStyle]⟩
        · rcases fn with _ | ⟨_ | t, a⟩ <;> simp [tableHere, seqTruthy]
        · rcases src with _ | ⟨_ | t, a⟩ <;> simp [tableHere, seqTruthy]
  | true =>
    rcases pageLast with _ | st
    · refine ⟨_, by simp only [run, hshow, bind, Except.bind, pure, Except.pure]; rfl, ?_, ?_, by simp [rawStyle]⟩
      · rcases fn with _ | ⟨_ | t, a⟩ <;> simp [tableHere, seqTruthy]
      · rcases src with _ | ⟨_ | t, a⟩ <;> simp [tableHere, seqTruthy]
    · cases hst : st.isEmpty
      all_goals
        refine ⟨_, by simp only [run, hshow, hst, bind, Except.bind, pure, Except.pure]; rfl, ?_, ?_,
          by simp [rawStyle, hst]⟩
        · rcases fn with _ | ⟨_ | t, a⟩ <;> simp [tableHere, seqTruthy]
        · rcases src with _ | ⟨_ | t, a⟩ <;> simp [tableHere, seqTruthy]

/-- the model's `closingStyle` is the fragment's style once the `if border_style:` that follows has dropped an empty
one: for every `BorderIn` whose `isLast`, `bodyLast`, `pageLast` say what the Python values say -/
theorem C07py_closing_style (b : BorderIn) (pageLast : Option (List Nat))
    (hp : pageLast.getD [] = codes b.pageLast) :
    (closingStyle b).map codes =
      (rawStyle b.isLast (b.bodyLast.map (·.map codes)) pageLast).filter (fun st => !st.isEmpty) := by
  unfold closingStyle rawStyle bodyLastStyle
  cases b.isLast with
  | false =>
    rcases hb : b.bodyLast with _ | ⟨r, rest⟩
    · simp
    · rcases r with _ | ⟨x, xs⟩
      · simp
      · by_cases hx : x = ""
        · simp [hx, codes, Option.filter]
        · have : codes x ≠ [] := fun h => hx ((codes_eq_nil x).1 h)
          simp [hx, this, Option.filter]
  | true =>
    rcases pageLast with _ | st
    · have : b.pageLast = "" := (codes_eq_nil _).1 (by simpa using hp.symm)
      simp [this]
    · have hst : st = codes b.pageLast := by simpa using hp
      by_cases hx : b.pageLast = ""
      · simp [hst, hx, codes, Option.filter]
      · have : codes b.pageLast ≠ [] := fun h => hx ((codes_eq_nil _).1 h)
        simp [hst, hx, this, Option.filter]

/-- a footnote / source of the encoder model as the typed Python input (its text is one `str` after construction: the
sequence of its characters) -/
def pyFoot (f : Option Model.Encode.Foot) : Option Foot :=
  f.map fun f => ⟨f.text.map (·.map fun c => [c.toNat]), f.asTable⟩

/-- `fnTableHere` / `srcTableHere` as the whole-encoder model fills them in (`Model.Encode.footTableHere`) are the
fragment's `footnote_table_on_page` / `source_table_on_page` -/
theorem C07py_table_here_encoder (f : Option Model.Encode.Foot) (pl : Placement) (isFirst isLast : Bool) :
    Model.Encode.footTableHere f pl isFirst isLast = tableHere (pyFoot f) pl isFirst isLast := by
  rcases f with _ | ⟨_ | t, a, w, at'⟩ <;>
    simp [Model.Encode.footTableHere, tableHere, pyFoot, seqTruthy, Model.Encode.placementOf]

example : run true false (some ⟨some [[70]], true⟩) none (C06py.name .all) (C06py.name .last)
    [[[100]]] (some [120]) =
    .ok { v0 := true, v1 := false, v2 := true, v3 := false, v4 := some [100] } := by rfl

end Props.C07py
