import Generated.PyPageBreak
import Generated.PyPageMargin
import Props.C06pym
/-!
# C06 — translator tie for the page break

`Generated.Py.PageBreak.run` is regenerated on every run from `RTFEncodingService.encode_page_break`; the margin
encoder it is handed is a parameter.  Proved here: with the translated `encode_page_margin` of the same page in that
place — what `RTFDocumentService.generate_page_break` passes — the string is the printed `Model.Encode.pageBreak pg`:
the two tiny paragraphs around `\page`, the paper size, the margins.  An exception of the margin encoder propagates.
-/
-- the `simp` sets below serve several cases at once, or every way the regenerated function may be cut into steps: a
-- lemma that one of them does not call for is not a defect
set_option linter.unusedSimpArgs false
namespace Props.C06pyb
open Model.Rtf Model.Emit Model.Encode Generated.Py Generated.Py.PageBreak Props.C01py Props.C01pyc

/-- the paper-size words, as the page break and the document start both write them -/
def paperStr (i2t : Rat → Int) (width height : Rat) : List Nat :=
  cps ('\\' :: "paperw".toList) ++ strOfInt (i2t width) ++ cps ('\\' :: "paperh".toList) ++ strOfInt (i2t height)

/-- `{\pard\fs2\par}\page{\pard\fs2\par}` and a newline -/
def breakStr : List Nat := cps "{\\pard\\fs2\\par}\\page{\\pard\\fs2\\par}\n".toList

/-- what the function computes, for every margin encoder that returns -/
theorem run_eq (i2t : Rat → Int) (width height : Rat) (ms : List Nat) :
    run i2t (.ok ms) width height = .ok (breakStr ++ paperStr i2t width height ++ [10, 10] ++ ms ++ [10]) := by
  -- both sides are normalised to explicit code points, so the proof does not depend on how the source cuts the
  -- string into literals
  simp [PageBreak.run, bind, Except.bind, pure, Except.pure, breakStr, paperStr, cps]

/-- an exception of the margin encoder leaves the function -/
theorem C06py_page_break_margin_error (i2t : Rat → Int) (width height : Rat) (e : Exc) :
    run i2t (.error e) width height = .error e := by
  simp [PageBreak.run, bind, Except.bind]

/-- **the translated `encode_page_break`, given the translated margin encoder of the same page, prints the model's page
break** -/
theorem C06py_page_break_translated (pg : Page) (h6 : pg.margin.length = 6) :
    ∃ ns, pageBreak pg = .ok ns ∧
      run Model.Encode.twip (PageMargin.run Model.Encode.twip pg.margin) pg.width pg.height =
        .ok (cps (printNodes ns)) := by
  obtain ⟨ms, hms, hrun⟩ := C06pym.C06py_page_margin_translated pg h6
  refine ⟨_, by simp only [pageBreak, hms, bind, Except.bind, pure, Except.pure]; rfl, ?_⟩
  rw [hrun, run_eq]
  have d2 : intDigits 2 = ['2'] := by decide
  simp [d2, breakStr, paperStr, Proofs.Emit.printNodes_append, cps_append, printNodes, printNode, cw0, cwi, cps,
    strOfInt_digits, List.map_append]

end Props.C06pyb
