import Model.GroupBy
import Model.GroupBySpec
import Proofs.GroupBy
/-!
# C13 — group_by blanks only true repeats and restores context on each page

Model: `Model.GroupBy` (= `GroupingService.enhance_group_by`, `restore_page_context`,
`validate_data_sorting`, and the page-start / slicing part of `_apply_data_post_processing`), of the
code **with** the repairs 3517f74 (null-aware suppression on the original data: D17, D31 of DESIGN.md §8) and
36bfff8 (value-tuple keys in the validator: D32).  The behaviour before the repairs is `Model.GroupBy.Legacy`; the
last section shows by concrete witnesses that it violates the property (D17, D17b = D31, key collisions = D32).

Notation: `df` the frame handed to the service (all columns of one height, `WF`), `gb` the group_by
columns (distinct names), `gcols = gb.map (getCol df)` the original group columns in level order,
`starts` any list of page-start indices, `heights` any list of page heights.
A cell is `none` (null — rendered as the empty text, like a blanked cell) or `some text`.
-/
namespace Props.C13
open Model.GroupBy Proofs.GroupBy

/-! ## (a) the cell clause: blank exactly for a true repeat that is not a page's first row,
the original value otherwise -/

/-- Every cell of every group_by level, for every frame, every number of levels, every set of
page-start indices: the restored frame holds exactly the cell the specification demands
(`expectedCell`: `none` iff the hierarchical key up to this level equals the previous row's — null
being a value of its own — and the row does not start a page; the original cell otherwise). -/
theorem C13_cells (df : Frame) (wf : WF df) (gb : List Str) (hnd : gb.Nodup) (starts : List Nat)
    (s : Frame) (h : enhanceGroupBy df gb = .ok s) (l : Nat) (hl : l < gb.length) (i : Nat)
    (hi : i < height df) :
    cellAt (getCol (restorePageContext s df gb starts) gb[l]) i =
      expectedCell (gb.map (getCol df)) starts l i :=
  cellAt_restored df wf gb hnd starts s h l hl i hi

/-- The statement's "exactly when", at the level of what the reader sees: a cell whose original
text is not empty is rendered blank iff it is a true repeat and not the first data row of a page. -/
theorem C13_blank_iff (df : Frame) (wf : WF df) (gb : List Str) (hnd : gb.Nodup) (starts : List Nat)
    (s : Frame) (h : enhanceGroupBy df gb = .ok s) (l : Nat) (hl : l < gb.length) (i : Nat)
    (hi : i < height df) (hne : display (cellAt (getCol df gb[l]) i) ≠ []) :
    display (cellAt (getCol (restorePageContext s df gb starts) gb[l]) i) = [] ↔
      (isRepeat (gb.map (getCol df)) l i = true ∧ isPageStart starts i = false) := by
  rw [C13_cells df wf gb hnd starts s h l hl i hi]
  constructor
  · intro hd
    apply Decidable.byContradiction
    intro hno
    rw [expectedCell_of_shown _ _ _ _ hno, getD_groupCols df gb l hl] at hd
    exact hne hd
  · intro hb
    rw [expectedCell_of_blank _ _ _ _ hb]
    rfl

/-- … and in every other case the cell shows the original value unchanged. -/
theorem C13_shown_otherwise (df : Frame) (wf : WF df) (gb : List Str) (hnd : gb.Nodup)
    (starts : List Nat) (s : Frame) (h : enhanceGroupBy df gb = .ok s) (l : Nat) (hl : l < gb.length)
    (i : Nat) (hi : i < height df)
    (hno : ¬ (isRepeat (gb.map (getCol df)) l i = true ∧ isPageStart starts i = false)) :
    cellAt (getCol (restorePageContext s df gb starts) gb[l]) i = cellAt (getCol df gb[l]) i := by
  rw [C13_cells df wf gb hnd starts s h l hl i hi, expectedCell_of_shown _ _ _ _ hno, getD_groupCols df gb l hl]

/-- the first data row of every page after the first is among the page-start indices computed from
the page heights (so (a) restores the context there) -/
theorem C13_page_first_rows_are_starts (heights : List Nat) (p : Nat) (hp : p < heights.length)
    (hpos : 0 < p) : (heights.take p).sum ∈ pageStarts heights :=
  (mem_pageStartsAux_iff heights 0 false _).mpr ⟨p, hp, Or.inr hpos, (Nat.zero_add _).symm⟩

/-! ## (b) columns not named in group_by are untouched -/

theorem C13_others_untouched (df : Frame) (gb : List Str) (starts : List Nat) (s : Frame)
    (h : enhanceGroupBy df gb = .ok s) (m : Str) (hm : m ∉ gb) :
    getCol (restorePageContext s df gb starts) m = getCol df m :=
  getCol_restored_other df gb starts s h m hm

/-- no column is added, dropped, renamed or moved -/
theorem C13_column_names_kept (df : Frame) (gb : List Str) (starts : List Nat) (s : Frame)
    (h : enhanceGroupBy df gb = .ok s) :
    names (restorePageContext s df gb starts) = names df := by
  rcases enhance_ok df gb s h with ⟨h0, hs⟩ | ⟨_, _, hsub, _, hs⟩
  · subst hs
    rcases h0 with h0 | h0
    · subst h0; simp [restorePageContext]
    · -- empty frame: restoration has no index below the height
      rw [restorePageContext_eq]
      apply List.foldlRecOn (motive := fun r => names r = names s) starts _ rfl
      intro r hr x _
      rw [restoreOne, if_neg (by omega), hr]
  · subst hs
    have hn := names_suppressHier df gb hsub
    rw [names_restorePageContext _ _ _ _ (fun g hg => by rw [hn]; exact hsub g hg), hn]

/-! ## (c) filling blanks downward within a page reconstructs the column -/

/-- the slice of a column that page `p` shows -/
def pageOf (c : Col) (heights : List Nat) (p : Nat) : Col := (splitCol c heights).getD p []

theorem pageOf_eq (c : Col) (heights : List Nat) (p : Nat) (hp : p < heights.length) :
    pageOf c heights p = (c.drop (heights.take p).sum).take heights[p] := by
  simp [pageOf, List.getD, splitCol_getElem? heights c p hp]

/-- Per page (any page heights), per level: fill-down of the rendered slice gives back every
non-null original cell; the only cells not reconstructed are original nulls, which no renderer that
shows null as blank can distinguish from a blank. -/
theorem C13_filldown_page (df : Frame) (wf : WF df) (gb : List Str) (hnd : gb.Nodup)
    (heights : List Nat) (s : Frame) (h : enhanceGroupBy df gb = .ok s) (l : Nat) (hl : l < gb.length)
    (p : Nat) (hp : p < heights.length) :
    let shown := pageOf (getCol (restorePageContext s df gb (pageStarts heights)) gb[l]) heights p
    let orig := pageOf (getCol df gb[l]) heights p
    (fillDown shown).length = orig.length ∧
      ∀ j, cellAt orig j ≠ none → cellAt (fillDown shown) j = cellAt orig j := by
  intro shown orig
  simp only [shown, orig, pageOf_eq _ heights p hp]
  apply segment_fill df wf gb hnd (pageStarts heights) s h l hl
  cases p with
  | zero => left; simp
  | succ p => right; exact C13_page_first_rows_are_starts heights (p + 1) hp (by omega)

/-- "reconstructs the column exactly": when the group column holds no null, fill-down of each page's
rendered slice **is** the original slice. -/
theorem C13_filldown_exact (df : Frame) (wf : WF df) (gb : List Str) (hnd : gb.Nodup)
    (heights : List Nat) (s : Frame) (h : enhanceGroupBy df gb = .ok s) (l : Nat) (hl : l < gb.length)
    (p : Nat) (hp : p < heights.length) (hnn : ∀ x ∈ getCol df gb[l], x ≠ none) :
    fillDown (pageOf (getCol (restorePageContext s df gb (pageStarts heights)) gb[l]) heights p) =
      pageOf (getCol df gb[l]) heights p := by
  have := C13_filldown_page df wf gb hnd heights s h l hl p hp
  apply fill_all_nonnull _ _ this.1 this.2
  intro x hx
  apply hnn
  rw [pageOf_eq _ heights p hp] at hx
  exact List.mem_of_mem_drop (List.mem_of_mem_take hx)

/-! ## (d) non-contiguous keys are rejected with ValueError (and only those) -/

/-- For a non-empty frame and at least one group column: `enhance_group_by` raises `ValueError`
iff at some level the hierarchical keys (null a value of its own) are not contiguous, i.e. some key
occurs, is interrupted by a different key, and occurs again. -/
theorem C13_rejects_exactly_noncontiguous (df : Frame) (wf : WF df) (gb : List Str) (hnd : gb.Nodup)
    (hsub : ∀ g ∈ gb, g ∈ names df) (hne : gb ≠ []) (hh : height df ≠ 0) :
    enhanceGroupBy df gb = .error .valueError ↔
      ¬ ∀ l, l < gb.length → Contiguous (keysAt df gb l) :=
  enhance_error_iff df wf gb hnd hsub hne hh

/-- the rejection reaches the encoder: no page data is produced -/
theorem C13_postProcess_rejects (df : Frame) (wf : WF df) (gb : List Str) (hnd : gb.Nodup)
    (hsub : ∀ g ∈ gb, g ∈ names df) (hne : gb ≠ []) (hh : height df ≠ 0) (heights : List Nat)
    (hnc : ¬ ∀ l, l < gb.length → Contiguous (keysAt df gb l)) :
    postProcess df gb heights = .error .valueError := by
  have := (enhance_error_iff df wf gb hnd hsub hne hh).mpr hnc
  simp [postProcess, restored, hne, this]

/-- the decidable form used by the run-time oracle is the same predicate -/
theorem C13_contigB_iff {α : Type} [DecidableEq α] (ks : List α) : contigB ks = true ↔ Contiguous ks :=
  contigB_iff ks

/-! ## (e) what the pages get: slices of the restored frame -/

/-- the group column that page `p` of `_apply_data_post_processing` carries is the page's slice of
the restored column — so (a)–(c) speak about what each page renders -/
theorem C13_pages_are_slices (df : Frame) (gb : List Str) (hne : gb ≠ []) (heights : List Nat)
    (pages : List Frame) (h : postProcess df gb heights = .ok pages) (p : Nat)
    (hp : p < heights.length) (m : Str) :
    ∃ s, enhanceGroupBy df gb = .ok s ∧
      getCol (pages.getD p []) m =
        pageOf (getCol (restorePageContext s df gb (pageStarts heights)) m) heights p := by
  unfold postProcess restored at h
  simp only [hne, if_false] at h
  cases hs : enhanceGroupBy df gb with
  | error e => simp [hs] at h
  | ok s =>
    refine ⟨s, rfl, ?_⟩
    simp only [hs] at h
    injection h with h
    subst h
    simp only [List.getD, splitFrameAux_getElem? _ heights 0 p hp, Option.getD_some, pageOf_eq _ heights p hp,
      getCol_sliceFrame, Nat.zero_add]

/-! ## non-vacuity -/

deriving instance DecidableEq for Except

private def c (s : String) : Cell := some s.toList

/-- two levels with nulls, three pages (heights 2,3,1): every clause is exercised -/
example :
    restored
      [("g0".toList, [c "a", c "a", c "a", none, none, c "b"]),
       ("g1".toList, [c "x", c "x", none, none, c "x", c "x"]),
       ("v".toList,  [c "1", c "2", c "3", c "4", c "5", c "6"])]
      ["g0".toList, "g1".toList] [2, 3, 1]
    = .ok
      [("g0".toList, [c "a", none, c "a", none, none, c "b"]),
       ("g1".toList, [c "x", none, none, none, c "x", c "x"]),
       ("v".toList,  [c "1", c "2", c "3", c "4", c "5", c "6"])] := by decide

example :
    enhanceGroupBy [("g".toList, [c "a", c "b", c "a"])] ["g".toList] = .error .valueError := by decide

/-! ## legacy: the code before the repairs violates the property (machine-checked witnesses) -/

/-- D17: `g = [null, A, A, B, B]` — the first `A` follows a null, so it is **not** a repeat, yet the
unrepaired code blanks it (`"A" != null` is null, `when(null)` takes `otherwise`). -/
theorem C13_legacy_D17_null_then_value_blanked :
    let df : Frame := [("g".toList, [none, c "A", c "A", c "B", c "B"])]
    ∃ s, Legacy.enhanceGroupBy df ["g".toList] = .ok s ∧
      cellAt (getCol (restorePageContext s df ["g".toList] []) "g".toList) 1 = none ∧
      expectedCell [getCol df "g".toList] [] 0 1 = c "A" :=
  ⟨_, rfl, by decide, by decide⟩

/-- D17b (no nulls involved): `g0 = [a,a,b,b]`, `g1 = [x,x,x,x]` — row 2 has key `(b,x) ≠ (a,x)`, yet
the unrepaired code blanks its `g1` cell, because the parent comparison is made on the frame whose
`g0` column is already blanked (`b != null` is null). -/
theorem C13_legacy_D17b_parent_change_not_seen :
    let df : Frame := [("g0".toList, [c "a", c "a", c "b", c "b"]), ("g1".toList, [c "x", c "x", c "x", c "x"])]
    let gb := ["g0".toList, "g1".toList]
    ∃ s, Legacy.enhanceGroupBy df gb = .ok s ∧
      cellAt (getCol (restorePageContext s df gb []) "g1".toList) 2 = none ∧
      expectedCell (gb.map (getCol df)) [] 1 2 = c "x" :=
  ⟨_, rfl, by decide, by decide⟩

/-- validator, false acceptance: `(g,null), (g,"__NULL__"), (g,null)` is not contiguous, the
unrepaired validator accepts it (`fill_null("__NULL__")` collides with the literal text). -/
theorem C13_legacy_validator_accepts_noncontiguous :
    let df : Frame := [("g0".toList, [c "g", c "g", c "g"]), ("g1".toList, [none, c "__NULL__", none])]
    let gb := ["g0".toList, "g1".toList]
    Legacy.validateDataSorting df gb = .ok () ∧ contigB (keysAt df gb 1) = false :=
  ⟨by decide, by decide⟩

/-- validator, false rejection: `("a|b","c"), ("x","y"), ("a","b|c")` are three different keys, the
unrepaired validator raises (`"|"`-joined keys collide). -/
theorem C13_legacy_validator_rejects_contiguous :
    let df : Frame := [("g0".toList, [c "a|b", c "x", c "a"]), ("g1".toList, [c "c", c "y", c "b|c"])]
    let gb := ["g0".toList, "g1".toList]
    Legacy.validateDataSorting df gb = .error .valueError ∧
      contigB (keysAt df gb 0) = true ∧ contigB (keysAt df gb 1) = true :=
  ⟨by decide, by decide, by decide⟩

/-- What remains true of the text-key validator (the code before 36bfff8): on data whose group cells contain no `|` and are not the text `__NULL__` it raises
`ValueError` exactly for non-contiguous keys — the two witnesses above are the only kind of exception. -/
theorem C13_legacy_validator_partial (df : Frame) (wf : WF df) (gb : List Str) (hnd : gb.Nodup)
    (hsub : ∀ g ∈ gb, g ∈ names df) (hne : gb ≠ []) (hh : height df ≠ 0)
    (hsep : ∀ g ∈ gb, ∀ x ∈ getCol df g, SepFree x) :
    Legacy.validateDataSorting df gb = .error .valueError ↔
      ¬ ∀ l, l < gb.length → Contiguous (keysAt df gb l) := by
  rw [legacy_validate_eq df gb hsep, ← validate_ok_iff df wf gb hnd hsub hne hh]
  exact error_iff_not_ok _

end Props.C13
